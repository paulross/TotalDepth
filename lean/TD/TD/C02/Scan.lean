/-
C02 — the position scan on encoded files (`positions_encode`).
-/
import TD.C02.Lemmas

namespace TD.C02
open TD.C01

/-- first flags exactly at record starts -/
def seqOK : Bool → List TSeg → Prop
  | _, [] => True
  | nf, s :: ss => s.first = nf ∧ seqOK s.last ss

def PosSpec.toDesc (c : PosSpec) : PosDesc := ⟨c.vrPos, c.lrshPos, c.attr, c.type, (c.ldLen : Int)⟩

def nextCur (cur : Option PosSpec) (vr : VR) (h : LRSH) (s : TSeg) : PosSpec :=
  match cur with
  | some c => ⟨c.vrPos, c.lrshPos, c.attr, c.type, c.ldLen + (s.d.n + s.d.padBytes.length)⟩
  | none => ⟨vr.pos, h.pos, attrByte s.eflr s.first s.last s.d, s.type, 0 + (s.d.n + s.d.padBytes.length)⟩

theorem collectPos_cons (s : TSeg) (vr : VR) (h : LRSH) (rest : List (TSeg × SegPos)) (cur : Option PosSpec) :
    collectPos ((s, ⟨vr.pos, vr.len, h.pos⟩) :: rest) cur =
      if s.last then nextCur cur vr h s :: collectPos rest none else collectPos rest (some (nextCur cur vr h s)) := by
  cases cur <;> rfl

def stRel (st : ScanSt) (cur : Option PosSpec) : Prop :=
  match cur with
  | none => st = ⟨true, none, 0⟩
  | some c => ∃ vf hf, st = ⟨false, some (vf, hf), (c.ldLen : Int)⟩ ∧ vf.pos = c.vrPos ∧ hf.pos = c.lrshPos ∧
      hf.attr = c.attr ∧ hf.type = c.type ∧ lrPosCheck vf hf = .ok ()

theorem posStep_enc {b : Bytes} {h : LRSH} {s : TSeg} {ss : List TSeg} {vr : VR} {r : Nat} {st : ScanSt}
    {cur : Option PosSpec} (a : At b vr h r s ss) (hfirst : s.first = st.prevLast) (R : stRel st cur) :
    ∃ st', posStep st vr h = .ok (st', if s.last then some (nextCur cur vr h s).toDesc else none) ∧
      st'.prevLast = s.last ∧ stRel st' (if s.last then none else some (nextCur cur vr h s)) := by
  have hpc := a.posCheck
  have A := a.seg
  unfold posStep
  rw [isFirst_enc A.attr, isLast_enc A.attr, dataLen_enc A]
  cases cur with
  | none =>
    simp only [stRel] at R
    subst R
    simp only [] at hfirst
    simp only [hfirst, Bool.not_true, Bool.and_false, Bool.false_eq_true, if_false, if_true, hpc]
    cases hl : s.last
    · refine ⟨⟨false, some (vr, h), (0 : Int) + ((s.d.n + s.d.padBytes.length : Nat) : Int)⟩, rfl, rfl, ?_⟩
      simp only [Bool.false_eq_true, if_false, stRel, nextCur]
      exact ⟨vr, h, by simp, rfl, rfl, A.attr.trans (by rw [hfirst, hl]), A.type, hpc⟩
    · refine ⟨⟨true, none, 0⟩, ?_, rfl, by simp [stRel]⟩
      simp only [if_true, PosSpec.toDesc, nextCur, A.attr, A.type, hfirst, hl]
      simp
  | some c =>
    obtain ⟨vf, hf, rfl, h1, h2, h3, h4, h5⟩ := R
    simp only [] at hfirst
    simp only [hfirst, Bool.false_and, Bool.false_eq_true, if_false, h5]
    cases hl : s.last
    · refine ⟨⟨false, some (vf, hf), (c.ldLen : Int) + ((s.d.n + s.d.padBytes.length : Nat) : Int)⟩, rfl, rfl, ?_⟩
      simp only [Bool.false_eq_true, if_false, stRel, nextCur]
      exact ⟨vf, hf, by simp, h1, h2, h3, h4, h5⟩
    · refine ⟨⟨true, none, 0⟩, ?_, rfl, by simp [stRel]⟩
      simp only [if_true, PosSpec.toDesc, nextCur, h1, h2, h3, h4]
      simp

theorem drop_nil_of_le (b : Bytes) (p q : Nat) (h : b.drop p = []) (hq : p ≤ q) : b.drop q = [] := by
  rw [List.drop_eq_nil_iff] at h ⊢; omega

theorem scan_advance {b vr h r s s' ss vr' h' r'} (a : At b vr h r s (s' :: ss)) (a' : At b vr' h' r' s' ss)
    (hp : (vr'.pos, vr'.len, h'.pos) = segAt h.nextPos vr.pos vr.len s'.d) (hr : s'.d.vr.isSome = true ↔ r = 0) :
    (if h.nextPos = vr.nextPos then nextVR b vr else .ok (some (vr, h.nextPos))) = .ok (some (vr', h'.pos)) := by
  have rdV := a'.rdV
  unfold segAt at hp
  cases hv : s'.d.vr with
  | some L =>
    rw [hv] at hp hr
    simp only [Prod.mk.injEq] at hp
    have hc := a.hop.mpr (hr.mp rfl)
    rw [hp.1] at rdV
    rw [if_pos hc, nextVR, ← hc]
    simp only [rdV, hp.2.2, hp.1]
  | none =>
    rw [hv] at hp hr
    simp only [Prod.mk.injEq] at hp
    obtain ⟨vp', vl'⟩ := vr'
    simp only [] at hp
    rw [if_neg (fun hc => by simpa using hr.mpr (a.hop.mp hc)), hp.1, hp.2.1, hp.2.2]

theorem segTable_cons (pos vp vl : Nat) (s : TSeg) (ss : List TSeg) :
    segTable pos vp vl (s :: ss) = ⟨(segAt pos vp vl s.d).1, (segAt pos vp vl s.d).2.1, (segAt pos vp vl s.d).2.2⟩ ::
      segTable ((segAt pos vp vl s.d).2.2 + s.d.segLen) (segAt pos vp vl s.d).1 (segAt pos vp vl s.d).2.1 ss := by
  simp only [segTable, segAt]
  cases s.d.vr <;> rfl

theorem scanGo_flat (b : Bytes) :
    ∀ (ss : List TSeg) (s : TSeg) (fuel : Nat) (vr : VR) (h : LRSH) (st : ScanSt) (cur : Option PosSpec) (r : Nat),
      ss.length + 1 < fuel → At b vr h r s ss → seqOK st.prevLast (s :: ss) → stRel st cur →
      scanGo b fuel vr h.pos st =
        ((collectPos ((s, ⟨vr.pos, vr.len, h.pos⟩) :: ss.zip (segTable h.nextPos vr.pos vr.len ss)) cur).map
          PosSpec.toDesc, none) := by
  intro ss
  induction ss with
  | nil =>
    intro s fuel vr h st cur r hfuel a hseq R
    obtain ⟨f, rfl⟩ : ∃ f, fuel = f + 2 := ⟨fuel - 2, by simp at hfuel; omega⟩
    obtain ⟨st', hps, _, _⟩ := posStep_enc a hseq.1 R
    have hd : b.drop h.nextPos = [] := drop_next a.seg
    have hd2 : b.drop vr.nextPos = [] := by
      apply drop_nil_of_le b _ _ hd
      have := a.nextPos; have := a.p5
      unfold VR.nextPos; omega
    have hnv : nextVR b vr = .ok none := by unfold nextVR; rw [readVR_nil b _ hd2]
    rw [collectPos_cons]
    unfold scanGo
    simp only [a.rdH, hps, hnv]
    by_cases hc : h.nextPos = vr.nextPos
    · simp only [hc, if_true]
      cases s.last <;> rfl
    · simp only [hc, if_false]
      unfold scanGo
      simp only [readLRSH_nil b _ hd, hnv]
      cases s.last <;> rfl
  | cons s' ss ih =>
    intro s fuel vr h st cur r hfuel a hseq R
    obtain ⟨f, rfl⟩ : ∃ f, fuel = f + 1 := ⟨fuel - 1, by omega⟩
    obtain ⟨st', hps, hpl, R'⟩ := posStep_enc a hseq.1 R
    obtain ⟨vr', h', r', _, a', hp, _, hr⟩ := a.next
    have hfu : ss.length + 1 < f := by simp at hfuel; omega
    have hseq' : seqOK st'.prevLast (s' :: ss) := by rw [hpl]; exact hseq.2
    have key := ih s' f vr' h' st' (if s.last then none else some (nextCur cur vr h s)) r' hfu a' hseq' R'
    rw [collectPos_cons, segTable_cons, ← hp]
    unfold scanGo
    simp only [a.rdH, hps, scan_advance a a' hp hr, key, a'.nextPos]
    cases s.last <;> rfl

theorem seqOK_cutRec (rc : LR) (rest : List TSeg) (hrest : seqOK true rest) (ds : List SegDesc) :
    ∀ (d : SegDesc) (f : Bool) (data : Bytes), seqOK f (cutRec rc f (d :: ds) data ++ rest) := by
  induction ds with
  | nil => intro d f data; exact ⟨rfl, hrest⟩
  | cons d2 ds ih => intro d f data; exact ⟨rfl, ih d2 false _⟩

theorem seqOK_cutAll : ∀ (recs : List LR) (dss : List (List SegDesc)), recsOK recs dss = true →
    seqOK true (cutAll recs dss) :=
  recsOK_ind trivial fun rc _ d ds _ _ _ ih => seqOK_cutRec rc _ ih ds d true rc.payload

theorem iterPositionsSt_flat (sul : SULW) (segs : List TSeg) (hs : sul.conformant = true) (hne : segs ≠ [])
    (W : segsWF 0 true segs) (Q : seqOK true segs) :
    iterPositionsSt (encodeSUL sul ++ segs.flatMap TSeg.bytes)
      = ((collectPos (segs.zip (segTable 80 0 0 segs)) none).map PosSpec.toDesc, none) := by
  cases segs with
  | nil => exact absurd rfl hne
  | cons s ss =>
    obtain ⟨vr, h, r, a, hp, hh, e1, e2, e3⟩ := At.start sul s ss hs W
    have key := scanGo_flat _ ss s _ vr h ⟨true, none, 0⟩ none r (Nat.succ_lt_succ (Nat.lt_succ_of_lt a.fuel)) a Q rfl
    rw [hh] at key
    unfold iterPositionsSt
    rw [List.take_left' (encodeSUL_length sul hs), sulParse_enc sul hs, segTable_cons, ← hp, ← a.nextPos, hh]
    simp only [e1, e2, e3, Bool.not_true, Bool.false_eq_true, if_false, key, List.zip_cons_cons]

theorem iterPositionsSt_encode (sul : SULW) (recs : List LR) (ℓ : Layout) (hs : sul.conformant = true) (hne : recs ≠ [])
    (hc : ℓ.conformant recs = true) :
    iterPositionsSt (encode sul recs ℓ) = ((specPositionsS recs ℓ).map PosSpec.toDesc, none) := by
  have hc := Layout.conformant_elim hc
  unfold encode specPositionsS flatWithPos
  exact iterPositionsSt_flat sul _ hs (cutAll_ne_nil hc.1 hne) (segsWF_cutAll recs ℓ.recs hc.1 0 hc.2) (seqOK_cutAll recs ℓ.recs hc.1)

/-! ### entry k of the specification list is `recEntry` of record k -/

/-- flat segments paired with their positions, from the boundary `(pos, vp, vl)` on -/
abbrev withPos (pos vp vl : Nat) (X : List TSeg) : List (TSeg × SegPos) := X.zip (segTable pos vp vl X)

theorem withPos_cons (pos vp vl : Nat) (s : TSeg) (X : List TSeg) :
    withPos pos vp vl (s :: X) = (s, ⟨(segAt pos vp vl s.d).1, (segAt pos vp vl s.d).2.1, (segAt pos vp vl s.d).2.2⟩) ::
      withPos ((segAt pos vp vl s.d).2.2 + s.d.segLen) (segAt pos vp vl s.d).1 (segAt pos vp vl s.d).2.1 X := by
  unfold withPos
  rw [segTable_cons, List.zip_cons_cons]

theorem walkEnd_append : ∀ (A B : List TSeg) (pos vp vl : Nat), walkEnd pos vp vl (A ++ B) =
    walkEnd (walkEnd pos vp vl A).1 (walkEnd pos vp vl A).2.1 (walkEnd pos vp vl A).2.2 B
  | [], _, _, _, _ => rfl
  | x :: A, B, pos, vp, vl => by rw [List.cons_append, walkEnd_cons, walkEnd_cons, walkEnd_append A B]

theorem collectPos_cutRec (r : LR) (rest : List TSeg) (ds : List SegDesc) :
    ∀ (d : SegDesc) (f : Bool) (data : Bytes) (pos vp vl : Nat) (c : PosSpec),
      collectPos (withPos pos vp vl (cutRec r f (d :: ds) data ++ rest)) (some c) =
        ⟨c.vrPos, c.lrshPos, c.attr, c.type, c.ldLen + ((d :: ds).map (fun d => d.n + d.padBytes.length)).sum⟩ ::
          collectPos (withPos (walkEnd pos vp vl (cutRec r f (d :: ds) data)).1
            (walkEnd pos vp vl (cutRec r f (d :: ds) data)).2.1 (walkEnd pos vp vl (cutRec r f (d :: ds) data)).2.2 rest)
            none := by
  induction ds with
  | nil =>
    intro d f data pos vp vl c
    rw [cutRec, cutRec, List.cons_append, List.nil_append, withPos_cons, collectPos, walkEnd_cons]
    simp [walkEnd]
  | cons d2 ds ih =>
    intro d f data pos vp vl c
    rw [cutRec, List.cons_append, withPos_cons, collectPos, walkEnd_cons]
    simp only [List.isEmpty_cons, Bool.false_eq_true, if_false]
    rw [ih]
    simp only [List.map_cons, List.sum_cons, Nat.add_assoc]

theorem collectPos_cutRec_none (r : LR) (rest : List TSeg) (d : SegDesc) (ds : List SegDesc) (f : Bool) (data : Bytes)
    (pos vp vl : Nat) :
    collectPos (withPos pos vp vl (cutRec r f (d :: ds) data ++ rest)) none =
      ⟨(segAt pos vp vl d).1, (segAt pos vp vl d).2.2, attrByte r.eflr f ds.isEmpty d, r.type,
          0 + ((d :: ds).map (fun d => d.n + d.padBytes.length)).sum⟩ ::
        collectPos (withPos (walkEnd pos vp vl (cutRec r f (d :: ds) data)).1
          (walkEnd pos vp vl (cutRec r f (d :: ds) data)).2.1 (walkEnd pos vp vl (cutRec r f (d :: ds) data)).2.2 rest)
          none := by
  rw [← collectPos_cutRec r rest ds d f data pos vp vl
    ⟨(segAt pos vp vl d).1, (segAt pos vp vl d).2.2, attrByte r.eflr f ds.isEmpty d, r.type, 0⟩]
  rw [cutRec, List.cons_append, withPos_cons]
  simp only [collectPos]

theorem collectPos_cutAll : ∀ (recs : List LR) (dss : List (List SegDesc)), recsOK recs dss = true →
    ∀ (pos vp vl : Nat) (rest : List TSeg),
    ∃ E, E.length = recs.length ∧ collectPos (withPos pos vp vl (cutAll recs dss ++ rest)) none =
      E ++ collectPos (withPos (walkEnd pos vp vl (cutAll recs dss)).1 (walkEnd pos vp vl (cutAll recs dss)).2.1
        (walkEnd pos vp vl (cutAll recs dss)).2.2 rest) none :=
  recsOK_ind (fun _ _ _ _ => ⟨[], rfl, rfl⟩) fun rc rs d ds dss _ _ ih pos vp vl rest => by
    obtain ⟨E, hE, hEq⟩ := ih (walkEnd pos vp vl (cutRec rc true (d :: ds) rc.payload)).1
      (walkEnd pos vp vl (cutRec rc true (d :: ds) rc.payload)).2.1
      (walkEnd pos vp vl (cutRec rc true (d :: ds) rc.payload)).2.2 rest
    rw [cutAll, List.append_assoc, walkEnd_append, collectPos_cutRec_none, hEq]
    exact ⟨_ :: E, by rw [List.length_cons, hE, List.length_cons], rfl⟩

theorem positions_entry_flat (rpre rpost : List LR) (r : LR) (lpre lpost : List (List SegDesc)) (d : SegDesc)
    (ds : List SegDesc) (hlen : lpre.length = rpre.length)
    (hc : recsOK (rpre ++ r :: rpost) (lpre ++ (d :: ds) :: lpost) = true) :
    (specPositionsS (rpre ++ r :: rpost) ⟨lpre ++ (d :: ds) :: lpost⟩)[rpre.length]? =
      some ⟨(recEntry rpre lpre d).1, (recEntry rpre lpre d).2, attrByte r.eflr true ds.isEmpty d, r.type,
        0 + ((d :: ds).map (fun x => x.n + x.padBytes.length)).sum⟩ := by
  obtain ⟨hP, _⟩ := recsOK_append rpre lpre _ _ hlen hc
  obtain ⟨E, hE, hEq⟩ := collectPos_cutAll rpre lpre hP 80 0 0 (cutRec r true (d :: ds) r.payload ++ cutAll rpost lpost)
  unfold specPositionsS flatWithPos
  simp only []
  rw [cutAll_append rpre lpre r (d :: ds) rpost lpost hlen, hEq, List.getElem?_append_right (by omega), hE, Nat.sub_self,
    collectPos_cutRec_none, segAt_walkEnd]
  rfl

end TD.C02
