/-
C02 — the fetch: its loop against `absLoop` over the flat segments, what it returns and what it reads.
-/
import TD.C01.ObjLemmas
import TD.C02.Model
import TD.C02.Spec

namespace TD.C02
open TD.C01

/-! ### a fetch does not depend on the state the reader is in -/

theorem getLD_result_indep (b : Bytes) (vrPos lrshPos : Nat) (off len : Int) (st st' : RState) :
    (getLogicalDataSt b vrPos lrshPos off len st).1 = (getLogicalDataSt b vrPos lrshPos off len st').1 := by
  unfold getLogicalDataSt
  by_cases ho : off < 0
  · simp [ho]
  · simp only [ho, if_false]
    unfold vrRead
    simp only []
    cases hv : readVR b vrPos with
    | error e => rfl
    | ok vr =>
      simp only []
      unfold lrshRead
      simp only []
      cases hh : readLRSH b lrshPos with
      | error e => rfl
      | ok h => rfl

/-! ### the accumulate / slice loop -/

/-- one pass of the loop body for a segment whose stripped body is `data`; `rd` = the read it makes -/
def absRead (off len : Int) (all : Bool) (a : LoopSt) (data : Bytes) (rd : Nat × Nat) : LoopSt :=
  if all || (a.bytesRead : Int) ≠ len then
    if all then { a with out := a.out ++ data, touched := a.touched ++ [rd] }
    else
      let indexFrom : Int := max 0 (off - a.ldi)
      let indexTo : Int := if len ≥ 0 then indexFrom + (len - a.bytesRead) else data.length
      let sl := pySlice data indexFrom indexTo
      ⟨a.out ++ sl, a.bytesRead + sl.length, a.ldi + data.length, a.touched ++ [rd]⟩
  else a

/-- the header reads on arriving from the boundary `np` at a segment with descriptor `d` -/
def arrive (np : Nat) (d : SegDesc) : List (Nat × Nat) :=
  if d.vr.isSome = true then [(np, 4), (np + 4, 4)] else [(np, 4)]

/-- the loop over the flat segments of one record, positions tracked from the layout by `segAt` -/
def absLoop (off len : Int) (all : Bool) : VR → Nat → List TSeg → LoopSt → Option LoopSt
  | _, _, [], _ => none
  | vr, p, s :: ss, a =>
    let a' := absRead off len all a s.data (p + 4, s.d.n + s.d.padBytes.length)
    if s.last then some a'
    else
      match ss with
      | [] => none
      | s' :: _ =>
        let q := segAt (p + s.d.segLen) vr.pos vr.len s'.d
        absLoop off len all ⟨q.1, q.2.1⟩ q.2.2 ss { a' with touched := a'.touched ++ arrive (p + s.d.segLen) s'.d }

theorem getLoop_step (b : Bytes) (off len : Int) (all : Bool) (f : Nat) (st : RState) (a : LoopSt) (data : Bytes)
    (hcur : st.cur = st.h.pos + 4) (hrf : readFull b st.vr st.h = .ok data) :
    (getLoop b off len all (f + 1) st a).1 =
      (let a' := absRead off len all a data (st.h.pos + 4, (rawBody b st.h).length)
       if st.h.isLast then .ok a'
       else match seekNext b st.vr st.h with
         | .ok (vr', h') => (getLoop b off len all f ⟨h'.pos + 4, vr', h'⟩ { a' with touched := a'.touched ++ hdrReads st }).1
         | .error e => .error e) := by
  -- what follows the read depends on the state only through `vr` and `h`, which the read leaves alone
  have tail : ∀ (a' : LoopSt) (c : Nat),
      (if st.h.isLast then ((.ok a' : Except Err LoopSt), ({ st with cur := c } : RState))
       else match seekNextSt b { st with cur := c } with
         | (.error e, st'') => (.error e, st'')
         | (.ok (), st'') =>
           getLoop b off len all f st'' { a' with touched := a'.touched ++ hdrReads { st with cur := c } }).1
      = (if st.h.isLast then .ok a'
         else match seekNext b st.vr st.h with
           | .ok (vr', h') =>
             (getLoop b off len all f ⟨h'.pos + 4, vr', h'⟩ { a' with touched := a'.touched ++ hdrReads st }).1
           | .error e => .error e) := by
    intro a' c
    cases st.h.isLast
    · simp only [Bool.false_eq_true, if_false]
      unfold seekNextSt hdrReads
      simp only []
      cases seekNext b st.vr st.h with
      | error e => rfl
      | ok p => rfl
    · rfl
  conv => lhs; unfold getLoop
  unfold readFullSt absRead
  simp only [hcur, ne_eq, not_true_eq_false, if_false, hrf]
  by_cases hc : (all || decide (¬ (a.bytesRead : Int) = len)) = true
  · simp only [hc, if_true]
    cases all
    · exact tail _ _
    · exact tail _ _
  · simp only [hc, Bool.false_eq_true, if_false]
    exact tail a st.cur

theorem rawBody_length_enc {b h s tail} (A : AtSeg b h s tail) : (rawBody b h).length = s.d.n + s.d.padBytes.length := by
  rw [rawBody_enc A]; simp [A.dlen]

theorem getLoop_flat (b : Bytes) (off len : Int) (all : Bool) :
    ∀ (ss : List TSeg) (s : TSeg) (fuel : Nat) (st : RState) (a : LoopSt) (r : Nat) (res : LoopSt),
      ss.length < fuel → At b st.vr st.h r s ss → st.cur = st.h.pos + 4 →
      absLoop off len all st.vr st.h.pos (s :: ss) a = some res →
      (getLoop b off len all fuel st a).1 = .ok res := by
  intro ss
  induction ss with
  | nil =>
    intro s fuel st a r res hfuel A hcur habs
    obtain ⟨f, rfl⟩ : ∃ f, fuel = f + 1 := ⟨fuel - 1, by omega⟩
    rw [getLoop_step b off len all f st a s.data hcur (readFull_enc st.vr A.seg), isLast_enc A.seg.attr,
      rawBody_length_enc A.seg]
    simp only [absLoop] at habs
    cases hl : s.last
    · simp [hl] at habs
    · simp only [hl, if_true, Option.some.injEq] at habs
      simp [habs]
  | cons s' ss ih =>
    intro s fuel st a r res hfuel A hcur habs
    obtain ⟨f, rfl⟩ : ∃ f, fuel = f + 1 := ⟨fuel - 1, by simp at hfuel; omega⟩
    obtain ⟨vr', h', r', hs, A', hp, _, hhop⟩ := A.next
    have hfu : ss.length < f := by simp at hfuel; omega
    rw [getLoop_step b off len all f st a s.data hcur (readFull_enc st.vr A.seg), isLast_enc A.seg.attr,
      rawBody_length_enc A.seg]
    simp only [absLoop] at habs
    cases hl : s.last
    · simp only [hl, Bool.false_eq_true, if_false] at habs ⊢
      simp only [hs]
      have hh : hdrReads st = arrive st.h.nextPos s'.d := by unfold hdrReads arrive; simp only [A.hop, hhop]
      rw [hh]
      rw [← A.nextPos, ← hp] at habs
      exact ih s' f ⟨h'.pos + 4, vr', h'⟩ _ r' res hfu A' rfl habs
    · simp only [hl, if_true, Option.some.injEq] at habs
      simp [habs]

/-! ### what the loop accumulates -/

theorem pySlice_nat (l : Bytes) (i j : Nat) : pySlice l (i : Int) (j : Int) = (l.drop i).take (j - i) := by
  unfold pySlice
  simp only []
  have h1 : ¬ ((i : Int) < 0) := by omega
  have h2 : ¬ ((j : Int) < 0) := by omega
  simp only [h1, h2, if_false]
  by_cases hi : (i : Int) > (l.length : Int)
  · rw [List.drop_eq_nil_of_le (as := l) (i := i) (by omega)]
    simp only [hi, if_true, Int.toNat_natCast, List.drop_length, List.take_nil]
  · simp only [hi, if_false, Int.toNat_natCast]
    by_cases hj : (j : Int) > (l.length : Int)
    · simp only [hj, if_true]
      rw [List.take_of_length_le (by simp <;> omega), List.take_of_length_le (by simp <;> omega)]
    · simp only [hj, if_false]
      congr 1
      omega

/-- loop invariant after the segments whose data concatenate to `Q` -/
def InvL (off : Nat) (len : Int) (all : Bool) (Q : Bytes) (a : LoopSt) : Prop :=
  if all then a.out = Q
  else if len < 0 then a.out = Q.drop off ∧ a.ldi = Q.length
  else a.out = (Q.drop off).take len.toNat ∧ a.bytesRead = a.out.length ∧ (a.bytesRead = len.toNat ∨ a.ldi = Q.length)

theorem max0_sub (off q : Nat) : max (0 : Int) ((off : Int) - (q : Int)) = ((off - q : Nat) : Int) := by omega

theorem take_drop_append (Q data : Bytes) (off L : Nat) :
    ((Q ++ data).drop off).take L =
      (Q.drop off).take L ++ (data.drop (off - Q.length)).take (L - ((Q.drop off).take L).length) := by
  rw [List.drop_append, List.take_append, List.length_take]
  congr 2
  omega

theorem absRead_inv (off : Nat) (len : Int) (all : Bool) (Q : Bytes) (a : LoopSt) (data : Bytes) (rd : Nat × Nat)
    (h : InvL off len all Q a) : InvL off len all (Q ++ data) (absRead (off : Int) len all a data rd) := by
  unfold InvL at h ⊢
  unfold absRead
  cases all
  · simp only [Bool.false_eq_true, if_false, Bool.false_or, ne_eq, decide_eq_true_eq] at h ⊢
    by_cases hl : len < 0
    · simp only [hl, if_true] at h ⊢
      have hne : ¬ ((a.bytesRead : Int) = len) := by omega
      have hge : ¬ (len ≥ 0) := by omega
      simp only [hne, not_false_eq_true, if_true, hge, if_false, h.2, max0_sub, pySlice_nat]
      refine ⟨?_, by simp⟩
      rw [h.1, List.drop_append, List.take_of_length_le (by simp)]
    · simp only [hl, if_false] at h ⊢
      obtain ⟨ho, hb, hd⟩ := h
      obtain ⟨L, rfl⟩ : ∃ L : Nat, len = (L : Int) := ⟨len.toNat, by omega⟩
      simp only [Int.toNat_natCast] at ho hd ⊢
      by_cases hne : (a.bytesRead : Int) = (L : Int)
      · simp only [hne, not_true_eq_false, if_false]
        have hbl : a.bytesRead = L := by omega
        refine ⟨?_, hb, Or.inl hbl⟩
        have hlen : L ≤ (Q.drop off).length := by
          have : a.out.length = L := by omega
          rw [ho, List.length_take] at this; omega
        rw [ho, List.drop_append, List.take_append_of_le_length hlen]
      · simp only [hne, not_false_eq_true, if_true]
        have hq : a.ldi = Q.length := hd.resolve_left (fun h => hne (by rw [h]))
        have hle : a.bytesRead ≤ L := by rw [hb, ho]; exact List.length_take_le _ _
        simp only [Int.natCast_nonneg L, if_true, hq, max0_sub, ← Int.natCast_sub hle, ← Int.natCast_add]
        rw [pySlice_nat, Nat.add_sub_cancel_left]
        refine ⟨?_, by rw [List.length_append, hb], Or.inr (by rw [List.length_append])⟩
        rw [take_drop_append, ← ho, hb]
  · simp only [if_true, Bool.true_or] at h ⊢
    rw [h]

theorem absLoop_cutRec (off : Nat) (len : Int) (all : Bool) (r : LR) (post : List TSeg) (ds : List SegDesc) :
    ∀ (d : SegDesc) (f : Bool) (data : Bytes) (vr : VR) (p : Nat) (a : LoopSt) (Q : Bytes), InvL off len all Q a →
      ∃ res, absLoop (off : Int) len all vr p (cutRec r f (d :: ds) data ++ post) a = some res ∧
        InvL off len all (Q ++ data.take ((d :: ds).map (·.n)).sum) res := by
  induction ds with
  | nil =>
    intro d f data vr p a Q hI
    exact ⟨absRead (off : Int) len all a (data.take d.n) (p + 4, d.n + d.padBytes.length), by simp [cutRec, absLoop],
      by simpa using absRead_inv off len all Q a (data.take d.n) _ hI⟩
  | cons d2 ds ih =>
    intro d f data vr p a Q hI
    have h1 := absRead_inv off len all Q a (data.take d.n) (p + 4, d.n + d.padBytes.length) hI
    have h2 : ∀ t, InvL off len all (Q ++ data.take d.n)
        { absRead (off : Int) len all a (data.take d.n) (p + 4, d.n + d.padBytes.length) with touched := t } :=
      fun t => by unfold InvL at h1 ⊢; exact h1
    refine (ih d2 false (data.drop d.n) _ _ _ _ (h2 _)).imp fun res h => ⟨h.1, ?_⟩
    have := h.2
    rwa [List.append_assoc, ← List.take_add (i := d.n)] at this

theorem absLoop_out (off : Nat) (len : Int) (r : LR) (post : List TSeg) (d : SegDesc) (ds : List SegDesc) (f : Bool)
    (data : Bytes) (vr : VR) (p : Nat) (t0 : List (Nat × Nat)) :
    ∃ res, absLoop (off : Int) len ((off : Int) == 0 && decide (len < 0)) vr p (cutRec r f (d :: ds) data ++ post)
        ⟨[], 0, 0, t0⟩ = some res ∧ res.out = sliceSpec (data.take ((d :: ds).map (·.n)).sum) off len := by
  have hI : InvL off len ((off : Int) == 0 && decide (len < 0)) [] ⟨[], 0, 0, t0⟩ := by
    unfold InvL; simp
  refine (absLoop_cutRec off len _ r post ds d f data vr p _ [] hI).imp fun res h => ⟨h.1, ?_⟩
  have := h.2
  unfold InvL at this
  unfold sliceSpec
  simp only [List.nil_append] at this
  by_cases hall : ((off : Int) == 0 && decide (len < 0)) = true
  · simp only [hall, if_true] at this
    simp only [Bool.and_eq_true, beq_iff_eq, decide_eq_true_eq] at hall
    have : off = 0 := by omega
    simp [*]
  · simp only [hall, Bool.false_eq_true, if_false] at this
    by_cases hl : len < 0
    · simp only [hl, if_true] at this ⊢; exact this.1
    · simp only [hl, if_false] at this ⊢; exact this.1

/-! ### navigating to a segment of an encoded file -/

theorem walkEnd_cons (pos vp vl : Nat) (x : TSeg) (rest : List TSeg) :
    walkEnd pos vp vl (x :: rest) =
      walkEnd ((segAt pos vp vl x.d).2.2 + x.d.segLen) (segAt pos vp vl x.d).1 (segAt pos vp vl x.d).2.1 rest := by
  simp only [walkEnd, segAt]
  cases x.d.vr <;> rfl

theorem Walk.nav {b s post} : ∀ (pre : List TSeg) (pos vp vl r : Nat) (nf : Bool),
    Walk b pos vp vl r (pre ++ s :: post) nf →
    ∃ r' nf', Walk b (walkEnd pos vp vl pre).1 (walkEnd pos vp vl pre).2.1 (walkEnd pos vp vl pre).2.2 r' (s :: post) nf' := by
  intro pre
  induction pre with
  | nil => intro pos vp vl r nf w; exact ⟨r, nf, w⟩
  | cons x pre ih =>
    intro pos vp vl r nf w
    obtain ⟨vr, h, r1, a, hp, _, _⟩ := w.head
    have w1 := a.walk
    rw [walkEnd_cons, ← hp]
    rw [a.nextPos] at w1
    exact ih _ _ _ _ _ w1

theorem segAt_walkEnd (pre : List TSeg) (d : SegDesc) :
    segAt (walkEnd 80 0 0 pre).1 (walkEnd 80 0 0 pre).2.1 (walkEnd 80 0 0 pre).2.2 d =
      ((entryAfter pre d).1, entryVrLen pre d, (entryAfter pre d).2) := by
  unfold segAt entryAfter entryVrLen
  cases d.vr <;> rfl

/-! ### the record's segments inside the flat list -/

theorem cutAll_append : ∀ (rpre : List LR) (lpre : List (List SegDesc)) (r : LR) (ds : List SegDesc)
    (rpost : List LR) (lpost : List (List SegDesc)), lpre.length = rpre.length →
    cutAll (rpre ++ r :: rpost) (lpre ++ ds :: lpost) = cutAll rpre lpre ++ (cutRec r true ds r.payload ++ cutAll rpost lpost) := by
  intro rpre
  induction rpre with
  | nil => intro lpre r ds rpost lpost h; cases lpre <;> simp_all [cutAll]
  | cons x xs ih =>
    intro lpre r ds rpost lpost h
    cases lpre with
    | nil => simp at h
    | cons l ls =>
      simp only [List.cons_append, cutAll, List.append_assoc]
      rw [ih ls r ds rpost lpost (by simpa using h)]

theorem recsOK_append : ∀ (rpre : List LR) (lpre : List (List SegDesc)) (X : List LR) (Y : List (List SegDesc)),
    lpre.length = rpre.length → recsOK (rpre ++ X) (lpre ++ Y) = true → recsOK rpre lpre = true ∧ recsOK X Y = true := by
  intro rpre
  induction rpre with
  | nil => intro lpre X Y hl h; cases lpre with
    | nil => exact ⟨rfl, h⟩
    | cons _ _ => simp at hl
  | cons x xs ih =>
    intro lpre X Y hl h
    cases lpre with
    | nil => simp at hl
    | cons l ls =>
      simp only [List.cons_append, recsOK, Bool.and_eq_true] at h ⊢
      obtain ⟨h1, h2⟩ := ih ls X Y (by simpa using hl) h.2
      exact ⟨⟨h.1, h1⟩, h2⟩

/-! ### the reads of the loop stay inside the visible records of the record -/

/-- every read `(position, count)` of the list lies in `[lo, hi)` -/
def Within (lo hi : Nat) (ts : List (Nat × Nat)) : Prop := ∀ t ∈ ts, lo ≤ t.1 ∧ t.1 + t.2 ≤ hi

theorem Within.mono {lo lo' hi hi' ts} (h : Within lo hi ts) (h1 : lo' ≤ lo) (h2 : hi ≤ hi') : Within lo' hi' ts :=
  fun t ht => ⟨Nat.le_trans h1 (h t ht).1, Nat.le_trans (h t ht).2 h2⟩

theorem Within.append {lo hi ts us} (h1 : Within lo hi ts) (h2 : Within lo hi us) : Within lo hi (ts ++ us) :=
  fun t ht => (List.mem_append.mp ht).elim (h1 t) (h2 t)

theorem Within.cons {lo hi p n ts} (h1 : lo ≤ p) (h2 : p + n ≤ hi) (h : Within lo hi ts) : Within lo hi ((p, n) :: ts) :=
  fun t ht => (List.mem_cons.mp ht).elim (fun e => e ▸ ⟨h1, h2⟩) (h t)

theorem within_nil (lo hi : Nat) : Within lo hi [] := fun _ ht => nomatch ht

theorem absRead_within {lo hi} (off len : Int) (all : Bool) (a : LoopSt) (data : Bytes) (p n : Nat)
    (h : Within lo hi a.touched) (h1 : lo ≤ p) (h2 : p + n ≤ hi) : Within lo hi (absRead off len all a data (p, n)).touched := by
  unfold absRead
  split
  · split
    · exact h.append (.cons h1 h2 (within_nil _ _))
    · exact h.append (.cons h1 h2 (within_nil _ _))
  · exact h

theorem segLen_ge (d : SegDesc) : 4 + d.n + d.padBytes.length ≤ d.segLen := by
  unfold SegDesc.segLen; omega

theorem recEnd_cons (vp vl p : Nat) (s s' : TSeg) (ss : List TSeg) (hl : s.last = false) :
    recEnd (vp + vl) p (s :: s' :: ss) =
      recEnd ((segAt (p + s.d.segLen) vp vl s'.d).1 + (segAt (p + s.d.segLen) vp vl s'.d).2.1)
        (segAt (p + s.d.segLen) vp vl s'.d).2.2 (s' :: ss) := by
  simp only [recEnd, hl, segAt]
  cases s'.d.vr <;> rfl

theorem arrive_within {b vr h r s s' ss vr' h' r'} (a : At b vr h r s (s' :: ss)) (a' : At b vr' h' r' s' ss)
    (hp : (vr'.pos, vr'.len, h'.pos) = segAt h.nextPos vr.pos vr.len s'.d) (hr : s'.d.vr.isSome = true ↔ r = 0) :
    vr.pos ≤ vr'.pos ∧ vr.pos + vr.len ≤ vr'.pos + vr'.len ∧ Within vr'.pos (vr'.pos + vr'.len) (arrive h.nextPos s'.d) := by
  unfold segAt at hp
  unfold arrive
  cases hv : s'.d.vr with
  | some L =>
    rw [hv] at hp hr
    simp only [Prod.mk.injEq] at hp
    have := hr.mp rfl; have := a.nextPos; have := a.p2; have := a.p5; have := a'.p3
    have k : vr.pos ≤ vr'.pos ∧ vr.pos + vr.len ≤ vr'.pos + vr'.len ∧ vr'.pos ≤ h.nextPos ∧
        h.nextPos + 4 + 4 ≤ vr'.pos + vr'.len := by omega
    exact ⟨k.1, k.2.1, .cons k.2.2.1 (Nat.le_trans (Nat.le_add_right _ 4) k.2.2.2) (.cons (Nat.le_trans k.2.2.1
      (Nat.le_add_right _ 4)) k.2.2.2 (within_nil _ _))⟩
  | none =>
    rw [hv] at hp
    simp only [Prod.mk.injEq] at hp
    have := a'.p2; have := a'.p5; have := a'.h16
    have k : vr.pos ≤ vr'.pos ∧ vr.pos + vr.len ≤ vr'.pos + vr'.len ∧ vr'.pos ≤ h.nextPos ∧
        h.nextPos + 4 ≤ vr'.pos + vr'.len := by omega
    exact ⟨k.1, k.2.1, .cons k.2.2.1 k.2.2.2 (within_nil _ _)⟩

theorem absLoop_touched (b : Bytes) (off len : Int) (all : Bool) :
    ∀ (ss : List TSeg) (s : TSeg) (vr : VR) (h : LRSH) (a res : LoopSt) (r lo : Nat),
      At b vr h r s ss → lo ≤ vr.pos → Within lo (vr.pos + vr.len) a.touched →
      absLoop off len all vr h.pos (s :: ss) a = some res →
      Within lo (recEnd (vr.pos + vr.len) h.pos (s :: ss)) res.touched := by
  intro ss
  induction ss with
  | nil =>
    intro s vr h a res r lo A hlo ha habs
    have := segLen_ge s.d; have := A.p2; have := A.p5
    simp only [absLoop] at habs
    cases hl : s.last
    · simp [hl] at habs
    · simp only [hl, if_true, Option.some.injEq] at habs
      subst habs
      simp only [recEnd, hl, if_true]
      exact absRead_within _ _ _ _ _ _ _ ha (by omega) (by omega)
  | cons s' ss' ih =>
    intro s vr h a res r lo A hlo ha habs
    have := segLen_ge s.d; have := A.p2; have := A.p5
    have hrd := absRead_within off len all a s.data (h.pos + 4) (s.d.n + s.d.padBytes.length) ha (by omega) (by omega)
    simp only [absLoop] at habs
    cases hl : s.last
    · simp only [hl, Bool.false_eq_true, if_false] at habs
      obtain ⟨vr', h', r', _, A', hp, _, hr⟩ := A.next
      obtain ⟨g1, g2, g3⟩ := arrive_within A A' hp hr
      rw [recEnd_cons _ _ _ _ _ _ hl, ← A.nextPos, ← hp]
      rw [← A.nextPos, ← hp] at habs
      exact ih s' vr' h' _ res r' lo A' (Nat.le_trans hlo g1)
        ((hrd.mono (Nat.le_refl _) g2).append (g3.mono (Nat.le_trans hlo g1) (Nat.le_refl _))) habs
    · simp only [hl, if_true, Option.some.injEq] at habs
      subst habs
      simp only [recEnd, hl, if_true]
      exact hrd

/-! ### a fetch on an encoded file -/

theorem fetch_at {b vr h r s post} (a : At b vr h r s post) (off : Nat) (len : Int) (res : LoopSt)
    (hres : absLoop (off : Int) len ((off : Int) == 0 && decide (len < 0)) vr h.pos (s :: post)
      ⟨[], 0, 0, [(vr.pos, 4), (h.pos, 4)]⟩ = some res) :
    fetch b ⟨vr.pos, h.pos, off, len⟩ = .ok ⟨res.out, res.touched⟩ ∧
      Within vr.pos (recEnd (vr.pos + vr.len) h.pos (s :: post)) res.touched := by
  have := a.p2; have := a.p3; have := a.p5; have := a.h16
  refine ⟨?_, absLoop_touched b _ _ _ post s vr h _ res r _ a (Nat.le_refl _)
    (.cons (Nat.le_refl _) (by omega) (.cons (by omega) (by omega) (within_nil _ _))) hres⟩
  have hloop := getLoop_flat b (off : Int) len ((off : Int) == 0 && decide (len < 0)) post s (b.length + 1)
    ⟨h.pos + 4, vr, h⟩ _ r res a.fuel a rfl hres
  unfold fetch getLogicalDataSt vrRead lrshRead
  have hoff : ¬ ((off : Int) < 0) := by omega
  simp only [hoff, if_false, a.rdV, a.rdH, a.posCheck]
  revert hloop
  generalize getLoop b (off : Int) len ((off : Int) == 0 && decide (len < 0)) (b.length + 1) _ _ = g
  intro hloop
  obtain ⟨g1, g2⟩ := g
  simp only [] at hloop
  subst hloop
  rfl

theorem fetch_encode (sul : SULW) (rpre rpost : List LR) (r : LR) (lpre lpost : List (List SegDesc)) (d : SegDesc)
    (ds : List SegDesc) (hlen : lpre.length = rpre.length) (hs : sul.conformant = true)
    (hc : (Layout.mk (lpre ++ (d :: ds) :: lpost)).conformant (rpre ++ r :: rpost) = true) (off : Nat) (len : Int) :
    ∃ res : LoopSt, res.out = sliceSpec r.payload off len ∧
      fetch (encode sul (rpre ++ r :: rpost) ⟨lpre ++ (d :: ds) :: lpost⟩)
        ⟨(recEntry rpre lpre d).1, (recEntry rpre lpre d).2, off, len⟩ = .ok ⟨res.out, res.touched⟩ ∧
      Within (recEntry rpre lpre d).1
        (recEnd ((recEntry rpre lpre d).1 + entryVrLen (cutAll rpre lpre) d) (recEntry rpre lpre d).2
          (cutRec r true (d :: ds) r.payload ++ cutAll rpost lpost)) res.touched := by
  have hc := Layout.conformant_elim hc
  have hW := segsWF_cutAll _ _ hc.1 0 hc.2
  have hr := (recsOK_append rpre lpre _ _ hlen hc.1).2
  simp only [recsOK, Bool.and_eq_true] at hr
  unfold encode
  simp only []
  rw [cutAll_append rpre lpre r (d :: ds) rpost lpost hlen] at hW ⊢
  -- the reader arrives at the record's first segment where the specification puts the index entry
  obtain ⟨r1, nf1, w1⟩ := Walk.nav (cutAll rpre lpre) 80 0 0 0 true (Walk.start sul _ hs hW)
  obtain ⟨⟨vp, vl⟩, h, r', a, hp, _, _⟩ := w1.head
  simp only [segAt_walkEnd, Prod.mk.injEq] at hp
  obtain ⟨rfl, rfl, hpos⟩ := hp
  unfold recEntry
  rw [← hpos]
  obtain ⟨res, hres, hout⟩ := absLoop_out off len r (cutAll rpost lpost) d ds true r.payload
    ⟨(entryAfter (cutAll rpre lpre) d).1, entryVrLen (cutAll rpre lpre) d⟩ h.pos
    [((entryAfter (cutAll rpre lpre) d).1, 4), (h.pos, 4)]
  -- the cuts add up to the whole payload
  rw [(recOK_elim hr.1).1, List.take_length] at hout
  exact ⟨res, hout, fetch_at a off len res hres⟩

end TD.C02
