/-
C02 — the RP66V1 index gives random access identical to the sequential read.

Subject: the model `TD.C02` (Model.lean: `iterPositions`, `getLogicalDataSt`/`fetch`/`runHist`) of
`pFile.FileRead.iter_logical_record_positions` / `get_file_logical_data` / `pIndex.LogicalRecordIndex`, tied to the code
by the correspondence run of `harness/props/c02.py`.  Specification: the C01 encoder and layout conformance, the
positions that follow from the layout (`recEntry`, Spec.lean) and `sliceSpec`.
-/
import TD.C02.Lemmas
import TD.C02.Scan
import TD.C02.ObjLemmas
import TD.C01.Props

namespace TD.C02
open TD.C01

/-- **History independence.**  Whatever state earlier fetches (or anything else) left the reader object in — file
cursor, visible record and segment header objects — and for every sequence of fetches, the k-th result is the result
of that fetch alone.  (`runHist` threads the mutable reader state from fetch to fetch; `fetch` starts from a fresh
reader.)  Holds for every file, conformant or not, and for failing fetches too. -/
theorem get_stateless (b : Bytes) (st : RState) (hist : List Req) : runHist b st hist = hist.map (fetch b) :=
  hist_pure (run := runHist b) (out := fun st q => (getLogicalDataSt b q.vrPos q.lrshPos q.off q.len st).1)
    (next := fun st q => (getLogicalDataSt b q.vrPos q.lrshPos q.off q.len st).2) (fun _ => rfl) (fun _ _ _ => rfl)
    (fun st st' q => getLD_result_indep b q.vrPos q.lrshPos q.off q.len st st') default hist st

/-- **A fetch with (offset, length) returns exactly that slice of the record's payload** — for every record of every
conformant file (the record `r`, laid out by `d :: ds`, anywhere in the file: after any records `rpre`, before any
`rpost`), every `offset ≥ 0` and every `length` (`length < 0` ⇒ everything from `offset`), including ranges spanning
several segments and visible records and ranges beyond the end.  `recEntry` is the (visible record position, first
segment position) pair that follows from the layout (`positions_encode`: it is the index entry). -/
theorem get_slice (sul : SULW) (rpre rpost : List LR) (r : LR) (lpre lpost : List (List SegDesc)) (d : SegDesc)
    (ds : List SegDesc) (hlen : lpre.length = rpre.length) (hs : sul.conformant = true)
    (hc : (Layout.mk (lpre ++ (d :: ds) :: lpost)).conformant (rpre ++ r :: rpost) = true) (off : Nat) (len : Int) :
    (fetch (encode sul (rpre ++ r :: rpost) ⟨lpre ++ (d :: ds) :: lpost⟩)
        ⟨(recEntry rpre lpre d).1, (recEntry rpre lpre d).2, off, len⟩).map (·.out)
      = .ok (sliceSpec r.payload off len) := by
  obtain ⟨res, ho, hf, _⟩ := fetch_encode sul rpre rpost r lpre lpost d ds hlen hs hc off len
  rw [hf]
  simp only [Except.map, ho]

/-- **A fetch touches only the bytes of the visible records that hold the record**: every read `(position, count)`
made by the fetch lies between the start of the visible record holding the record's first segment and the end of the
visible record holding its last segment (these visible records are contiguous; `recEnd` follows the layout). -/
theorem touched_subset (sul : SULW) (rpre rpost : List LR) (r : LR) (lpre lpost : List (List SegDesc)) (d : SegDesc)
    (ds : List SegDesc) (hlen : lpre.length = rpre.length) (hs : sul.conformant = true)
    (hc : (Layout.mk (lpre ++ (d :: ds) :: lpost)).conformant (rpre ++ r :: rpost) = true) (off : Nat) (len : Int) :
    ∃ f, fetch (encode sul (rpre ++ r :: rpost) ⟨lpre ++ (d :: ds) :: lpost⟩)
        ⟨(recEntry rpre lpre d).1, (recEntry rpre lpre d).2, off, len⟩ = .ok f ∧
      ∀ t ∈ f.touched, (recEntry rpre lpre d).1 ≤ t.1 ∧
        t.1 + t.2 ≤ recEnd ((recEntry rpre lpre d).1 + entryVrLen (cutAll rpre lpre) d) (recEntry rpre lpre d).2
          (cutRec r true (d :: ds) r.payload ++ cutAll rpost lpost) := by
  obtain ⟨res, _, hf, ht⟩ := fetch_encode sul rpre rpost r lpre lpost d ds hlen hs hc off len
  exact ⟨_, hf, ht⟩

/-- **Fetching a whole record by its index entry gives exactly what the sequential read yields for it**: the payload
written (`iter_encode` of C01 says the sequential read yields the records written). -/
theorem get_full_eq_iter (sul : SULW) (rpre rpost : List LR) (r : LR) (lpre lpost : List (List SegDesc)) (d : SegDesc)
    (ds : List SegDesc) (hlen : lpre.length = rpre.length) (hs : sul.conformant = true)
    (hc : (Layout.mk (lpre ++ (d :: ds) :: lpost)).conformant (rpre ++ r :: rpost) = true) :
    (fetch (encode sul (rpre ++ r :: rpost) ⟨lpre ++ (d :: ds) :: lpost⟩)
        ⟨(recEntry rpre lpre d).1, (recEntry rpre lpre d).2, 0, -1⟩).map (·.out) = .ok r.payload
    ∧ iterLogicalRecords (encode sul (rpre ++ r :: rpost) ⟨lpre ++ (d :: ds) :: lpost⟩) = .ok (rpre ++ r :: rpost) := by
  refine ⟨?_, iter_encode sul _ _ hs (by simp) hc⟩
  have := get_slice sul rpre rpost r lpre lpost d ds hlen hs hc 0 (-1)
  simpa [sliceSpec] using this

/-- **The index has one entry per logical record with the record's true type, kind (attribute byte of its first
segment), file positions and body length**: the position scan of a conformant file (`LogicalRecordIndex._enter`)
yields exactly the entries that follow from the layout (`specPositionsS`: positions from `segTable`, grouped per record
by `collectPos`), and ends without error. -/
theorem positions_encode (sul : SULW) (recs : List LR) (ℓ : Layout) (hs : sul.conformant = true) (hne : recs ≠ [])
    (hc : ℓ.conformant recs = true) :
    iterPositions (encode sul recs ℓ) = .ok ((specPositionsS recs ℓ).map PosSpec.toDesc) := by
  unfold iterPositions
  rw [iterPositionsSt_encode sul recs ℓ hs hne hc]

/-- **One entry per record**: the specification list (hence, by `positions_encode`, the index) has exactly as many
entries as there are logical records. -/
theorem positions_count (recs : List LR) (ℓ : Layout) (hc : ℓ.conformant recs = true) :
    (specPositionsS recs ℓ).length = recs.length := by
  have hc := Layout.conformant_elim hc
  obtain ⟨E, hE, hEq⟩ := collectPos_cutAll recs ℓ.recs hc.1 80 0 0 []
  unfold specPositionsS flatWithPos
  simp only [List.append_nil, withPos, List.zip_nil_left, collectPos] at hEq
  rw [hEq, hE]

/-- **Entry k describes record k**: the entry at the index of record `r` carries the positions `recEntry` at which
`get_slice` / `touched_subset` fetch, the attribute byte of the record's first segment (kind = `r.eflr`, first, not
last unless it is the only segment, flags of `d`), the record's type and the summed body length of its segments.
With `positions_encode` this closes the chain index entry → fetch → payload slice. -/
theorem positions_entry (rpre rpost : List LR) (r : LR) (lpre lpost : List (List SegDesc)) (d : SegDesc)
    (ds : List SegDesc) (hlen : lpre.length = rpre.length)
    (hc : (Layout.mk (lpre ++ (d :: ds) :: lpost)).conformant (rpre ++ r :: rpost) = true) :
    (specPositionsS (rpre ++ r :: rpost) ⟨lpre ++ (d :: ds) :: lpost⟩)[rpre.length]? =
      some ⟨(recEntry rpre lpre d).1, (recEntry rpre lpre d).2, attrByte r.eflr true ds.isEmpty d, r.type,
        0 + ((d :: ds).map (fun x => x.n + x.padBytes.length)).sum⟩ := by
  have hc := Layout.conformant_elim hc
  exact positions_entry_flat rpre rpost r lpre lpost d ds hlen hc.1

example : (specPositionsS exRecs exLayout).map (fun c => (c.vrPos, c.lrshPos))
    = [recEntry [] [] ⟨10, 2, 0, none, false, false, false, some 40⟩,
       recEntry (exRecs.take 1) (exLayout.recs.take 1) ⟨3, 9, 0, none, false, false, false, none⟩,
       recEntry (exRecs.take 2) (exLayout.recs.take 2) ⟨0, 12, 1, none, false, false, false, some 36⟩,
       recEntry (exRecs.take 3) (exLayout.recs.take 3) ⟨12, 3, 0, none, false, true, true, none⟩] := by decide +kernel

example : iterPositionsSt (encode exSul exRecs exLayout)
    = ((specPositionsS exRecs exLayout).map fun c => ⟨c.vrPos, c.lrshPos, c.attr, c.type, (c.ldLen : Int)⟩, none) := by
  decide +kernel

example : (specPositionsS exRecs exLayout).map (fun c => (c.vrPos, c.lrshPos, c.type, c.ldLen))
    = [(80, 84, 0, 34), (120, 140, 5, 12), (156, 160, 127, 12), (156, 176, 3, 12)] := by decide +kernel

/-! ### the index OBJECT through histories of enter / fetch / exit / re-enter / pickle / re-scan, two objects on one file -/

/-- **Everything an index object answers is a function of the file bytes alone.**  For every file, every history of
operations on one or two `LogicalRecordIndex` objects sharing one file object (enter, exit, re-enter, fetches, pickle
round trip, re-scanning and sequential iteration on the same `FileRead`), whatever the cursor and the reader objects
held before and whatever a scan leaves in them (`k`): the outputs are those of the state-free run `runPure2`, in which
a fetch is `fetch b` on a fresh reader and the only memory is which entries list an object currently holds. -/
theorem obj_history_pure (k : Bytes → RState → RState) (b : Bytes) (ops : List (Bool × Op)) (cur : Nat) (sA sB : IdxSt) :
    runObj2 k b cur sA sB ops = runPure2 b (sA.entries, sA.entered) (sB.entries, sB.entered) ops := by
  induction ops generalizing cur sA sB with
  | nil => rfl
  | cons x xs ih =>
    obtain ⟨j, op⟩ := x
    cases j
    · have h := stepObj_pure k b { sA with rs := { sA.rs with cur := cur } } op
      rw [runObj2, runPure2, ih, h.1, ← h.2]
    · have h := stepObj_pure k b { sB with rs := { sB.rs with cur := cur } } op
      rw [runObj2, runPure2, ih, h.1, ← h.2]

/-- **Re-indexing gives the same list**: `_enter` leaves exactly the scan of the bytes in the index, whatever the
object held before (entries of an earlier enter, of an unpickled index, anything) — one entry per logical record, not
an accumulation. -/
theorem reindex_pure (k : Bytes → RState → RState) (b : Bytes) (st : IdxSt) (P : List PosDesc)
    (hP : iterPositions b = .ok P) :
    (stepObj k b st .enter).1 = .entered P ∧ (stepObj k b st .enter).2.entries = P := by
  unfold iterPositions at hP
  unfold stepObj
  cases h : iterPositionsSt b with
  | mk l e =>
    rw [h] at hP
    cases e with
    | none => simp only [Except.ok.injEq] at hP; subst hP; simp
    | some x => simp at hP

/-- The entries an object holds at any point of any history are either none or exactly the scan of the bytes. -/
theorem obj_entries_good (k : Bytes → RState → RState) (b : Bytes) (st : IdxSt) (op : Op)
    (h : GoodEntries b st.entries) : GoodEntries b (stepObj k b st op).2.entries := by
  have h1 := (stepObj_pure k b st op).2
  have h2 := stepPure_good b (st.entries, st.entered) op h
  rw [← h1] at h2
  exact h2

/-- **On a conformant file every enter in every history reports one entry per record**: the n-th output of any
history whose n-th operation is an enter (first enter, re-enter after exit, enter of an unpickled populated index,
enter of the second object) is the list that follows from the layout, of length `recs.length`. -/
theorem reindex_encode (k : Bytes → RState → RState) (sul : SULW) (recs : List LR) (ℓ : Layout)
    (hs : sul.conformant = true) (hne : recs ≠ []) (hc : ℓ.conformant recs = true)
    (ops : List (Bool × Op)) (cur : Nat) (sA sB : IdxSt) (n : Nat) (j : Bool) (hn : ops[n]? = some (j, .enter)) :
    (runObj2 k (encode sul recs ℓ) cur sA sB ops)[n]? = some (.entered ((specPositionsS recs ℓ).map PosSpec.toDesc))
    ∧ ((specPositionsS recs ℓ).map PosSpec.toDesc).length = recs.length := by
  refine ⟨?_, by rw [List.length_map, positions_count recs ℓ hc]⟩
  rw [obj_history_pure]
  exact runPure2_enter _ _ (iterPositionsSt_encode sul recs ℓ hs hne hc) ops _ _ n j hn

/-- **Several objects alive at once do not see each other.**  For any number of index / reader objects, each with
its own file object (the same bytes or different files), and every interleaving of their operations: the answers an
object gives are exactly those of the state-free run of ITS OWN operations on ITS OWN file — the operations of the other
objects are no-ops for it, wherever their fetches land.  (The model keeps the reader state per object, as the code does
with instance attributes; a lazily consumed generator's j-th item is the j-th element of the complete result —
`TD.C01.reader_history_pure` with `truncate` — so stepping it between other objects' fetches changes nothing.)  State
shared between objects (a class-level visible record, a module-level cache, a default-argument list) falsifies this
statement; the harness exercises it in the `multi` stream. -/
theorem multi_object_pure (k : Bytes → RState → RState) (files : Nat → Bytes) (sts : Nat → IdxSt)
    (ops : List (Nat × Op)) (i : Nat) :
    outsOf i (runObjN k files sts ops) = runPure1 (files i) ((sts i).entries, (sts i).entered) (opsOf i ops) := by
  induction ops generalizing sts with
  | nil => rfl
  | cons x xs ih =>
    obtain ⟨j, op⟩ := x
    by_cases hj : j = i
    · subst hj
      have h := stepObj_pure k (files j) (sts j) op
      simp only [runObjN, outsOf, opsOf, List.filterMap_cons, if_true, runPure1]
      rw [h.1]
      congr 1
      have := ih (updAt sts j (stepObj k (files j) (sts j) op).2)
      simp only [outsOf, opsOf, updAt, if_true] at this
      rw [this, ← h.2]
    · simp only [runObjN, outsOf, opsOf, List.filterMap_cons, hj, if_false]
      have := ih (updAt sts j (stepObj k (files j) (sts j) op).2)
      simp only [outsOf, opsOf, updAt] at this
      rw [this]
      have hij : ¬ i = j := fun h => hj h.symm
      simp [hij]

/-- three objects on two files, interleaved: each one's answers are those of its own history (kernel evaluation) -/
example : outsOf 1 (runObjN (fun _ rs => rs) (fun i => if i = 2 then encode exSul [⟨false, 9, [7, 7]⟩]
        ⟨[[⟨2, 10, 0, none, false, false, false, some 20⟩]]⟩ else encode exSul exRecs exLayout)
      (fun _ => ⟨[], default, false⟩)
      [(0, .enter), (1, .enter), (2, .enter), (0, .fetch 3 0 (-1)), (1, .fetch 1 0 (-1)), (2, .fetch 0 0 (-1)), (1, .iter)])
    = runPure1 (encode exSul exRecs exLayout) ([], false) [.enter, .fetch 1 0 (-1), .iter] := by decide +kernel

/-- enter, fetch, exit, re-enter, pickle, enter, fetch on the example file, second object interleaved: evaluated by
the kernel on the stateful model -/
example : (runObj2 (fun _ rs => rs) (encode exSul exRecs exLayout) 7 ⟨[], default, false⟩ ⟨[], default, false⟩
      [(false, .enter), (false, .fetch 1 0 (-1)), (false, .exit), (false, .fetch 0 0 (-1)), (false, .enter),
       (true, .enter), (false, .pickle), (false, .enter), (true, .fetch 3 2 5), (false, .fetch 3 2 5)]).map
      (fun o => match o with
        | .entered l => (l.length, [])
        | .fetched f => (0, f.out)
        | .error _ => (999, [])
        | _ => (0, []))
    = [(4, []), (0, [1, 2, 3]), (0, []), (999, []), (4, []), (4, []), (0, []), (4, []), (0, [255, 255, 255, 255, 255]),
       (0, [255, 255, 255, 255, 255])] := by decide +kernel

/-! ### the hypotheses are satisfiable, and the theorems bite on a concrete multi-segment record -/

/-- record 0 of the example (30 bytes in 3 segments over 2 visible records): entry (80, 84) -/
example : recEntry [] [] ⟨10, 2, 0, none, false, false, false, some 40⟩ = (80, 84) := by decide
example : (Layout.mk ([] ++ exLayout.recs)).conformant ([] ++ exRecs) = true := by decide
/-- a slice spanning all three segments, evaluated by the kernel on the model -/
example : (fetch (encode exSul exRecs exLayout) ⟨80, 84, 7, 20⟩).toOption.map (·.out) = some ((List.range 30).drop 7 |>.take 20) := by
  decide +kernel
/-- beyond the end / negative length -/
example : (fetch (encode exSul exRecs exLayout) ⟨80, 84, 25, 100⟩).toOption.map (·.out) = some [25, 26, 27, 28, 29] := by
  decide +kernel
example : (fetch (encode exSul exRecs exLayout) ⟨80, 84, 28, -1⟩).toOption.map (·.out) = some [28, 29] := by decide +kernel
/-- its reads stay inside visible records 1 and 2 (bytes 80 … 156) -/
example : (fetch (encode exSul exRecs exLayout) ⟨80, 84, 0, -1⟩).toOption.map (·.touched)
    = some [(80, 4), (84, 4), (88, 12), (100, 4), (104, 12), (120, 4), (124, 4), (128, 10)] := by decide +kernel
/-- a history with repetitions in any order equals the independent fetches -/
example : (runHist (encode exSul exRecs exLayout) ⟨999, ⟨1, 2⟩, ⟨3, 4, 5, 6⟩⟩
      [⟨156, 176, 0, -1⟩, ⟨80, 84, 3, 4⟩, ⟨156, 176, 0, -1⟩]).map Except.toOption
    = ([⟨156, 176, 0, -1⟩, ⟨80, 84, 3, 4⟩, ⟨156, 176, 0, -1⟩].map (fetch (encode exSul exRecs exLayout))).map Except.toOption := by
  decide +kernel

end TD.C02
