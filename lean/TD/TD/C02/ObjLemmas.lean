/-
C02 — object-level histories are a function of the file bytes alone.
-/
import TD.C02.ObjModel
import TD.C02.Lemmas

namespace TD.C02
open TD.C01

theorem stepObj_pure (k : Bytes → RState → RState) (b : Bytes) (st : IdxSt) (op : Op) :
    (stepObj k b st op).1 = (stepPure b (st.entries, st.entered) op).1 ∧
    ((stepObj k b st op).2.entries, (stepObj k b st op).2.entered) = (stepPure b (st.entries, st.entered) op).2 := by
  cases op with
  | enter =>
    simp only [stepObj, stepPure]
    cases h : iterPositionsSt b with
    | mk l e => cases e <;> simp
  | exit => simp [stepObj, stepPure]
  | fetch i off len =>
    simp only [stepObj, stepPure]
    cases hi : st.entries[i]? with
    | none => simp
    | some p =>
      simp only []
      cases he : st.entered
      · simp [he]
      · simp only [Bool.not_true, Bool.false_eq_true, if_false]
        have hind := getLD_result_indep b p.vrPos p.lrshPos off len st.rs default
        unfold fetch
        simp only []
        rw [← hind]
        cases hg : getLogicalDataSt b p.vrPos p.lrshPos off len st.rs with
        | mk r rs' => cases r <;> simp
  | rescan =>
    simp only [stepObj, stepPure]
    cases he : st.entered <;> simp [he]
  | iter =>
    simp only [stepObj, stepPure]
    cases he : st.entered <;> simp [he]
  | pickle => simp [stepObj, stepPure]

/-- the entries an index object can hold: none, or exactly the scan of the bytes -/
def GoodEntries (b : Bytes) (e : List PosDesc) : Prop := e = [] ∨ ((iterPositionsSt b).2 = none ∧ e = (iterPositionsSt b).1)

theorem stepPure_good (b : Bytes) (e : List PosDesc × Bool) (op : Op) (h : GoodEntries b e.1) :
    GoodEntries b (stepPure b e op).2.1 := by
  cases op with
  | enter =>
    simp only [stepPure]
    cases hs : iterPositionsSt b with
    | mk l er =>
      cases er with
      | none => right; simp [hs]
      | some x => simpa [hs] using h
  | exit => left; rfl
  | fetch i off len =>
    simp only [stepPure]
    cases e.1[i]? with
    | none => exact h
    | some p =>
      simp only []
      cases e.2
      · exact h
      · simp only [Bool.not_true, Bool.false_eq_true, if_false]
        cases fetch b ⟨p.vrPos, p.lrshPos, off, len⟩ <;> exact h
  | rescan => simp only [stepPure]; cases e.2 <;> exact h
  | iter => simp only [stepPure]; cases e.2 <;> exact h
  | pickle => exact h

theorem runPure2_enter (b : Bytes) (P : List PosDesc) (hP : iterPositionsSt b = (P, none)) :
    ∀ (ops : List (Bool × Op)) (eA eB : List PosDesc × Bool) (n : Nat) (j : Bool),
      ops[n]? = some (j, .enter) → (runPure2 b eA eB ops)[n]? = some (.entered P) := by
  intro ops
  induction ops with
  | nil => intro eA eB n j h; simp at h
  | cons x xs ih =>
    intro eA eB n j h
    obtain ⟨jx, op⟩ := x
    cases n with
    | zero =>
      simp only [List.getElem?_cons_zero, Option.some.injEq, Prod.mk.injEq] at h
      obtain ⟨rfl, rfl⟩ := h
      cases jx <;> simp [runPure2, stepPure, hP]
    | succ m =>
      simp only [List.getElem?_cons_succ] at h
      cases jx <;> simp only [runPure2, List.getElem?_cons_succ] <;> exact ih _ _ m j h

end TD.C02
