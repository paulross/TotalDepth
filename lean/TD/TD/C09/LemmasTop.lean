import TD.C09.LemmasFile

/-! The first line of the file; what the `~A` line finds in the sections read. -/
namespace TD.C09

theorem feed_head_V (lay : SectLay) (rest : Str) :
    feed St.init (printHead 'V' lay ++ rest) = feed ⟨[], none, none, .sect 'V' true []⟩ rest := by
  rw [feed_headline _ 'V' lay rest (by decide)]
  show thenFeed (topLevel St.init (strip _)) rest = _
  rw [strip_head _ 'V' _ (spaces_isSpace _) (by decide), topLevel_V]
  rfl

theorem distinctChars_nodup (l : List Char) (h : distinctChars l = true) : l.Nodup := by
  induction l with
  | nil => exact List.nodup_nil
  | cons a l ih =>
    simp only [distinctChars, Bool.and_eq_true, Bool.not_eq_true', List.contains_eq_mem, decide_eq_false_iff_not] at h
    exact List.nodup_cons.2 ⟨h.1, ih h.2⟩

theorem hasDupKey_text (l : List Str) (h : distinctStrs l = true) : hasDupKey (l.map Value.text) = false := by
  induction l with
  | nil => rfl
  | cons a l ih =>
    simp only [distinctStrs, Bool.and_eq_true, Bool.not_eq_true', List.contains_eq_mem, decide_eq_false_iff_not] at h
    simp only [List.map_cons, hasDupKey, ih h.2, Bool.or_false]
    rw [List.any_eq_false]
    intro v hv
    obtain ⟨b, hb, rfl⟩ := List.mem_map.1 hv
    simp only [pyEq, asNum, beq_iff_eq, Value.text.injEq]
    intro hab; subst hab; exact h.1 hb

theorem find_sect (c : LasContent) (t : Char) (ht : t ≠ 'V') :
    ((c.sects.map expectSect).reverse ++ [vSection c]).reverse.find? (fun s => s.typ == t) =
      (c.sects.find? (fun s => s.typ == t)).map expectSect := by
  have h1 : (fun s => s.typ == t) ∘ expectSect = fun (s : CSect) => s.typ == t := by
    funext s; simp only [Function.comp, expectSect_eq]
  have hv : (('V' : Char) == t) = false := by rw [beq_eq_false_iff_ne]; exact fun h => ht h.symm
  simp only [List.reverse_append, List.reverse_reverse, List.reverse_cons, List.reverse_nil, List.nil_append,
    List.cons_append, List.find?_cons, vSection, hv, List.find?_map, h1]

theorem find_hdr (ss : List CSect) (hs : ∀ s ∈ ss, wfSect s = true) (t : Char) (ht : t = 'W' ∨ t = 'C') (s : CSect)
    (hf : ss.find? (fun s => s.typ == t) = some s) : ∃ lines, s = .hdr t lines := by
  have hw := hs s (List.mem_of_find?_eq_some hf)
  have htyp := List.find?_some hf
  cases s with
  | hdr t' lines =>
    simp only [CSect.typ, beq_iff_eq] at htyp
    exact ⟨lines, by rw [htyp]⟩
  | txt t' lines =>
    simp only [CSect.typ, beq_iff_eq] at htyp
    simp only [wfSect, Bool.and_eq_true, Bool.not_eq_true'] at hw
    obtain ⟨_, h2, h3, _, _⟩ := ne_reservedLetters t' hw.1.1
    rw [htyp] at h2 h3
    rcases ht with h | h
    · exact absurd h h2
    · exact absurd h h3

/-- the curve section is found and it is a header section -/
theorem find_curve (c : LasContent) (hs : ∀ s ∈ c.sects, wfSect s = true)
    (hC : (c.sects.map CSect.typ).contains 'C' = true) :
    c.sects.find? (fun s => s.typ == 'C') = some (.hdr 'C' (curvesOf c)) := by
  cases hf : c.sects.find? (fun s => s.typ == 'C') with
  | none =>
    rw [List.find?_eq_none] at hf
    simp only [List.contains_eq_mem, List.mem_map, decide_eq_true_eq] at hC
    obtain ⟨s, hs1, hs2⟩ := hC
    exact absurd (beq_iff_eq.2 hs2) (hf s hs1)
  | some s =>
    obtain ⟨lines, rfl⟩ := find_hdr c.sects hs 'C' (Or.inr rfl) s hf
    simp only [curvesOf, hf]

theorem curveNames_hdr (t : Char) (lines : List HLine) :
    curveNames (expectSect (.hdr t lines)) = lines.map (fun h => ((.text h.mnem : Value), (.text h.unit : Value))) := by
  simp only [curveNames, expectSect]
  induction lines with
  | nil => rfl
  | cons h hs ih =>
    simp only [List.map_cons, List.filterMap_cons]
    rw [ih]; rfl

theorem firstCurve_eq (c : LasContent) (w : Option Value)
    (hcur : c.sects.find? (fun s => s.typ == 'C') = some (.hdr 'C' (curvesOf c))) :
    firstCurve ⟨(c.sects.map expectSect).reverse ++ [vSection c], w, none, .top⟩ =
      some (expectSect (.hdr 'C' (curvesOf c))) := by
  unfold firstCurve
  rw [find_sect c 'C' (by decide), hcur]
  rfl

theorem isDateTime_names (lines : List HLine)
    (h : (lines.any (fun h => (h.mnem == "DATE".toList && h.unit == "D".toList) ||
                              (h.mnem == "TIME".toList && h.unit == "HHMMSS".toList))) = false) :
    (lines.map (fun h => ((.text h.mnem : Value), (.text h.unit : Value)))).any isDateTime = false := by
  rw [List.any_eq_false] at h ⊢
  intro n hn
  obtain ⟨x, hx, rfl⟩ := List.mem_map.1 hn
  have := h x hx
  simp only [isDateTime, beq_iff_eq, Value.text.injEq, Bool.or_eq_true, Bool.and_eq_true] at this ⊢
  exact this

theorem text_beq (a b : Str) : ((Value.text a) == (Value.text b)) = (a == b) := by
  by_cases h : a = b
  · subst h; simp
  · have h1 : (a == b) = false := by rw [beq_eq_false_iff_ne]; exact h
    have h2 : (Value.text a == Value.text b) = false := by
      rw [beq_eq_false_iff_ne]; intro hh; injection hh with hh; exact h hh
    rw [h1, h2]

/-- the null value handed to the array section is the one the content declares -/
theorem nullOf_eq (c : LasContent) (w : Option Value) (hs : ∀ s ∈ c.sects, wfSect s = true) :
    nullOf ⟨(c.sects.map expectSect).reverse ++ [vSection c], w, none, .top⟩ = declaredNull c := by
  have h2 : (fun m => memberMnem m == some (.text "NULL".toList)) ∘ (fun h => Member.line (expectLine h)) =
      fun (h : HLine) => h.mnem == "NULL".toList := by
    funext h; simp only [Function.comp, memberMnem, expectLine]
    simp [text_beq]
  unfold nullOf declaredNull
  rw [find_sect c 'W' (by decide)]
  cases hf : c.sects.find? (fun s => s.typ == 'W') with
  | none => rfl
  | some s =>
    obtain ⟨lines, rfl⟩ := find_hdr c.sects hs 'W' (Or.inl rfl) s hf
    simp only [Option.map_some, expectSect, List.find?_map, h2]
    cases hl : lines.find? (fun h => h.mnem == "NULL".toList) with
    | none => rfl
    | some h =>
      simp only [Option.map_some, expectLine]
      cases h.value <;> rfl

theorem openA_content (c : LasContent) (wv : Value) (hs : ∀ s ∈ c.sects, wfSect s = true)
    (hC : (c.sects.map CSect.typ).contains 'C' = true) (hmn : distinctStrs ((curvesOf c).map (·.mnem)) = true)
    (hdt : ((curvesOf c).any (fun h => (h.mnem == "DATE".toList && h.unit == "D".toList) ||
                                       (h.mnem == "TIME".toList && h.unit == "HHMMSS".toList))) = false) :
    openA ⟨(c.sects.map expectSect).reverse ++ [vSection c], some wv, none, .top⟩ =
      .ok ⟨(c.sects.map expectSect).reverse ++ [vSection c], some wv, none,
        .arr ⟨truthy wv, declaredNull c, (curvesOf c).map (fun h => ((.text h.mnem : Value), (.text h.unit : Value))), [], []⟩⟩ := by
  unfold openA
  rw [firstCurve_eq c _ (find_curve c hs hC)]
  simp only [curveNames_hdr, List.map_map]
  have h1 : ((fun (x : Value × Value) => x.1) ∘ fun (h : HLine) => ((.text h.mnem : Value), (.text h.unit : Value))) =
      Value.text ∘ (fun h => h.mnem) := by funext h; rfl
  rw [h1, ← List.map_map, hasDupKey_text _ hmn, isDateTime_names _ hdt, nullOf_eq c _ hs]
  simp

end TD.C09
