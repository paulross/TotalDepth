import TD.C09.LemmasTop
import TD.C09.LemmasEnd

/-!
# C09 — LAS files parse to their content, independent of layout

Property theorems, and `feed_print` from which the round trip follows.  `TD.C09.Model` transcribes `TotalDepth/LAS/core/LASRead.py` (tied to the source by the
correspondence run of `./check C09`); `TD.C09.Spec` is the independent content model, the layout-parametric printer and
the decidable well-formedness predicate `wfContent`.
-/
namespace TD.C09

/-- the state of the reader after the whole printed text: every section closed in order, all rows collected -/
theorem feed_print (c : LasContent) (l : LasLayout) (hwf : wfContent c = true) :
    ∃ wv, checkV (vSection c).members = some wv ∧
      feed St.init (print c l) = .ok ⟨(c.sects.map expectSect).reverse ++ [vSection c], some wv, none,
        .arr ⟨wrapOf c, declaredNull c, (curvesOf c).map (fun h => ((.text h.mnem : Value), (.text h.unit : Value))),
              (rowToks c.frames l.rows).reverse, []⟩⟩ := by
  simp only [wfContent, Bool.and_eq_true, List.all_eq_true, Bool.not_eq_true', Bool.or_eq_true,
    beq_iff_eq] at hwf
  obtain ⟨⟨⟨⟨⟨⟨⟨⟨⟨hv, hcv⟩, hs⟩, hdist⟩, hC⟩, hmn⟩, hdt⟩, hfr⟩, hne⟩, hdx⟩ := hwf
  obtain ⟨wv, hwv⟩ := Option.isSome_iff_exists.1 hcv
  refine ⟨wv, hwv, ?_⟩
  have hwrap : wrapOf c = truthy wv := by simp only [wrapOf, hwv]
  let ms0 : List Member := (c.v.map (fun h => Member.line (expectLine h))).reverse
  have hms0 : ms0.reverse = (vSection c).members := by simp [ms0, vSection]
  have hclose : finaliseSect ⟨[], none, none, .sect 'V' true ms0⟩ 'V' ms0 =
      .ok ⟨[⟨'V', ms0.reverse⟩], some wv, none, .top⟩ := by
    simp [finaliseSect, St.hasType, hms0, hwv]
  -- version section, then every other section, then the `~A` head
  unfold print
  simp only [printSect, List.append_assoc]
  rw [feed_head_V, feed_hlines [] none none c.v l.v.lines 'V' [] _ hv, List.append_nil,
    feed_sections c.sects l.a _ l.sects [] none (some wv) 'V' true ms0 hclose (by simp) hs
      (List.nodup_append.2 ⟨distinctChars_nodup _ hdist, List.pairwise_singleton _ _, fun a ha b hb => by
        obtain ⟨s, hs', rfl⟩ := List.mem_map.1 ha
        rw [List.mem_singleton.1 hb]; exact (wfSect_facts (hs s hs')).2.1⟩)]
  -- the array section is opened on the curve section
  have hsec : (⟨'V', ms0.reverse⟩ : Section) = vSection c := by rw [hms0]; rfl
  rw [hsec]
  rw [openA_content c wv hs hC hmn hdt, ← hwrap]
  -- the rows
  have hrows : ∀ row ∈ c.frames, row ≠ [] ∧
      row.length = ((curvesOf c).map (fun h => ((.text h.mnem : Value), (.text h.unit : Value)))).length ∧
      ∀ d ∈ row, wfCell d = true := by
    intro row hr
    refine ⟨?_, by rw [List.length_map]; exact (hfr row hr).1, (hfr row hr).2⟩
    intro h0
    rcases hne with h | h
    · rw [List.isEmpty_iff] at h; rw [h] at hr; cases hr
    · have := (hfr row hr).1
      rw [h0] at this
      have h3 : curvesOf c = [] := List.eq_nil_of_length_eq_zero this.symm
      rw [h3] at h; simp at h
  show feed _ (printRows (wrapOf c) c.frames l.rows ++ printJunk l.tail) = _
  rw [feed_rows _ _ _ _ (wrapOf c) c.frames _ l.rows [] hrows, List.append_nil, ← List.append_nil (printJunk l.tail),
    feed_junk]
  rfl

/-- **parse ∘ print = id** — for every well-formed content and EVERY layout (padding, comment and blank lines
anywhere, blank/TAB separators, number styles, wrapped or not as the content's WRAP line says, any number of curves
≥ 1 in either mode) the reader returns
exactly the content: every section line (mnemonic, unit, typed value, description), the channels in curve order and
every data value, with tokens that are not numbers replaced by the null value the file declares. -/
theorem parse_print (c : LasContent) (l : LasLayout) (hwf : wfContent c = true) :
    parse (print c l) = .ok (toFile c) := by
  obtain ⟨wv, _, hfeed⟩ := feed_print c l hwf
  simp only [wfContent, Bool.and_eq_true, List.all_eq_true, Bool.not_eq_true', Bool.or_eq_true,
    beq_iff_eq] at hwf
  obtain ⟨⟨⟨⟨⟨⟨⟨⟨⟨hv, hcv⟩, hs⟩, hdist⟩, hC⟩, hmn⟩, hdt⟩, hfr⟩, hne⟩, hdx⟩ := hwf
  have hrows : ∀ row ∈ c.frames, row.length = ((curvesOf c).map (fun h => ((.text h.mnem : Value), (.text h.unit : Value)))).length ∧
      ∀ d ∈ row, wfCell d = true := by
    intro row hr; rw [List.length_map]; exact hfr row hr
  unfold parse
  have : run St.init (genLines (print c l)) = feed St.init (print c l) := rfl
  rw [this, hfeed]
  simp only [finish]
  rw [finaliseArr_rows _ _ _ c.frames l.rows hrows hdx]
  simp [toFile]

/-- **layout independence**: two layouts of the same content read identically. -/
theorem layout_independent (c : LasContent) (l₁ l₂ : LasLayout) (hwf : wfContent c = true) :
    parse (print c l₁) = parse (print c l₂) := by
  rw [parse_print c l₁ hwf, parse_print c l₂ hwf]

/-- **wrapped = unwrapped**: two contents with the same sections and frames (their version sections may differ, in
particular WRAP YES against WRAP NO, so one is printed wrapped and the other one frame per line), under any two layouts,
give the same frame array and the same sections after the version section. -/
theorem wrap_unwrap_equal (c₁ c₂ : LasContent) (l₁ l₂ : LasLayout) (h₁ : wfContent c₁ = true) (h₂ : wfContent c₂ = true)
    (hs : c₁.sects = c₂.sects) (hf : c₁.frames = c₂.frames) :
    ∃ f₁ f₂, parse (print c₁ l₁) = .ok f₁ ∧ parse (print c₂ l₂) = .ok f₂ ∧
      f₁.array = f₂.array ∧ f₁.sections.tail = f₂.sections.tail := by
  refine ⟨toFile c₁, toFile c₂, parse_print c₁ l₁ h₁, parse_print c₂ l₂ h₂, ?_, ?_⟩
  · simp only [toFile, curvesOf, declaredNull, hs, hf]
  · simp only [toFile, List.tail_cons, hs]

/-- **null substitution**: in the array returned for a printed content, the null value is the one the well section
declares (`NULL` line with an int or float value; -999.25 when there is none), a cell holds the number written, and the
null marker (stored by the reader as that declared value) exactly where the token written is not a number. -/
theorem bad_value_becomes_null (c : LasContent) (l : LasLayout) (hwf : wfContent c = true) :
    ∃ f a, parse (print c l) = .ok f ∧ f.array = some a ∧ a.null = declaredNull c ∧
      a.frames = c.frames.map (fun row => row.map (fun d => match d with
        | .num m e => Cell.num m e
        | .bad _ => Cell.null
        | .lit _ m e => Cell.num m e)) := by
  refine ⟨toFile c, _, parse_print c l hwf, rfl, rfl, ?_⟩
  apply List.map_congr_left; intro row _
  apply List.map_congr_left; intro d _
  cases d <;> rfl

theorem numEq_self (a : Int × Int) : numEq a a = true := by simp [numEq]

/-- huge decimal exponents are never exponentiated: they compare like Python's inf and 0.0 -/
example : numEq (1, 999999999999) (25, 1000000000000) = true ∧ numEq (1, -1123456789) (0, 0) = true ∧
    numEq (1, 999999999999) (-1, 999999999999) = false ∧ numEq (1250, -2) (125, -1) = true ∧
    numEq (1250, -2) (1251, -2) = false := by decide +kernel

/-- **masking is exact**: in the array returned for a printed content the X axis is never masked, and a cell of another
channel is masked exactly when the token written is not a number or the number written EQUALS the declared NULL
(as exact decimals) — a value merely close to NULL is data. -/
theorem mask_exact (c : LasContent) (l : LasLayout) (hwf : wfContent c = true) :
    ∃ f a, parse (print c l) = .ok f ∧ f.array = some a ∧
      maskOf a = c.frames.map (fun row => row.zipIdx.map (fun p => p.2 != 0 && (match p.1 with
        | .num m e => numEq (m, e) (declaredNull c)
        | .bad _ => true
        | .lit _ m e => numEq (m, e) (declaredNull c)))) := by
  refine ⟨toFile c, _, parse_print c l hwf, rfl, ?_⟩
  simp only [maskOf, List.map_map]
  apply List.map_congr_left; intro row _
  simp only [Function.comp, List.zipIdx_map, List.map_map]
  apply List.map_congr_left; intro p _
  cases hp : p.1 with
  | num m e => simp [Function.comp, hp, expectCell, cellKey]
  | bad s => simp [Function.comp, hp, expectCell, cellKey, numEq_self]
  | lit s m e => simp [Function.comp, hp, expectCell, cellKey]

/-- **the last line needs no line feed**: a text whose last line `l` (non-empty) is not newline-terminated is read
exactly like the same text with the terminating line feed — last data row, last continuation line of a wrapped frame,
last header line alike (`generate_lines` stops on the EMPTY string only). -/
theorem parse_no_final_newline (t l : Str) (hl : l ≠ []) (hn : ∀ c ∈ l, c ≠ '\n') :
    parse (t ++ '\n' :: l) = parse (t ++ '\n' :: (l ++ ['\n'])) := by
  have h1 : splitLines (t ++ '\n' :: l) = splitLinesAux (t ++ ['\n']) [] ++ [l] := by
    unfold splitLines
    rw [splitLinesAux_split, splitLinesAux_last l [] hn (Or.inl hl)]; simp
  have h2 : splitLines (t ++ '\n' :: (l ++ ['\n'])) = splitLinesAux (t ++ ['\n']) [] ++ [l ++ ['\n']] := by
    unfold splitLines
    rw [splitLinesAux_split]
    have := splitLinesAux_line l [] [] hn
    simp only [List.reverse_nil, List.nil_append] at this
    rw [this]; simp [splitLinesAux]
  unfold parse genLines
  rw [h1, h2, List.filter_append, List.filter_append, run_append, run_append]
  cases run St.init (List.filter keepLine (splitLinesAux (t ++ ['\n']) [])) with
  | error e => rfl
  | ok st =>
    simp only [List.filter_cons, List.filter_nil, keepLine_final_lf l hl hn]
    cases keepLine l with
    | false => rfl
    | true => simp only [if_true, run, step_final_lf st l hl]

/-- the printed content without its final line feed is still read as the content -/
theorem parse_print_no_final_newline (c : LasContent) (ly : LasLayout) (hwf : wfContent c = true) (t l : Str)
    (hp : print c ly = t ++ '\n' :: (l ++ ['\n'])) (hl : l ≠ []) (hn : ∀ x ∈ l, x ≠ '\n') :
    parse (t ++ '\n' :: l) = .ok (toFile c) := by
  rw [parse_no_final_newline t l hl hn, ← hp]; exact parse_print c ly hwf

example : (match parse "~V\nVERS. 2.0:\nWRAP. NO:\n~C\nDEPT.M:\nGR.API:\n~A\n1.0 5\n2.0 7".toList with
    | .ok f => f.array.map (fun a => a.frames.length) == some 2
    | .error _ => false) = true := by decide +kernel

/-- `_convert_value`: a token outside the numeric grammar becomes null, a printed number is read back exactly -/
theorem convert_value_spec (tok : Str) :
    (parseFloat? tok = none → convertValue tok = .null) ∧
    (∀ m e k, tok = printNum m e k → convertValue tok = .num m e) := by
  refine ⟨fun h => by simp [convertValue, h], fun m e k h => ?_⟩
  subst h; simp [convertValue, parseFloat_printNum]

/-- **header lines, layer theorem**: one well-formed line of a V/W/C/P section, printed with any padding, decomposes
(first '.', last ':', the two field scanners, value typing) into exactly the four fields written. -/
theorem header_line_parse_print (h : HLine) (p : HPad) (hw : wfHLine h = true) :
    lineToSectLine (strip (spaces p.lead ++ printHBody h p ++ ['\n'])) = .ok (expectLine h) :=
  (header_line h p hw).1

/-- **data lines, layer theorem**: `split()` of a printed data line returns the tokens written whatever blanks and
TABs surround and separate them. -/
theorem data_line_split (toks : List Str) (r : RowLay) (ht : ∀ t ∈ toks, t ≠ [] ∧ ∀ c ∈ t, isSpace c = false) :
    splitWs (printDataLine toks r) = toks :=
  data_line_tokens toks r ht

/-- **comments and blank lines** are not delivered by the line generator -/
theorem junk_ignored (j : List JunkLine) (rest : Str) : genLines (printJunk j ++ rest) = genLines rest :=
  genLines_junk j rest

/-! ### non-vacuity: a concrete content meeting the hypotheses, wrapped and unwrapped -/

def exLine (m u : String) (v : Value) (d : String) : HLine := ⟨m.toList, u.toList, v, d.toList⟩

def exContent (wrap : Bool) : LasContent :=
  { v := [exLine "VERS" "" (.float 20 (-1)) "CWLS log ASCII Standard", exLine "WRAP" "" (.bool wrap) "One line per frame"],
    sects := [.hdr 'W' [exLine "STRT" "M" (.float 16350 (-1)) "START DEPTH",
                        exLine "NULL" "" (.float (-99925) (-2)) "",
                        exLine "TIME" "" (.text "13:45:00".toList) "Log start",
                        exLine "COMP" "" (.text "ANY OIL COMPANY INC.".toList) "COMPANY"],
              .hdr 'C' [exLine "DEPT" "M" (.text []) "1  DEPTH", exLine "DT" "US/M" (.text []) "2  SONIC",
                        exLine "RHOB" "K/M3" (.int 7) "3  BULK DENSITY"],
              .txt 'O' ["Note - the logs were run : twice.".toList]],
    frames := [[.num 16350 (-1), .num 123450 (-3), .bad "N/A".toList],
               [.num 16345 (-1), .bad "-".toList, .num 2550 0]] }

/-- a single-curve log with its own NULL, wrapped or not (two frames: the index value alone completes a frame) -/
def exContent1 (wrap : Bool) : LasContent :=
  { v := [exLine "VERS" "" (.float 20 (-1)) "", exLine "WRAP" "" (.bool wrap) ""],
    sects := [.hdr 'W' [exLine "NULL" "" (.int (-9999)) "declared null"], .hdr 'C' [exLine "DEPT" "M" (.text []) ""]],
    frames := [[.num 10 0], [.bad "N/A".toList]] }

example : wfContent (exContent1 true) = true ∧ wfContent (exContent1 false) = true ∧
    declaredNull (exContent1 true) = (-9999, 0) ∧ wrapOf (exContent1 true) = true := by decide +kernel
/-- -999.2575 and -999.245 are data next to NULL = -999.25: only the cell equal to NULL and the bad token are masked -/
example : maskOf ⟨[], (-99925, -2), [[.num 1 0, .num (-9992575) (-4), .num (-99925) (-2), .num (-999250) (-3)],
                                      [.num 2 0, .num (-999245) (-3), .null, .num (-99925) (-2)]]⟩ =
    [[false, false, true, true], [false, false, true, true]] := by decide +kernel
/-- a declared NULL of 0 is a NULL like any other: zeros (in any spelling) and bad tokens are masked, -999.25 is data -/
example : maskOf ⟨[], (0, 0), [[.num 5 0, .num 0 0, .num 0 (-2), .num (-99925) (-2), .null]]⟩ =
    [[false, true, true, false, true]] := by decide +kernel
/-- mnemonics and units are names: a curve called `1` with units `10`, or `NO`, is an ordinary header line -/
example : wfHLine (exLine "1" "10" (.text []) "curve named 1") = true ∧ wfHLine (exLine "NO" "1E3" (.int 5) "") = true ∧
    (match lineToSectLine "007.10 12 : d".toList with
      | .ok l => l == ⟨.text "007".toList, .text "10".toList, .int 12, .text "d".toList⟩
      | .error _ => false) = true := by
  decide +kernel
example : wfContent (exContent false) = true := by decide +kernel
example : wfContent (exContent true) = true := by decide +kernel
example : wrapOf (exContent true) = true ∧ wrapOf (exContent false) = false := by decide +kernel
example : wfHLine (exLine "TIME" "" (.text "13:45:00".toList) "Log start") = true := by decide +kernel
example : (exContent true).sects = (exContent false).sects ∧ (exContent true).frames = (exContent false).frames :=
  ⟨rfl, rfl⟩

end TD.C09
