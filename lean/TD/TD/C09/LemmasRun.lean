import TD.C09.LemmasLine

/-! The line generator and the line automaton on printed text. -/
namespace TD.C09

/-- feed a text to the automaton from a state -/
def feed (st : St) (text : Str) : Except Err St := run st (genLines text)

/-- continue feeding after a step that may fail -/
def thenFeed (r : Except Err St) (rest : Str) : Except Err St :=
  match r with
  | .ok st' => feed st' rest
  | .error e => .error e

theorem spaces_noLF (n : Nat) : ∀ c ∈ spaces n, c ≠ '\n' := by
  intro c hc; have := List.eq_of_mem_replicate hc; subst this; decide

theorem blanks_noLF (l : List Bool) : ∀ c ∈ blanks l, c ≠ '\n' := by
  intro c hc
  simp only [blanks, List.mem_map] at hc
  obtain ⟨b, _, rfl⟩ := hc
  cases b <;> decide

theorem oneLine_noLF (s : Str) : ∀ c ∈ oneLine s, c ≠ '\n' := by
  intro c hc
  simp only [oneLine, List.mem_filter, bne_iff_ne, ne_eq] at hc
  exact hc.2

theorem noLF_of_nospace {s : Str} (h : ∀ c ∈ s, isSpace c = false) : ∀ c ∈ s, c ≠ '\n' := by
  intro c hc hn; subst hn; have := h _ hc; simp [isSpace] at this

theorem noLF_append {a b : Str} (ha : ∀ c ∈ a, c ≠ '\n') (hb : ∀ c ∈ b, c ≠ '\n') : ∀ c ∈ a ++ b, c ≠ '\n' := by
  intro c hc; rcases List.mem_append.1 hc with h | h
  · exact ha c h
  · exact hb c h

theorem noLF_cons {x : Char} {b : Str} (hx : x ≠ '\n') (hb : ∀ c ∈ b, c ≠ '\n') : ∀ c ∈ x :: b, c ≠ '\n' := by
  intro c hc; rcases List.mem_cons.1 hc with h | h
  · subst h; exact hx
  · exact hb c h

theorem splitLinesAux_line (l rest cur : Str) (h : ∀ c ∈ l, c ≠ '\n') :
    splitLinesAux (l ++ '\n' :: rest) cur = (cur.reverse ++ l ++ ['\n']) :: splitLinesAux rest [] := by
  induction l generalizing cur with
  | nil => simp [splitLinesAux]
  | cons a l ih =>
    have ha : a ≠ '\n' := h a (List.mem_cons_self)
    simp only [List.cons_append, splitLinesAux, ha, if_false]
    rw [ih _ (fun x hx => h x (List.mem_cons_of_mem _ hx))]
    simp

theorem genLines_line (l rest : Str) (h : ∀ c ∈ l, c ≠ '\n') :
    genLines (l ++ '\n' :: rest) =
      if keepLine (l ++ ['\n']) then (l ++ ['\n']) :: genLines rest else genLines rest := by
  unfold genLines splitLines
  rw [splitLinesAux_line l rest [] h]
  simp only [List.reverse_nil, List.nil_append, List.filter_cons]

theorem dropWhile_ws_head (w : Str) (c : Char) (r : Str) (hw : ∀ x ∈ w, isSpace x = true) (hc : isSpace c = false) :
    (w ++ c :: r).dropWhile isSpace = c :: r := by
  have := stripLP_ws_append isSpace w (c :: r) hw
  rw [stripLP_cons_nonspace isSpace c r hc] at this
  exact this

theorem isComment_eq (l : Str) : isComment l = ((l.dropWhile isSpace).head? == some '#') := by
  unfold isComment
  split
  · rename_i h; rw [h]; rfl
  · rename_i h
    cases hd : l.dropWhile isSpace with
    | nil => rfl
    | cons a r =>
      have : a ≠ '#' := fun e => h r (by rw [hd, e])
      simp [this]

theorem keepLine_of (w : Str) (c : Char) (r : Str) (hw : ∀ x ∈ w, isSpace x = true) (hc : isSpace c = false)
    (hh : c ≠ '#') : keepLine (w ++ c :: r) = true := by
  have h1 : w ++ c :: r ≠ ['\n'] := by
    intro h
    have := dropWhile_ws_head w c r hw hc
    rw [h] at this
    cases this
  simp [keepLine, isComment_eq, dropWhile_ws_head w c r hw hc, h1, hh]

theorem keepLine_comment (w r : Str) (hw : ∀ x ∈ w, isSpace x = true) : keepLine (w ++ '#' :: r) = false := by
  simp [keepLine, isComment_eq, dropWhile_ws_head w '#' r hw (by decide)]

theorem genLines_junkLine (j : JunkLine) (rest : Str) : genLines (printJunkLine j ++ rest) = genLines rest := by
  cases j with
  | blank => exact (genLines_line [] rest (by simp)).trans (if_neg (by decide))
  | comment lead text =>
    have hn : ∀ c ∈ spaces lead ++ '#' :: oneLine text, c ≠ '\n' :=
      noLF_append (spaces_noLF _) (noLF_cons (by decide) (oneLine_noLF _))
    have hk : keepLine ((spaces lead ++ '#' :: oneLine text) ++ ['\n']) = false := by
      rw [List.append_assoc]; exact keepLine_comment _ _ (spaces_isSpace lead)
    have := genLines_line _ rest hn
    rw [hk] at this
    simpa [printJunkLine, List.append_assoc] using this

theorem genLines_junk (j : List JunkLine) (rest : Str) : genLines (printJunk j ++ rest) = genLines rest := by
  induction j with
  | nil => rfl
  | cons a j ih =>
    simp only [printJunk, List.map_cons, List.flatten_cons, List.append_assoc] at ih ⊢
    rw [genLines_junkLine, ih]

theorem feed_nil (st : St) : feed st [] = .ok st := rfl

theorem feed_junk (st : St) (j : List JunkLine) (rest : Str) : feed st (printJunk j ++ rest) = feed st rest := by
  unfold feed; rw [genLines_junk]

theorem feed_line (st : St) (l rest : Str) (h : ∀ c ∈ l, c ≠ '\n') (hk : keepLine (l ++ ['\n']) = true) :
    feed st (l ++ '\n' :: rest) = thenFeed (step st (l ++ ['\n'])) rest := by
  unfold feed; rw [genLines_line l rest h, hk]; rfl

/-- blanks, then a visible character other than '#': the line is delivered -/
theorem feed_printed (st : St) (w b rest : Str) (c : Char) (r : Str) (hb : b = c :: r)
    (hw : ∀ x ∈ w, isSpace x = true) (hc : isSpace c = false) (hh : c ≠ '#')
    (hwn : ∀ x ∈ w, x ≠ '\n') (hbn : ∀ x ∈ b, x ≠ '\n') :
    feed st (w ++ (b ++ (['\n'] ++ rest))) = thenFeed (step st (w ++ b ++ ['\n'])) rest := by
  have hk : keepLine (w ++ b ++ ['\n']) = true := by
    rw [hb, List.append_assoc]; exact keepLine_of w c (r ++ ['\n']) hw hc hh
  rw [← List.append_assoc]
  exact feed_line st (w ++ b) rest (noLF_append hwn hbn) hk

theorem strip_head (w : Str) (t : Char) (Y : Str) (hw : ∀ x ∈ w, isSpace x = true) (ht : isSpace t = false) :
    strip (w ++ '~' :: t :: Y) = '~' :: t :: stripRP isSpace Y := by
  rw [strip_ws_head w '~' _ hw (by decide)]
  exact congrArg (List.cons '~') (stripRP_append_nonspace isSpace [] t Y ht)

section
variable (S : List Section) (w : Option Value) (d : Option ArrayData)

theorem step_member (t : Char) (hdr : Bool) (ms : List Member) (line : Str) (c : Char) (r : Str)
    (hs : strip line = c :: r) (hc : c ≠ '~') :
    step ⟨S, w, d, .sect t hdr ms⟩ line =
      if hdr then
        match lineToSectLine (c :: r) with
        | .ok l => .ok ⟨S, w, d, .sect t hdr (.line l :: ms)⟩
        | .error e => .error e
      else .ok ⟨S, w, d, .sect t hdr (.raw (c :: r) :: ms)⟩ := by
  have h1 : (c :: r).head? = some '~' ↔ False := by simp [hc]
  simp only [step, hs, h1, if_false, List.isEmpty_cons, Bool.false_eq_true]
  rfl

theorem step_head (t : Char) (hdr : Bool) (ms : List Member) (line s : Str) (hs : strip line = '~' :: s) :
    step ⟨S, w, d, .sect t hdr ms⟩ line =
      match finaliseSect ⟨S, w, d, .sect t hdr ms⟩ t ms with
      | .ok st' => topLevel st' ('~' :: s)
      | .error e => .error e := by
  simp only [step, hs, List.head?_cons, if_true]
  rfl

theorem step_arr (a : ArrSt) (line : Str) (hh : line.head? ≠ some '~') :
    step ⟨S, w, d, .arr a⟩ line =
      match arrAddLine a line with
      | .ok a' => .ok ⟨S, w, d, .arr a'⟩
      | .error e => .error e := by
  simp only [step, hh, if_false]
  rfl

end

/-! ### top level -/

/-- the `~A` branch of `topLevel`, named to keep it out of statements (`topLevel_A`) -/
def openA (st : St) : Except Err St :=
  if st.sections.isEmpty then .error .nonVersionFirst else
  match firstCurve st with
  | none => .error .noCurve
  | some c =>
    let names := curveNames c
    if hasDupKey (names.map (·.1)) then .error .dupChannel
    else if names.any isDateTime then .error .unsupported
    else .ok { st with cur := .arr ⟨match st.wrapV with | some v => truthy v | none => false, nullOf st, names, [], []⟩ }

-- string literals are dear to evaluate: once each
theorem sectLetters : "VWCPOA".toList = ['V', 'W', 'C', 'P', 'O', 'A'] := by decide +kernel
theorem dataLetters : "VWCP".toList = ['V', 'W', 'C', 'P'] := by decide +kernel
theorem reservedLetters : "VWCPA".toList = ['V', 'W', 'C', 'P', 'A'] := by decide +kernel

theorem sectHead_letter (t : Char) (X : Str) (h : isSectLetter t = true) : sectHead ('~' :: t :: X) = some t := by
  simp only [sectHead, h, if_true]

theorem topLevel_A (st : St) (X : Str) : topLevel st ('~' :: 'A' :: X) = openA st := by
  unfold topLevel
  rw [sectHead_letter 'A' X (by rw [isSectLetter, sectLetters]; decide)]
  rfl

theorem topLevel_V (X : Str) : topLevel St.init ('~' :: 'V' :: X) = .ok ⟨[], none, none, .sect 'V' true []⟩ := by
  unfold topLevel
  rw [sectHead_letter 'V' X (by rw [isSectLetter, sectLetters]; decide)]
  rfl

theorem topLevel_letter (st : St) (X : Str) (t : Char) (ht : isSectLetter t = true) (hV : t ≠ 'V') (hA : t ≠ 'A')
    (hne : st.sections.isEmpty = false) :
    topLevel st ('~' :: t :: X) = .ok { st with cur := .sect t (isDataLetter t) [] } := by
  unfold topLevel
  rw [sectHead_letter t X ht]
  split
  · rename_i h; injection h with h; exact absurd h hV
  · rename_i h; injection h with h; exact absurd h hA
  · rename_i h; injection h with h; subst h; simp only [hne, Bool.false_eq_true, if_false]
  · rename_i h; cases h

theorem topLevel_user (st : St) (X : Str) (t : Char) (ht : isSectLetter t = false)
    (hV : st.hasType 'V' = true) (ha : st.arrayDone = none) :
    topLevel st ('~' :: t :: X) = .ok { st with cur := .sect t false [] } := by
  have hs : sectHead ('~' :: t :: X) = none := by simp only [sectHead, ht, Bool.false_eq_true, if_false]
  unfold topLevel
  rw [hs]
  simp only [hV, ha, Bool.not_true, Bool.false_eq_true, if_false, Option.isSome_none]

theorem topLevel_hdr (st : St) (X : Str) (t : Char) (ht : t = 'W' ∨ t = 'C' ∨ t = 'P') (hne : st.sections.isEmpty = false) :
    topLevel st ('~' :: t :: X) = .ok { st with cur := .sect t true [] } := by
  have h : isSectLetter t = true ∧ isDataLetter t = true ∧ t ≠ 'V' ∧ t ≠ 'A' := by
    unfold isSectLetter isDataLetter
    rw [sectLetters, dataLetters]
    rcases ht with h | h | h <;> subst h <;> decide
  rw [topLevel_letter st X t h.1 h.2.2.1 h.2.2.2 hne, h.2.1]

theorem ne_reservedLetters (t : Char) (ht : "VWCPA".toList.contains t = false) :
    t ≠ 'V' ∧ t ≠ 'W' ∧ t ≠ 'C' ∧ t ≠ 'P' ∧ t ≠ 'A' := by
  rw [reservedLetters] at ht
  simpa using ht

theorem topLevel_txt (st : St) (X : Str) (t : Char) (ht : "VWCPA".toList.contains t = false)
    (hV : st.hasType 'V' = true) (ha : st.arrayDone = none) (hne : st.sections.isEmpty = false) :
    topLevel st ('~' :: t :: X) = .ok { st with cur := .sect t false [] } := by
  obtain ⟨h1, h2, h3, h4, h5⟩ := ne_reservedLetters t ht
  by_cases hO : t = 'O'
  · have h : isSectLetter t = true ∧ isDataLetter t = false := by
      unfold isSectLetter isDataLetter
      rw [sectLetters, dataLetters, hO]
      decide
    rw [topLevel_letter st X t h.1 h1 h5 hne, h.2]
  · refine topLevel_user st X t ?_ hV ha
    unfold isSectLetter
    rw [sectLetters]
    simp [h1, h2, h3, h4, h5, hO]

end TD.C09
