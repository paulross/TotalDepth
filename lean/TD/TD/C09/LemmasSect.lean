import TD.C09.LemmasRun

/-! Whole sections fed to the line automaton. -/
namespace TD.C09

def secMembers : CSect → List Member
  | .hdr _ lines => lines.map (fun h => .line (expectLine h))
  | .txt _ lines => lines.map .raw

def secHdr : CSect → Bool
  | .hdr _ _ => true
  | .txt _ _ => false

theorem expectSect_eq (s : CSect) : expectSect s = ⟨s.typ, secMembers s⟩ := by
  cases s <;> rfl

theorem printValue_noLF (v : Value) (k : Nat) (hv : wfValue v = true) : ∀ c ∈ printValue v k, c ≠ '\n' := by
  cases v with
  | int i => exact noLF_of_nospace (printInt_nospace i)
  | float m e => exact noLF_of_nospace (printNum_nospace m e k)
  | bool b => cases b <;> (simp only [printValue]; decide)
  | text s =>
    simp only [wfValue, Bool.and_eq_true, List.all_eq_true, bne_iff_ne, ne_eq] at hv
    exact hv.1

theorem printHBody_noLF (h : HLine) (p : HPad) (hw : wfHLine h = true) : ∀ c ∈ printHBody h p, c ≠ '\n' := by
  obtain ⟨hm, hu, hut, hv, hd, hdt⟩ := wfHLine_facts hw
  obtain ⟨c0, m', hmn, hc0s, hc0t, hc0h, hmall, hmt⟩ := wfMnem_facts hm
  have hmn' := noLF_of_nospace (fun c hc => (hmall c hc).1)
  have hun := noLF_of_nospace (fun c hc => (hu c hc).1)
  have hvn := printValue_noLF h.value p.k hv
  have hdn : ∀ c ∈ h.desc, c ≠ '\n' := fun c hc => (hd c hc).2
  unfold printHBody
  simp only []
  refine noLF_append (noLF_append (noLF_append (noLF_append (noLF_append (noLF_append (noLF_append hmn' (spaces_noLF _))
    (noLF_cons (by decide) hun)) ?_) (spaces_noLF _)) (noLF_cons (by decide) (spaces_noLF _))) hdn) (spaces_noLF _)
  split
  · exact spaces_noLF _
  · exact noLF_append (spaces_noLF _) hvn

section
variable (S : List Section) (w : Option Value) (d : Option ArrayData)

/-- one header line fed to an open header section -/
theorem feed_hline (t : Char) (ms : List Member) (h : HLine) (p : HPad) (rest : Str) (hw : wfHLine h = true) :
    feed ⟨S, w, d, .sect t true ms⟩ (printHLine h p ++ rest) =
      feed ⟨S, w, d, .sect t true (.line (expectLine h) :: ms)⟩ rest := by
  obtain ⟨hline, r, hstrip⟩ := header_line h p hw
  obtain ⟨c0, m', hmn, hc0s, hc0t, hc0h, -, -⟩ := wfMnem_facts (wfHLine_facts hw).1
  obtain ⟨r', hb⟩ : ∃ r', printHBody h p = c0 :: r' := ⟨_, by rw [printHBody, hmn]; rfl⟩
  rw [hmn, List.cons_append] at hstrip
  rw [hstrip] at hline
  simp only [printHLine, List.append_assoc]
  rw [feed_junk, feed_printed _ _ _ _ c0 r' hb (spaces_isSpace _) hc0s hc0h (spaces_noLF _) (printHBody_noLF h p hw),
    step_member S w d t true ms _ c0 _ hstrip hc0t, if_pos rfl, hline]
  rfl

theorem feed_hlines (hs : List HLine) (ps : List HPad) (t : Char) (ms : List Member) (rest : Str)
    (hw : ∀ h ∈ hs, wfHLine h = true) :
    feed ⟨S, w, d, .sect t true ms⟩ (printHLines hs ps ++ rest) =
      feed ⟨S, w, d, .sect t true ((hs.map (fun h => Member.line (expectLine h))).reverse ++ ms)⟩ rest := by
  induction hs generalizing ps ms with
  | nil => rfl
  | cons h hs ih =>
    simp only [printHLines, List.append_assoc]
    rw [feed_hline S w d t ms h _ _ (hw h List.mem_cons_self),
      ih ps.tail _ (fun x hx => hw x (List.mem_cons_of_mem _ hx))]
    simp only [List.map_cons, List.reverse_cons, List.append_assoc, List.singleton_append]

theorem head_nonspace_of_strip_eq {s : Str} (h : strip s = s) (hne : s ≠ []) :
    ∃ c r, s = c :: r ∧ isSpace c = false := by
  cases s with
  | nil => exact absurd rfl hne
  | cons c r =>
    refine ⟨c, r, rfl, ?_⟩
    have hr := stripRP_of_stripP_eq isSpace _ h
    unfold strip stripP at h
    rw [hr] at h
    cases hc : isSpace c with
    | false => rfl
    | true =>
      simp only [stripLP, List.dropWhile_cons, hc, if_true] at h
      have := (List.dropWhile_sublist isSpace (l := r)).length_le
      rw [h] at this
      simp at this
      omega

theorem wfTxtLine_facts {s : Str} (h : wfTxtLine s = true) :
    strip s = s ∧ (∀ c ∈ s, c ≠ '\n') ∧ ∃ c r, s = c :: r ∧ isSpace c = false ∧ c ≠ '#' ∧ c ≠ '~' := by
  simp only [wfTxtLine, Bool.and_eq_true, List.all_eq_true, Bool.not_eq_true', bne_iff_ne, ne_eq, beq_iff_eq] at h
  obtain ⟨⟨⟨⟨hne, hs⟩, hl⟩, hh⟩, ht⟩ := h
  have hne' : s ≠ [] := by intro h; subst h; simp at hne
  obtain ⟨c, r, hcr, hc⟩ := head_nonspace_of_strip_eq hs hne'
  refine ⟨hs, hl, c, r, hcr, hc, ?_, ?_⟩
  · intro h; subst h; subst hcr; simp at hh
  · intro h; subst h; subst hcr; simp at ht

theorem feed_txtline (t : Char) (ms : List Member) (x : Str) (p : HPad) (rest : Str) (hw : wfTxtLine x = true) :
    feed ⟨S, w, d, .sect t false ms⟩ (printJunk p.junk ++ (spaces p.lead ++ (x ++ (spaces p.e ++ (['\n'] ++ rest))))) =
      feed ⟨S, w, d, .sect t false (.raw x :: ms)⟩ rest := by
  obtain ⟨hs, hl, c, r, hcr, hc, hch, hct⟩ := wfTxtLine_facts hw
  have hstrip : strip (spaces p.lead ++ (x ++ spaces p.e) ++ ['\n']) = c :: r := by
    have := stripP_pad isSpace (spaces p.lead) x (spaces p.e ++ ['\n']) (spaces_isSpace _)
      (List.forall_mem_append.2 ⟨spaces_isSpace _, by decide⟩)
    unfold strip at hs ⊢
    simp only [List.append_assoc] at this ⊢
    rw [this, hs, hcr]
  rw [feed_junk, ← List.append_assoc x,
    feed_printed _ _ (x ++ spaces p.e) _ c (r ++ spaces p.e) (by rw [hcr]; rfl) (spaces_isSpace _) hc hch
      (spaces_noLF _) (noLF_append hl (spaces_noLF _)),
    step_member S w d t false ms _ c r hstrip hct, if_neg Bool.false_ne_true, hcr]
  rfl

theorem feed_txtlines (ts : List Str) (ps : List HPad) (t : Char) (ms : List Member) (rest : Str)
    (hw : ∀ x ∈ ts, wfTxtLine x = true) :
    feed ⟨S, w, d, .sect t false ms⟩ (printTxtLines ts ps ++ rest) =
      feed ⟨S, w, d, .sect t false ((ts.map Member.raw).reverse ++ ms)⟩ rest := by
  induction ts generalizing ps ms with
  | nil => rfl
  | cons x ts ih =>
    simp only [printTxtLines, List.append_assoc]
    rw [feed_txtline S w d t ms x _ _ (hw x List.mem_cons_self),
      ih ps.tail _ (fun y hy => hw y (List.mem_cons_of_mem _ hy))]
    simp only [List.map_cons, List.reverse_cons, List.append_assoc, List.singleton_append]

theorem feed_headline (st : St) (t : Char) (lay : SectLay) (rest : Str) (ht : isSpace t = false) :
    feed st (printHead t lay ++ rest) =
      thenFeed (step st (spaces lay.lead ++ '~' :: t :: (oneLine lay.title ++ ['\n']))) rest := by
  have hn : ∀ y ∈ '~' :: t :: oneLine lay.title, y ≠ '\n' :=
    noLF_cons (by decide) (noLF_cons (fun h => by subst h; simp [isSpace] at ht) (oneLine_noLF _))
  simp only [printHead, List.append_assoc]
  rw [feed_junk, feed_printed _ _ _ _ '~' _ rfl (spaces_isSpace _) (by decide) (by decide) (spaces_noLF _) hn,
    List.append_assoc]
  rfl

/-- a section head line met while a section is open: the open section is closed, the new one opened -/
theorem feed_head (t0 : Char) (h0 : Bool) (ms0 : List Member) (st' : St) (t : Char) (lay : SectLay) (rest : Str)
    (ht : isSpace t = false)
    (hclose : finaliseSect ⟨S, w, d, .sect t0 h0 ms0⟩ t0 ms0 = .ok st') :
    feed ⟨S, w, d, .sect t0 h0 ms0⟩ (printHead t lay ++ rest) =
      thenFeed (topLevel st' ('~' :: t :: stripRP isSpace (oneLine lay.title ++ ['\n']))) rest := by
  rw [feed_headline _ t lay rest ht, step_head S w d t0 h0 ms0 _ _ (strip_head _ t _ (spaces_isSpace _) ht), hclose]

end

theorem wfSect_facts {s : CSect} (h : wfSect s = true) :
    isSpace s.typ = false ∧ s.typ ≠ 'V' ∧ s.typ ≠ 'A' := by
  cases s with
  | hdr t lines =>
    simp only [wfSect, Bool.and_eq_true, Bool.or_eq_true, beq_iff_eq] at h
    rcases h.1 with (h1 | h1) | h1 <;> (simp only [CSect.typ]; subst h1; decide)
  | txt t lines =>
    simp only [wfSect, Bool.and_eq_true, Bool.not_eq_true'] at h
    obtain ⟨h1, h2, h3, h4, h5⟩ := ne_reservedLetters t h.1.1
    exact ⟨h.1.2, h1, h5⟩

/-- one whole section (head line and member lines) fed while the previous section is still open -/
theorem feed_sect (done : List Section) (w w' : Option Value) (t0 : Char) (h0 : Bool) (ms0 : List Member)
    (s : CSect) (lay : SectLay) (rest : Str) (hwf : wfSect s = true)
    (hclose : finaliseSect ⟨done, w, none, .sect t0 h0 ms0⟩ t0 ms0 = .ok ⟨⟨t0, ms0.reverse⟩ :: done, w', none, .top⟩)
    (hV : (⟨t0, ms0.reverse⟩ :: done : List Section).any (fun x => x.typ == 'V') = true) :
    feed ⟨done, w, none, .sect t0 h0 ms0⟩ (printSect s lay ++ rest) =
      feed ⟨⟨t0, ms0.reverse⟩ :: done, w', none, .sect s.typ (secHdr s) (secMembers s).reverse⟩ rest := by
  have hf := wfSect_facts hwf
  cases s with
  | hdr t lines =>
    simp only [wfSect, Bool.and_eq_true, Bool.or_eq_true, beq_iff_eq, List.all_eq_true] at hwf
    simp only [printSect, List.append_assoc]
    rw [feed_head done w none t0 h0 ms0 _ t lay _ hf.1 hclose,
      topLevel_hdr _ _ t (by rcases hwf.1 with (h | h) | h <;> simp [h]) rfl]
    exact (feed_hlines _ w' none lines lay.lines t [] rest hwf.2).trans (by rw [List.append_nil]; rfl)
  | txt t lines =>
    simp only [wfSect, Bool.and_eq_true, Bool.not_eq_true', List.all_eq_true] at hwf
    simp only [printSect, List.append_assoc]
    rw [feed_head done w none t0 h0 ms0 _ t lay _ hf.1 hclose, topLevel_txt ⟨⟨t0, ms0.reverse⟩ :: done, w', none, .top⟩ _ t hwf.1.1 hV rfl rfl]
    exact (feed_txtlines _ w' none lines lay.lines t [] rest hwf.2).trans (by rw [List.append_nil]; rfl)

end TD.C09
