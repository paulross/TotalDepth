import TD.C09.LemmasNum

/-! One header line, one data line. -/
namespace TD.C09

theorem splitFirstDot_append (X Y : Str) (h : ∀ c ∈ X, c ≠ '.') : splitFirstDot (X ++ '.' :: Y) = some (X, Y) := by
  induction X with
  | nil => simp [splitFirstDot]
  | cons a X ih =>
    have ha : a ≠ '.' := h a (List.mem_cons_self)
    have := ih (fun x hx => h x (List.mem_cons_of_mem _ hx))
    simp [splitFirstDot, ha, this]

theorem splitLastColon_none (D : Str) (h : ∀ c ∈ D, c ≠ ':') : splitLastColon D = none := by
  induction D with
  | nil => rfl
  | cons a D ih =>
    have ha : a ≠ ':' := h a (List.mem_cons_self)
    have := ih (fun x hx => h x (List.mem_cons_of_mem _ hx))
    simp [splitLastColon, ha, this]

theorem splitLastColon_append (M D : Str) (h : ∀ c ∈ D, c ≠ ':') : splitLastColon (M ++ ':' :: D) = some (M, D) := by
  induction M with
  | nil => simp [splitLastColon, splitLastColon_none D h]
  | cons a M ih => simp [splitLastColon, ih]

theorem mem_stripRP {p : Char → Bool} {s : Str} {c : Char} (h : c ∈ stripRP p s) : c ∈ s :=
  (stripRP_prefix p s).subset h

theorem wfMnem_facts {s : Str} (h : wfMnem s = true) :
    ∃ c r, s = c :: r ∧ isSpace c = false ∧ c ≠ '~' ∧ c ≠ '#' ∧
      (∀ x ∈ s, isSpace x = false ∧ x ≠ '.' ∧ x ≠ ':') ∧ strip s = s := by
  simp only [wfMnem, Bool.and_eq_true, List.all_eq_true, Bool.not_eq_true', bne_iff_ne, ne_eq] at h
  obtain ⟨⟨⟨hne, hall⟩, hh⟩, ht⟩ := h
  have hv : strip s = s := stripP_nospace isSpace s (fun x hx => (hall x hx).1.1)
  cases s with
  | nil => simp at hne
  | cons c r =>
    refine ⟨c, r, rfl, (hall c (List.mem_cons_self)).1.1, ?_, ?_, ?_, hv⟩
    · intro hc; subst hc; simp at ht
    · intro hc; subst hc; simp at hh
    · intro x hx; exact ⟨(hall x hx).1.1, (hall x hx).1.2, (hall x hx).2⟩

theorem field0_mnem (s : Str) (a : Nat) (c : Char) (r : Str) (hs : s = c :: r)
    (hall : ∀ x ∈ s, isSpace x = false ∧ x ≠ '.' ∧ x ≠ ':') : field0 (s ++ spaces a) = some s := by
  have hc := hall c (by rw [hs]; exact List.mem_cons_self)
  have hok : ∀ x ∈ s, f0ok x = true := by
    intro x hx
    have := hall x hx
    have hsp : x ≠ ' ' := by intro h; subst h; simp [isSpace] at this
    simp [f0ok, hsp, this.2.1, this.2.2]
  have hstop : spaces a = [] ∨ ∃ x r, spaces a = x :: r ∧ f0ok x = false := by
    cases a with
    | zero => exact Or.inl rfl
    | succ n => exact Or.inr ⟨' ', spaces n, rfl, by decide⟩
  have htd := takeWhile_append_stop (p := f0ok) s (spaces a) hok hstop
  have : field0At (s ++ spaces a) = some s := by
    unfold field0At
    simp only [htd.1, htd.2]
    have h1 : s.isEmpty = false := by rw [hs]; rfl
    have h2 : (spaces a).all isSpace = true := by
      rw [List.all_eq_true]; exact spaces_isSpace a
    simp [h1, h2]
  rw [hs] at this ⊢
  simp only [List.cons_append] at this ⊢
  unfold field0
  simp only [hc.1]
  exact this

theorem field1_split (u R : Str) (hu : ∀ x ∈ u, isSpace x = false ∧ x ≠ ':')
    (hR : R = [] ∨ ∃ r, R = ' ' :: r) :
    field1 (u ++ R) = (if u.isEmpty then none else some u, if R.isEmpty then none else some R) := by
  have hok : ∀ x ∈ u, f1ok x = true := by
    intro x hx
    have := hu x hx
    have hsp : x ≠ ' ' := by intro h; subst h; simp [isSpace] at this
    simp [f1ok, hsp, this.2]
  have hstop : R = [] ∨ ∃ x r, R = x :: r ∧ f1ok x = false := by
    rcases hR with h | ⟨r, h⟩
    · exact Or.inl h
    · exact Or.inr ⟨' ', r, h, by decide⟩
  have htd := takeWhile_append_stop (p := f1ok) u R hok hstop
  unfold field1
  simp only [htd.1, htd.2]

/-- the value part of a header line: blanks, the value text, blanks -/
def valuePart (vt : Str) (b c : Nat) : Str := (if vt.isEmpty then spaces b else spaces (b + 1) ++ vt) ++ spaces c

theorem valuePart_head (vt : Str) (b c : Nat) : valuePart vt b c = [] ∨ ∃ r, valuePart vt b c = ' ' :: r := by
  unfold valuePart
  split
  · cases b with
    | zero =>
      cases c with
      | zero => exact Or.inl rfl
      | succ n => exact Or.inr ⟨spaces n, rfl⟩
    | succ n => exact Or.inr ⟨spaces n ++ spaces c, rfl⟩
  · exact Or.inr ⟨spaces b ++ vt ++ spaces c, by simp [spaces, List.replicate_succ]⟩

theorem stringToValue_valuePart (vt : Str) (b c : Nat) : stringToValue (valuePart vt b c) = stringToValue vt := by
  unfold valuePart
  split
  · rename_i h
    have : vt = [] := by cases vt <;> simp_all
    subst this
    have := stringToValue_pad (spaces b) [] (spaces c) (spaces_isSpaceC b) (spaces_isSpaceC c)
    simpa using this
  · exact stringToValue_pad (spaces (b + 1)) vt (spaces c) (spaces_isSpaceC _) (spaces_isSpaceC c)

theorem optStrip_ite (u : Str) : optStrip (if u.isEmpty then none else some u) = strip u := by
  cases u <;> rfl

theorem wfHLine_facts {h : HLine} (hw : wfHLine h = true) :
    wfMnem h.mnem = true ∧ (∀ x ∈ h.unit, isSpace x = false ∧ x ≠ ':') ∧ strip h.unit = h.unit ∧
    wfValue h.value = true ∧ (∀ x ∈ h.desc, x ≠ ':' ∧ x ≠ '\n') ∧ stringToValue h.desc = .text h.desc := by
  simp only [wfHLine, wfUnit, wfDesc, Bool.and_eq_true, List.all_eq_true, Bool.not_eq_true', bne_iff_ne, ne_eq,
    beq_iff_eq] at hw
  obtain ⟨⟨⟨hm, hu⟩, hv⟩, hd, hdt⟩ := hw
  exact ⟨hm, hu, stripP_nospace isSpace _ (fun x hx => (hu x hx).1), hv, hd, hdt⟩

/-- the description part after the last colon, as the reader sees it -/
theorem desc_part (desc : Str) (d e : Nat) (w : Str) (hw : ∀ c ∈ w, isSpace c = true)
    (ht : stringToValue desc = .text desc) :
    stringToValue (stripRP isSpace (spaces d ++ desc ++ spaces e ++ w)) = .text desc := by
  rw [List.append_assoc (spaces d ++ desc),
    stripRP_append_ws isSpace _ _ (List.forall_mem_append.2 ⟨spaces_isSpace e, hw⟩),
    stripRP_ws_append isSpace _ _ (spaces_isSpace d), stripRP_of_stripP_eq isSpace desc (text_fixed ht).2.2]
  cases desc with
  | nil => rfl
  | cons x xs =>
    have := stringToValue_pad (spaces d) (x :: xs) [] (spaces_isSpaceC d) (fun _ h => nomatch h)
    rw [List.append_nil] at this
    exact this.trans ht

theorem lineToSectLine_parts (m u R D : Str) (a : Nat) (c : Char) (r : Str) (hm : m = c :: r)
    (hmall : ∀ x ∈ m, isSpace x = false ∧ x ≠ '.' ∧ x ≠ ':') (hu : ∀ x ∈ u, isSpace x = false ∧ x ≠ ':')
    (hR : R = [] ∨ ∃ r, R = ' ' :: r) (hD : ∀ x ∈ D, x ≠ ':') :
    lineToSectLine (m ++ spaces a ++ '.' :: (u ++ R ++ ':' :: D)) =
      .ok ⟨.text (strip m), .text (strip u), stringToValue R, stringToValue D⟩ := by
  have hdot : ∀ x ∈ m ++ spaces a, x ≠ '.' := by
    intro x hx
    rcases List.mem_append.1 hx with hx | hx
    · exact (hmall x hx).2.1
    · rw [List.eq_of_mem_replicate hx]; decide
  unfold lineToSectLine
  rw [splitFirstDot_append _ _ hdot]
  simp only [splitLastColon_append _ _ hD, field0_mnem m a c r hm hmall, field1_split u R hu hR, optToValue_ite,
    optStrip_ite]

/-- **one header line**: whatever the padding, the stripped printed line decomposes into the four fields written -/
theorem header_line (h : HLine) (p : HPad) (hw : wfHLine h = true) :
    lineToSectLine (strip (spaces p.lead ++ printHBody h p ++ ['\n'])) = .ok (expectLine h) ∧
      ∃ r, strip (spaces p.lead ++ printHBody h p ++ ['\n']) = h.mnem ++ r := by
  obtain ⟨hm, hu, hut, hv, hd, hdt⟩ := wfHLine_facts hw
  obtain ⟨c0, m', hmn, hc0s, -, -, hmall, hmt⟩ := wfMnem_facts hm
  let R := valuePart (printValue h.value p.k) p.b p.c
  let T := spaces p.d ++ h.desc ++ spaces p.e ++ ['\n']
  have hraw : spaces p.lead ++ printHBody h p ++ ['\n'] =
      spaces p.lead ++ c0 :: ((m' ++ spaces p.a ++ '.' :: (h.unit ++ R)) ++ ':' :: T) := by
    simp only [printHBody, R, T, valuePart, hmn, List.append_assoc, List.cons_append]
  have hstrip : strip (spaces p.lead ++ printHBody h p ++ ['\n']) =
      h.mnem ++ spaces p.a ++ '.' :: (h.unit ++ R ++ ':' :: stripRP isSpace T) := by
    rw [hraw, strip_ws_head _ c0 _ (spaces_isSpace _) hc0s, stripRP_append_nonspace isSpace _ ':' T (by decide), hmn]
    simp only [List.append_assoc, List.cons_append]
  have hTcolon : ∀ c ∈ stripRP isSpace T, c ≠ ':' := by
    intro c hc
    have hc' := mem_stripRP hc
    simp only [T, List.mem_append, List.mem_singleton] at hc'
    rcases hc' with ((hc' | hc') | hc') | hc'
    · rw [List.eq_of_mem_replicate hc']; decide
    · exact (hd c hc').1
    · rw [List.eq_of_mem_replicate hc']; decide
    · rw [hc']; decide
  rw [hstrip]
  refine ⟨?_, _, List.append_assoc _ _ _⟩
  rw [lineToSectLine_parts h.mnem h.unit R _ p.a c0 m' hmn hmall hu (valuePart_head _ _ _) hTcolon, hmt, hut,
    stringToValue_valuePart, stringToValue_printValue _ _ hv,
    desc_part h.desc p.d p.e ['\n'] (by decide) hdt]
  rfl

/-! ### data lines -/

theorem splitWsAux_token (t rest cur : Str) (ht : ∀ c ∈ t, isSpace c = false) :
    splitWsAux (t ++ rest) cur = splitWsAux rest (t.reverse ++ cur) := by
  induction t generalizing cur with
  | nil => rfl
  | cons a t ih =>
    have ha := ht a (List.mem_cons_self)
    simp only [List.cons_append, splitWsAux, ha, Bool.false_eq_true, if_false]
    rw [ih _ (fun x hx => ht x (List.mem_cons_of_mem _ hx))]
    simp

theorem splitWsAux_ws (w rest : Str) (hw : ∀ c ∈ w, isSpace c = true) :
    splitWsAux (w ++ rest) [] = splitWsAux rest [] := by
  induction w with
  | nil => rfl
  | cons a w ih =>
    have ha := hw a (List.mem_cons_self)
    simp only [List.cons_append, splitWsAux, ha, if_true, List.isEmpty_nil]
    exact ih (fun x hx => hw x (List.mem_cons_of_mem _ hx))

theorem splitWsAux_flush (w rest cur : Str) (hne : w ≠ []) (hw : ∀ c ∈ w, isSpace c = true) (hcur : cur ≠ []) :
    splitWsAux (w ++ rest) cur = cur.reverse :: splitWsAux rest [] := by
  cases w with
  | nil => exact absurd rfl hne
  | cons a w =>
    have : cur.isEmpty = false := by cases cur <;> simp_all
    simp only [List.cons_append, splitWsAux, hw a List.mem_cons_self, if_true, this, Bool.false_eq_true, if_false]
    rw [splitWsAux_ws w rest (fun x hx => hw x (List.mem_cons_of_mem _ hx))]

theorem blanks_isSpace (l : List Bool) : ∀ c ∈ blanks l, isSpace c = true := by
  intro c hc
  simp only [blanks, List.mem_map] at hc
  obtain ⟨b, _, rfl⟩ := hc
  cases b <;> decide

/-- a token: non-empty, no white space -/
def isTok (t : Str) : Prop := t ≠ [] ∧ ∀ c ∈ t, isSpace c = false

theorem splitWsAux_joinToks (toks : List Str) (seps : List (List Bool)) (w : Str) (hne : w ≠ [])
    (hw : ∀ c ∈ w, isSpace c = true) (ht : ∀ t ∈ toks, isTok t) :
    splitWsAux (joinToks toks seps ++ w) [] = toks := by
  induction toks generalizing seps with
  | nil => simpa [joinToks, splitWsAux] using splitWsAux_ws w [] hw
  | cons t ts ih =>
    have htt := ht t List.mem_cons_self
    have hcur : t.reverse ++ [] ≠ [] := by simp [htt.1]
    cases ts with
    | nil =>
      simp only [joinToks]
      rw [splitWsAux_token t _ [] htt.2, ← List.append_nil w, splitWsAux_flush w [] _ hne hw hcur]
      simp [splitWsAux]
    | cons t2 ts =>
      simp only [joinToks, List.append_assoc]
      rw [splitWsAux_token t _ [] htt.2,
        splitWsAux_flush (sep _) _ _ (List.cons_ne_nil _ _) (List.forall_mem_cons.2 ⟨by decide, blanks_isSpace _⟩) hcur,
        ih seps.tail (fun x hx => ht x (List.mem_cons_of_mem _ hx))]
      simp

/-- **one data line**: whatever the blanks/TABs around and between them, `split()` returns the tokens written -/
theorem data_line_tokens (toks : List Str) (r : RowLay) (ht : ∀ t ∈ toks, isTok t) :
    splitWs (printDataLine toks r) = toks := by
  unfold splitWs printDataLine
  rw [List.append_assoc, List.append_assoc, splitWsAux_ws _ _ (blanks_isSpace r.lead)]
  exact splitWsAux_joinToks toks r.seps _ (by simp) (List.forall_mem_append.2 ⟨blanks_isSpace _, by decide⟩) ht

/-- a token that may start a data line: neither a comment nor a section head -/
def goodTok (t : Str) : Prop := isTok t ∧ ∃ x r, t = x :: r ∧ x ≠ '~' ∧ x ≠ '#'

theorem goodTok_of (s : Str) (hne : s.isEmpty = false) (hns : noSpace s = true)
    (hh : (s.head? != some '#') = true) (ht : (s.head? != some '~') = true) : goodTok s := by
  cases s with
  | nil => cases hne
  | cons x r =>
    simp only [noSpace, List.all_eq_true, Bool.not_eq_true'] at hns
    refine ⟨⟨List.cons_ne_nil _ _, hns⟩, x, r, rfl, ?_, ?_⟩
    · intro h; subst h; simp at ht
    · intro h; subst h; simp at hh

theorem goodTok_printCell (c : DCell) (k : Nat) (hc : wfCell c = true) : goodTok (printCell c k) := by
  cases c with
  | num m e =>
    obtain ⟨x, r, h, h1, h2, _⟩ := printNum_head m e k
    exact ⟨⟨by simp only [printCell]; rw [h]; exact List.cons_ne_nil _ _, printNum_nospace m e k⟩,
      x, r, h, h1, h2⟩
  | bad s =>
    simp only [wfCell, Bool.and_eq_true, Bool.not_eq_true'] at hc
    exact goodTok_of s hc.1.1.1.1 hc.1.1.1.2 hc.1.2 hc.2
  | lit s m e =>
    simp only [wfCell, Bool.and_eq_true, Bool.not_eq_true'] at hc
    exact goodTok_of s hc.1.1.1.1 hc.1.1.1.2 hc.1.2 hc.2

/-- `_convert_value` on a printed cell: the number written, or null for a token that is not a number -/
theorem convertValue_printCell (c : DCell) (k : Nat) (hc : wfCell c = true) :
    convertValue (printCell c k) = expectCell c := by
  cases c with
  | num m e => simp only [printCell, convertValue, parseFloat_printNum, expectCell]
  | bad s =>
    simp only [wfCell, Bool.and_eq_true, Option.isNone_iff_eq_none] at hc
    simp only [printCell, convertValue, hc.1.1.2, expectCell]
  | lit s m e =>
    simp only [wfCell, Bool.and_eq_true, beq_iff_eq] at hc
    simp only [printCell, convertValue, hc.1.1.2, expectCell]

end TD.C09
