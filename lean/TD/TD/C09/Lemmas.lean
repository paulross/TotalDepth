import TD.C09.Spec

/-! Stripping, for any character class. -/
namespace TD.C09

/-! ### stripping -/

theorem stripRP_all (p : Char → Bool) (w : Str) (h : ∀ c ∈ w, p c = true) : stripRP p w = [] := by
  induction w with
  | nil => rfl
  | cons c r ih =>
    have h1 := ih (fun x hx => h x (List.mem_cons_of_mem _ hx))
    simp [stripRP, h1, h c (List.mem_cons_self)]

theorem stripRP_append_nonspace (p : Char → Bool) (A : Str) (c : Char) (T : Str) (hc : p c = false) :
    stripRP p (A ++ c :: T) = A ++ c :: stripRP p T := by
  induction A with
  | nil => simp [stripRP, hc]
  | cons a A ih => simp [stripRP, ih]

theorem stripRP_append_ws (p : Char → Bool) (s w : Str) (h : ∀ c ∈ w, p c = true) :
    stripRP p (s ++ w) = stripRP p s := by
  induction s with
  | nil => simp [stripRP_all p w h, stripRP]
  | cons a s ih => simp [stripRP, ih]

theorem stripRP_ws_append (p : Char → Bool) (w s : Str) (h : ∀ c ∈ w, p c = true) :
    stripRP p (w ++ s) = if (stripRP p s).isEmpty then [] else w ++ stripRP p s := by
  induction w with
  | nil => cases hs : stripRP p s <;> simp [hs]
  | cons a w ih =>
    have h1 := ih (fun x hx => h x (List.mem_cons_of_mem _ hx))
    have ha := h a (List.mem_cons_self)
    cases hs : stripRP p s with
    | nil => simp [stripRP, h1, hs, ha]
    | cons x xs => simp [stripRP, h1, hs]

theorem stripLP_ws_append (p : Char → Bool) (w s : Str) (h : ∀ c ∈ w, p c = true) :
    stripLP p (w ++ s) = stripLP p s := by
  induction w with
  | nil => rfl
  | cons a w ih =>
    have ha := h a (List.mem_cons_self)
    simp only [stripLP, List.cons_append, List.dropWhile_cons, ha, if_true]
    exact ih (fun x hx => h x (List.mem_cons_of_mem _ hx))

theorem stripLP_cons_nonspace (p : Char → Bool) (c : Char) (r : Str) (hc : p c = false) :
    stripLP p (c :: r) = c :: r := by
  simp [stripLP, hc]

/-- padding with white space on both sides does not change the stripped string -/
theorem stripP_pad (p : Char → Bool) (w1 s w2 : Str) (h1 : ∀ c ∈ w1, p c = true) (h2 : ∀ c ∈ w2, p c = true) :
    stripP p (w1 ++ s ++ w2) = stripP p s := by
  unfold stripP
  rw [stripRP_append_ws p _ _ h2, stripRP_ws_append p _ _ h1]
  cases hs : stripRP p s with
  | nil => simp [stripLP]
  | cons x xs => simp only [List.isEmpty_cons]; exact stripLP_ws_append p _ _ h1

theorem stripP_nospace (p : Char → Bool) (s : Str) (h : ∀ c ∈ s, p c = false) : stripP p s = s := by
  have hr : stripRP p s = s := by
    induction s with
    | nil => rfl
    | cons a s ih =>
      have := ih (fun x hx => h x (List.mem_cons_of_mem _ hx))
      simp [stripRP, this, h a (List.mem_cons_self)]
  unfold stripP
  rw [hr]
  cases s with
  | nil => rfl
  | cons a s => exact stripLP_cons_nonspace p a s (h a (List.mem_cons_self))

theorem stripRP_prefix (p : Char → Bool) (s : Str) : stripRP p s <+: s := by
  induction s with
  | nil => exact List.prefix_refl _
  | cons a s ih =>
    simp only [stripRP]
    split
    · exact List.nil_prefix
    · exact (List.cons_prefix_cons).2 ⟨rfl, ih⟩

theorem stripRP_of_stripP_eq (p : Char → Bool) (s : Str) (h : stripP p s = s) : stripRP p s = s := by
  have hp := stripRP_prefix p s
  have hl : s.length ≤ (stripRP p s).length := by
    have : (stripP p s).length ≤ (stripRP p s).length := by
      unfold stripP stripLP
      exact (List.dropWhile_sublist _).length_le
    rw [h] at this; exact this
  exact List.IsPrefix.eq_of_length_le hp hl

theorem isSpace_of_isSpaceC {c : Char} (h : isSpaceC c = true) : isSpace c = true := by
  -- `isSpace` is `isSpaceC` followed by four more alternatives
  show (isSpaceC c || decide (c = '\x1c') || decide (c = '\x1d') || decide (c = '\x1e') || decide (c = '\x1f')) = true
  rw [h]; rfl

theorem isSpaceC_false {c : Char} (h : isSpace c = false) : isSpaceC c = false :=
  Bool.eq_false_iff.2 fun h' => by rw [isSpace_of_isSpaceC h'] at h; cases h

theorem stripC_nospace {s : Str} (h : ∀ c ∈ s, isSpace c = false) : stripC s = s :=
  stripP_nospace _ _ fun c hc => isSpaceC_false (h c hc)

theorem spaces_isSpaceC (n : Nat) : ∀ c ∈ spaces n, isSpaceC c = true := by
  intro c hc
  have := List.eq_of_mem_replicate hc
  subst this; decide

theorem spaces_isSpace (n : Nat) : ∀ c ∈ spaces n, isSpace c = true :=
  fun c hc => isSpace_of_isSpaceC (spaces_isSpaceC n c hc)

theorem strip_ws_head (w : Str) (c : Char) (r : Str) (hw : ∀ x ∈ w, isSpace x = true) (hc : isSpace c = false) :
    strip (w ++ c :: r) = c :: stripRP isSpace r := by
  unfold strip stripP
  rw [stripRP_append_nonspace isSpace w c r hc, stripLP_ws_append isSpace _ _ hw]
  exact stripLP_cons_nonspace isSpace c _ hc

/-- `string_to_value` ignores surrounding C white space -/
theorem stringToValue_pad (w1 s w2 : Str) (h1 : ∀ c ∈ w1, isSpaceC c = true) (h2 : ∀ c ∈ w2, isSpaceC c = true) :
    stringToValue (w1 ++ s ++ w2) = stringToValue s := by
  unfold stringToValue parseInt? parseFloat? stripC strip
  rw [stripP_pad isSpaceC w1 s w2 h1 h2,
      stripP_pad isSpace w1 s w2 (fun c hc => isSpace_of_isSpaceC (h1 c hc)) (fun c hc => isSpace_of_isSpaceC (h2 c hc))]

theorem optToValue_ite (R : Str) : optToValue (if R.isEmpty then none else some R) = stringToValue R := by
  cases R with
  | nil => rfl
  | cons a r => rfl

/-- consequences of `stringToValue s = .text s` -/
theorem text_fixed {s : Str} (h : stringToValue s = .text s) :
    parseInt? s = none ∧ parseFloat? s = none ∧ strip s = s := by
  unfold stringToValue at h
  cases hi : parseInt? s with
  | some i => rw [hi] at h; cases h
  | none =>
    rw [hi] at h
    cases hf : parseFloat? s with
    | some me => rw [hf] at h; cases h
    | none =>
      rw [hf] at h
      refine ⟨rfl, rfl, ?_⟩
      simp only [typeText] at h
      split at h
      · cases h
      · split at h
        · cases h
        · injection h

end TD.C09
