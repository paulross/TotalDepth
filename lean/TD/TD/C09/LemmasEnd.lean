import TD.C09.LemmasRun

/-! A last line without line feed. -/
namespace TD.C09

theorem splitLinesAux_split (a b cur : Str) :
    splitLinesAux (a ++ '\n' :: b) cur = splitLinesAux (a ++ ['\n']) cur ++ splitLinesAux b [] := by
  induction a generalizing cur with
  | nil => simp [splitLinesAux]
  | cons c a ih =>
    by_cases hc : c = '\n'
    · subst hc; simp only [List.cons_append, splitLinesAux, if_true, ih, List.cons_append]
    · simp only [List.cons_append, splitLinesAux, hc, if_false, ih]

theorem splitLinesAux_last (l cur : Str) (h : ∀ c ∈ l, c ≠ '\n') (hne : l ≠ [] ∨ cur ≠ []) :
    splitLinesAux l cur = [cur.reverse ++ l] := by
  induction l generalizing cur with
  | nil =>
    have : cur ≠ [] := by
      rcases hne with h | h
      · exact absurd rfl h
      · exact h
    have h2 : cur.isEmpty = false := by cases cur <;> simp_all
    simp [splitLinesAux, h2]
  | cons a l ih =>
    have ha : a ≠ '\n' := h a List.mem_cons_self
    simp only [splitLinesAux, ha, if_false]
    rw [ih (a :: cur) (fun x hx => h x (List.mem_cons_of_mem _ hx)) (Or.inr (by simp))]
    simp

theorem run_append (st : St) (xs ys : List Str) :
    run st (xs ++ ys) = match run st xs with
      | .ok st' => run st' ys
      | .error e => .error e := by
  induction xs generalizing st with
  | nil => rfl
  | cons x xs ih =>
    simp only [List.cons_append, run]
    cases step st x with
    | error e => rfl
    | ok st' => exact ih st'

theorem splitWsAux_final_lf (l cur : Str) : splitWsAux (l ++ ['\n']) cur = splitWsAux l cur := by
  induction l generalizing cur with
  | nil =>
    simp only [List.nil_append, splitWsAux, show isSpace '\n' = true from by decide, if_true]
    cases cur <;> simp
  | cons a l ih =>
    simp only [List.cons_append, splitWsAux, ih]

theorem isComment_final_lf (l : Str) : isComment (l ++ ['\n']) = isComment l := by
  rw [isComment_eq, isComment_eq, List.dropWhile_append]
  cases l.dropWhile isSpace <;> rfl

theorem keepLine_final_lf (l : Str) (hl : l ≠ []) (hn : ∀ c ∈ l, c ≠ '\n') :
    keepLine (l ++ ['\n']) = keepLine l := by
  have h1 : (l ++ ['\n'] != ['\n']) = true := bne_iff_ne.2 fun h => hl (List.append_left_eq_self.1 h)
  have h2 : (l != ['\n']) = true := bne_iff_ne.2 fun h => hn '\n' (h ▸ List.mem_singleton.2 rfl) rfl
  simp only [keepLine, h1, h2, isComment_final_lf]

theorem sectHead_of_ne (a : Char) (r : Str) (h : a ≠ '~') : sectHead (a :: r) = none := by
  unfold sectHead
  split
  · rename_i heq; injection heq with h1 _; exact absurd h1 h
  · rfl

theorem sectHead_final_lf (l : Str) (hl : l ≠ []) : sectHead (l ++ ['\n']) = sectHead l := by
  cases l with
  | nil => exact absurd rfl hl
  | cons a r =>
    by_cases ha : a = '~'
    · subst ha
      cases r with
      | nil =>
        show (if isSectLetter '\n' then some '\n' else none) = none
        rw [if_neg (by rw [isSectLetter, sectLetters]; decide)]
      | cons b r => rfl
    · rw [List.cons_append, sectHead_of_ne a _ ha, sectHead_of_ne a _ ha]

/-- a last line delivered without its line feed is processed like the same line with it -/
theorem step_final_lf (st : St) (l : Str) (hl : l ≠ []) :
    step st (l ++ ['\n']) = step st l := by
  have hstrip : strip (l ++ ['\n']) = strip l := by
    unfold strip stripP; rw [stripRP_append_ws isSpace l ['\n'] (by decide)]
  have hhead : (l ++ ['\n']).head? = l.head? := by cases l <;> simp_all
  unfold step
  cases st.cur with
  | top => simp only [hstrip]
  | consume => simp only [hstrip, sectHead_final_lf l hl]
  | sect typ hdr members => simp only [hstrip]
  | arr a =>
    have hs : splitWs (l ++ ['\n']) = splitWs l := by simp only [splitWs, splitWsAux_final_lf]
    simp only [hhead, arrAddLine, hs]

end TD.C09
