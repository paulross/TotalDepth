import TD.C09.LemmasSect

/-! The sections up to the `~A` line, and the data section. -/
namespace TD.C09

theorem closeNonV (done : List Section) (w : Option Value) (t : Char) (h : Bool) (ms : List Member)
    (hV : t ≠ 'V') (hno : done.any (fun x => x.typ == t) = false) :
    finaliseSect ⟨done, w, none, .sect t h ms⟩ t ms = .ok ⟨⟨t, ms.reverse⟩ :: done, w, none, .top⟩ := by
  simp [finaliseSect, hV, St.hasType, hno]

theorem any_typ_false (l : List Section) (t : Char) (h : t ∉ l.map (·.typ)) : l.any (fun x => x.typ == t) = false :=
  List.any_eq_false.2 fun x hx hb => h (List.mem_map.2 ⟨x, hx, beq_iff_eq.1 hb⟩)

/-- invariant: types to come, open and closed are distinct -/
theorem feed_sections (ss : List CSect) (la : SectLay) (rest : Str) : ∀ (ls : List SectLay) (done : List Section)
    (w w' : Option Value) (t0 : Char) (h0 : Bool) (ms0 : List Member),
    finaliseSect ⟨done, w, none, .sect t0 h0 ms0⟩ t0 ms0 = .ok ⟨⟨t0, ms0.reverse⟩ :: done, w', none, .top⟩ →
    (⟨t0, ms0.reverse⟩ :: done : List Section).any (fun x => x.typ == 'V') = true →
    (∀ s ∈ ss, wfSect s = true) →
    (ss.map CSect.typ ++ t0 :: done.map (·.typ)).Nodup →
    feed ⟨done, w, none, .sect t0 h0 ms0⟩ (printSects ss ls ++ (printHead 'A' la ++ rest)) =
      thenFeed (openA ⟨(ss.map expectSect).reverse ++ ⟨t0, ms0.reverse⟩ :: done, w', none, .top⟩) rest := by
  induction ss with
  | nil =>
    intro ls done w w' t0 h0 ms0 hclose _ _ _
    exact (feed_head done w none t0 h0 ms0 _ 'A' la rest (by decide) hclose).trans (by rw [topLevel_A]; rfl)
  | cons s ss ih =>
    intro ls done w w' t0 h0 ms0 hclose hV hwf hnd
    have hs := hwf s List.mem_cons_self
    have hno := any_typ_false (⟨t0, ms0.reverse⟩ :: done) s.typ
      fun h => (List.nodup_cons.1 hnd).1 (List.mem_append_right _ h)
    simp only [printSects, List.append_assoc]
    rw [feed_sect done w w' t0 h0 ms0 s _ _ hs hclose hV,
      ih ls.tail (⟨t0, ms0.reverse⟩ :: done) w' w' s.typ (secHdr s) (secMembers s).reverse
        (closeNonV _ w' s.typ _ _ (wfSect_facts hs).2.1 hno) (by rw [List.any_cons, hV, Bool.or_true])
        (fun x hx => hwf x (List.mem_cons_of_mem _ hx)) (List.perm_middle.nodup_iff.2 hnd)]
    simp [expectSect_eq]

/-! ### the data section -/

/-- `add_member_line` after `split()` -/
def arrAddToks (a : ArrSt) (values : List Str) : Except Err ArrSt :=
  if values.isEmpty then .ok a
  else if a.wrap then
    if a.buf.isEmpty then
      match values with
      | [v] =>
        if a.names.length = 1 then .ok { a with members := [v] :: a.members }
        else .ok { a with buf := [v] }
      | _ => .error .wrapIndex
    else
      let buf := a.buf ++ values
      if buf.length = a.names.length then .ok { a with members := buf :: a.members, buf := [] }
      else if buf.length > a.names.length then .error .wrapOverflow
      else .ok { a with buf := buf }
  else .ok { a with members := values :: a.members }

theorem arrAddLine_eq (a : ArrSt) (line : Str) : arrAddLine a line = arrAddToks a (splitWs line) := rfl

section
variable (S : List Section) (w : Option Value) (nl : Int × Int) (names : List (Value × Value))
  (members : List (List Str))

theorem arrAddToks_index (t : Str) :
    arrAddToks ⟨true, nl, names, members, []⟩ [t] =
      if names.length = 1 then .ok ⟨true, nl, names, [t] :: members, []⟩ else .ok ⟨true, nl, names, members, [t]⟩ := rfl

theorem arrAddToks_cont (pre ts : List Str) (hp : pre ≠ []) (ht : ts ≠ []) :
    arrAddToks ⟨true, nl, names, members, pre⟩ ts =
      if (pre ++ ts).length = names.length then .ok ⟨true, nl, names, (pre ++ ts) :: members, []⟩
      else if (pre ++ ts).length > names.length then .error .wrapOverflow
      else .ok ⟨true, nl, names, members, pre ++ ts⟩ := by
  cases pre with
  | nil => exact absurd rfl hp
  | cons p ps =>
    cases ts with
    | nil => exact absurd rfl ht
    | cons t ts => rfl

def thenArr (S : List Section) (w : Option Value) (r : Except Err ArrSt) (rest : Str) : Except Err St :=
  match r with
  | .ok a' => feed ⟨S, w, none, .arr a'⟩ rest
  | .error e => .error e

theorem goodTok_cells (row : List DCell) (k : Nat) (hc : ∀ c ∈ row, wfCell c = true) :
    ∀ t ∈ row.map (printCell · k), goodTok t := by
  intro t ht
  obtain ⟨d, hd, rfl⟩ := List.mem_map.1 ht
  exact goodTok_printCell d k (hc d hd)

theorem joinToks_noLF (toks : List Str) (seps : List (List Bool)) (ht : ∀ t ∈ toks, isTok t) :
    ∀ c ∈ joinToks toks seps, c ≠ '\n' := by
  induction toks generalizing seps with
  | nil => intro c hc; simp [joinToks] at hc
  | cons t ts ih =>
    have h1 := noLF_of_nospace (ht t List.mem_cons_self).2
    cases ts with
    | nil => simpa [joinToks] using h1
    | cons t2 ts =>
      simp only [joinToks]
      exact noLF_append (noLF_append h1 (noLF_cons (by decide) (blanks_noLF _)))
        (ih seps.tail (fun x hx => ht x (List.mem_cons_of_mem _ hx)))

theorem joinToks_head (t : Str) (ts : List Str) (seps : List (List Bool)) :
    ∃ r, joinToks (t :: ts) seps = t ++ r := by
  cases ts with
  | nil => exact ⟨[], by simp [joinToks]⟩
  | cons t2 ts => exact ⟨_, by simp only [joinToks, List.append_assoc]; rfl⟩

theorem head_ne_tilde (w : Str) (c : Char) (r : Str) (hw : ∀ x ∈ w, isSpace x = true) (hc : c ≠ '~') :
    (w ++ c :: r).head? ≠ some '~' := by
  cases w with
  | nil => simpa using hc
  | cons b bs =>
    intro h
    simp only [List.cons_append, List.head?_cons, Option.some.injEq] at h
    subst h
    exact absurd (hw '~' List.mem_cons_self) (by decide)

/-- one physical data line fed to the open array section -/
theorem feed_dataline (a : ArrSt) (t : Str) (ts : List Str) (r : RowLay) (rest : Str)
    (hg : ∀ x ∈ t :: ts, goodTok x) :
    feed ⟨S, w, none, .arr a⟩ (printDataLine (t :: ts) r ++ rest) = thenArr S w (arrAddToks a (t :: ts)) rest := by
  have ht : ∀ x ∈ t :: ts, isTok x := fun x hx => (hg x hx).1
  obtain ⟨_, x, xr, hx, hx1, hx2⟩ := hg t List.mem_cons_self
  have hxs : isSpace x = false := (ht t List.mem_cons_self).2 x (by rw [hx]; exact List.mem_cons_self)
  obtain ⟨jr, hj⟩ := joinToks_head t ts r.seps
  have hb : joinToks (t :: ts) r.seps ++ blanks r.trail = x :: (xr ++ jr ++ blanks r.trail) := by
    rw [hj, hx]; simp only [List.cons_append, List.append_assoc]
  have hl : blanks r.lead ++ (joinToks (t :: ts) r.seps ++ blanks r.trail) ++ ['\n'] = printDataLine (t :: ts) r := by
    simp only [printDataLine, List.append_assoc]
  have hhead : (printDataLine (t :: ts) r).head? ≠ some '~' := by
    rw [← hl, hb, List.append_assoc]; exact head_ne_tilde _ x _ (blanks_isSpace _) hx1
  simp only [printDataLine, List.append_assoc]
  rw [← List.append_assoc (joinToks _ _),
    feed_printed _ _ _ _ x _ hb (blanks_isSpace _) hxs hx2 (blanks_noLF _) (noLF_append (joinToks_noLF _ _ ht) (blanks_noLF _)),
    hl, step_arr S w none a _ hhead, arrAddLine_eq, data_line_tokens (t :: ts) r ht]
  cases arrAddToks a (t :: ts) <;> rfl

/-- the tokens of every row, as printed under the layout -/
def rowToks : List (List DCell) → List RowLay → List (List Str)
  | [], _ => []
  | row :: rows, rs => row.map (printCell · (rs.headD {}).k) :: rowToks rows rs.tail

theorem feed_row_unwrapped (row : List DCell) (r : RowLay) (rest : Str)
    (hne : row ≠ []) (hc : ∀ c ∈ row, wfCell c = true) :
    feed ⟨S, w, none, .arr ⟨false, nl, names, members, []⟩⟩ (printRowUnwrapped row r ++ rest) =
      feed ⟨S, w, none, .arr ⟨false, nl, names, row.map (printCell · r.k) :: members, []⟩⟩ rest := by
  have hg := goodTok_cells row r.k hc
  cases row with
  | nil => exact absurd rfl hne
  | cons c cs =>
    simp only [printRowUnwrapped, List.append_assoc]
    rw [feed_junk, List.map_cons, feed_dataline S w _ _ _ r rest hg]
    rfl

theorem chunks_flatten {α : Type} (n : Nat) : ∀ (fuel : Nat) (l : List α), l.length ≤ fuel →
    (chunks n fuel l).flatten = l := by
  intro fuel
  induction fuel with
  | zero => intro l h; have : l = [] := List.eq_nil_of_length_eq_zero (by omega); subst this; rfl
  | succ f ih =>
    intro l h
    cases l with
    | nil => rfl
    | cons a l =>
      simp only [chunks, List.isEmpty_cons, Bool.false_eq_true, if_false, List.flatten_cons]
      rw [ih _ (by simp only [List.length_drop, List.length_cons] at h ⊢; omega)]
      exact List.take_append_drop _ _

theorem chunks_nonempty {α : Type} (n : Nat) : ∀ (fuel : Nat) (l : List α), ∀ c ∈ chunks n fuel l, c ≠ [] := by
  intro fuel
  induction fuel with
  | zero => intro l c hc; cases hc
  | succ f ih =>
    intro l c hc
    cases l with
    | nil => cases hc
    | cons a l =>
      rcases List.mem_cons.1 hc with hc | hc
      · rw [hc]; exact List.cons_ne_nil _ _
      · exact ih _ c hc

theorem feed_chunks (cs : List (List Str)) (r : RowLay) (rest : Str) : ∀ (pre : List Str),
    pre ≠ [] → cs ≠ [] → (∀ c ∈ cs, c ≠ []) → (∀ t ∈ cs.flatten, goodTok t) →
    pre.length + cs.flatten.length = names.length →
    feed ⟨S, w, none, .arr ⟨true, nl, names, members, pre⟩⟩ ((cs.map (printDataLine · r)).flatten ++ rest) =
      feed ⟨S, w, none, .arr ⟨true, nl, names, (pre ++ cs.flatten) :: members, []⟩⟩ rest := by
  induction cs with
  | nil => intro pre _ h; exact absurd rfl h
  | cons c cs ih =>
    intro pre hpre _ hcs hg hlen
    obtain ⟨hct, hg'⟩ := List.forall_mem_append.1 (List.flatten_cons ▸ hg)
    cases c with
    | nil => exact absurd rfl (hcs [] List.mem_cons_self)
    | cons t ts =>
      simp only [List.map_cons, List.flatten_cons, List.append_assoc]
      rw [feed_dataline S w _ t ts r _ hct, arrAddToks_cont nl names members pre (t :: ts) hpre (List.cons_ne_nil _ _)]
      simp only [List.flatten_cons, List.length_append] at hlen
      cases cs with
      | nil =>
        rw [if_pos (by simpa using hlen)]
        simp only [thenArr, List.flatten_nil, List.append_nil]
        rfl
      | cons c2 cs =>
        have hpos : 0 < c2.length := List.length_pos_iff.2 (hcs c2 (List.mem_cons_of_mem _ List.mem_cons_self))
        simp only [List.flatten_cons, List.length_append] at hlen
        rw [if_neg (by rw [List.length_append]; omega), if_neg (by rw [List.length_append]; omega)]
        simp only [thenArr]
        rw [ih (pre ++ t :: ts) (by simp) (List.cons_ne_nil _ _)
          (fun x hx => hcs x (List.mem_cons_of_mem _ hx)) hg'
          (by simp only [List.flatten_cons, List.length_append]; omega)]
        simp only [List.flatten_cons, List.append_assoc]

theorem feed_row_wrapped (row : List DCell) (r : RowLay) (rest : Str)
    (hne : row ≠ []) (hlen : row.length = names.length) (hc : ∀ c ∈ row, wfCell c = true) :
    feed ⟨S, w, none, .arr ⟨true, nl, names, members, []⟩⟩ (printRowWrapped row r ++ rest) =
      feed ⟨S, w, none, .arr ⟨true, nl, names, row.map (printCell · r.k) :: members, []⟩⟩ rest := by
  have hg := goodTok_cells row r.k hc
  cases row with
  | nil => exact absurd rfl hne
  | cons c cs =>
    simp only [printRowWrapped, List.append_assoc]
    rw [feed_junk, feed_dataline S w _ _ [] r _ (fun x hx => hg x (by simp at hx; simp [hx])), arrAddToks_index]
    cases cs with
    | nil =>
      -- only the index curve: the frame is complete with its index line
      rw [if_pos (by simpa using hlen.symm)]
      rfl
    | cons c2 cs =>
      rw [if_neg (by simp at hlen; omega)]
      have hl := chunks_flatten r.perLine (c2 :: cs).length ((c2 :: cs).map (printCell · r.k)) (by simp)
      simp only [thenArr]
      rw [feed_chunks S w nl names members _ r _ [printCell c r.k] (by simp)
        (fun h => by rw [h] at hl; exact absurd hl (by simp)) (chunks_nonempty _ _ _)
        (by rw [hl]; exact fun t ht => hg t (List.mem_cons_of_mem _ ht))
        (by rw [hl]; simp at hlen ⊢; omega), hl]
      rfl

theorem feed_rows (wrap : Bool) (rows : List (List DCell)) (rest : Str) : ∀ (rs : List RowLay) (members : List (List Str)),
    (∀ row ∈ rows, row ≠ [] ∧ row.length = names.length ∧ ∀ c ∈ row, wfCell c = true) →
    feed ⟨S, w, none, .arr ⟨wrap, nl, names, members, []⟩⟩ (printRows wrap rows rs ++ rest) =
      feed ⟨S, w, none, .arr ⟨wrap, nl, names, (rowToks rows rs).reverse ++ members, []⟩⟩ rest := by
  induction rows with
  | nil => intro rs members _; rfl
  | cons row rows ih =>
    intro rs members hw
    obtain ⟨hne, hlen, hc⟩ := hw row List.mem_cons_self
    have hrow : feed ⟨S, w, none, .arr ⟨wrap, nl, names, members, []⟩⟩
        ((if wrap then printRowWrapped row (rs.headD {}) else printRowUnwrapped row (rs.headD {})) ++
          (printRows wrap rows rs.tail ++ rest)) =
        feed ⟨S, w, none, .arr ⟨wrap, nl, names, row.map (printCell · (rs.headD {}).k) :: members, []⟩⟩
          (printRows wrap rows rs.tail ++ rest) := by
      cases wrap with
      | true => exact feed_row_wrapped S w nl names members row _ _ hne hlen hc
      | false => exact feed_row_unwrapped S w nl names members row _ _ hne hc
    simp only [printRows, List.append_assoc]
    rw [hrow, ih rs.tail _ (fun r hr => hw r (List.mem_cons_of_mem _ hr))]
    simp only [rowToks, List.reverse_cons, List.append_assoc, List.singleton_append]

end

theorem rowToks_length (rows : List (List DCell)) : ∀ (rs : List RowLay) (n : Nat),
    (∀ row ∈ rows, row.length = n) → ∀ t ∈ rowToks rows rs, t.length = n := by
  induction rows with
  | nil => intro rs n _ t ht; simp [rowToks] at ht
  | cons row rows ih =>
    intro rs n h t ht
    simp only [rowToks, List.mem_cons] at ht
    rcases ht with ht | ht
    · subst ht; simp [h row List.mem_cons_self]
    · exact ih rs.tail n (fun r hr => h r (List.mem_cons_of_mem _ hr)) t ht

theorem convert_rowToks (rows : List (List DCell)) : ∀ (rs : List RowLay),
    (∀ row ∈ rows, ∀ c ∈ row, wfCell c = true) →
    (rowToks rows rs).map (fun r => r.map convertValue) = rows.map (fun r => r.map expectCell) := by
  induction rows with
  | nil => intro rs _; rfl
  | cons row rows ih =>
    intro rs h
    simp only [rowToks, List.map_cons, List.map_map]
    rw [ih rs.tail (fun r hr => h r (List.mem_cons_of_mem _ hr))]
    congr 1
    apply List.map_congr_left
    intro c hc
    exact convertValue_printCell c _ (h row List.mem_cons_self c hc)

/-- `LASSectionArray.finalise` on the rows read -/
theorem finaliseArr_rows (wrap : Bool) (nl : Int × Int) (names : List (Value × Value)) (rows : List (List DCell))
    (rs : List RowLay)
    (hrows : ∀ row ∈ rows, row.length = names.length ∧ ∀ c ∈ row, wfCell c = true)
    (hdup : hasDupX (rows.map (fun r => cellKey nl (expectCell (r.headD (.bad []))))) = false) :
    finaliseArr ⟨wrap, nl, names, (rowToks rows rs).reverse, []⟩ =
      .ok ⟨names, nl, rows.map (fun r => r.map expectCell)⟩ := by
  unfold finaliseArr
  simp only [List.isEmpty_nil, Bool.not_true, Bool.false_and, List.reverse_reverse, Bool.false_eq_true, if_false]
  cases hr : rows with
  | nil => simp [rowToks]
  | cons row rows' =>
    rw [← hr]
    have hne : (rowToks rows rs).isEmpty = false := by rw [hr]; simp [rowToks]
    have hcols : (rowToks rows rs).any (fun r => r.length != names.length) = false := by
      rw [List.any_eq_false]
      intro t ht
      have := rowToks_length rows rs names.length (fun r hr => (hrows r hr).1) t ht
      simp [this]
    have hkeys : ((rowToks rows rs).map (fun r => r.map convertValue)).map (fun r => cellKey nl (r.headD .null)) =
        rows.map (fun r => cellKey nl (expectCell (r.headD (.bad [])))) := by
      rw [convert_rowToks rows rs (fun r hr => (hrows r hr).2), List.map_map]
      apply List.map_congr_left
      intro r _
      cases r <;> rfl
    simp only [hne, hcols, Bool.false_eq_true, if_false, hkeys, hdup, Bool.and_false]
    rw [convert_rowToks rows rs (fun r hr => (hrows r hr).2)]

end TD.C09
