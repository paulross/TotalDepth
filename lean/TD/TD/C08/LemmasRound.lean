import TD.C08.LemmasWrite

/-! The bytes of a table of good blocks, and `LrTableRead` on them. -/
namespace TD.C08

theorem rtVal_empty {v : Val} (h : rtVal v = .bytes []) : v = .bytes [] := by
  cases v <;> simp_all [rtVal]

theorem genLisBytes_ok (W : TS) (c : Cb) (hWt : W.tcb = some c) (hc : CbGood c)
    (hord : ∀ r ∈ W.rows, rowInColOrder W.cols r = r) (hgood : ∀ cb ∈ W.rows.flatten, CbGood cb) :
    genLisBytes W = .ok (encRaw c ++ W.rows.flatten.flatMap encRaw) := by
  have h1 : W.rows.flatMap (fun row => (rowInColOrder W.cols row).map encCb) = W.rows.flatten.map encCb := by
    rw [List.flatMap_def, List.map_flatten]
    congr 1
    exact List.map_congr_left (fun r hr => by rw [hord r hr])
  simp only [genLisBytes, hWt, h1]
  exact concatE_append (by simp [concatE, (cb_enc_read c hc).1])
    (concatE_map_ok encCb encRaw _ (fun cb hcb => (cb_enc_read cb (hgood cb hcb)).1))

theorem tableRead_enc (ty : Nat) (hty : isTableLrType ty = true) (c : Cb) (hc : CbGood c) (h73 : c.type = 73)
    (cbs : List Cb) (hcbs : ∀ cb ∈ cbs, CbGood cb) :
    tableRead ([ty, 0] ++ (encRaw c ++ cbs.flatMap encRaw))
      = (stepAll (cbs.map rtCb) { TS.empty with tcb := some (rtCb c) }).bind indexLast := by
  have hlen : ∀ cb ∈ cbs, 1 ≤ (encRaw cb).length := fun cb hcb => by have := (cb_enc_read cb (hcbs cb hcb)).2.1; omega
  have h73' : (rtCb c).type = 73 := h73
  unfold tableRead
  rw [unpackN_append (n := 2) [ty, 0] _ rfl (by decide)]
  simp only [List.getD_cons_zero, hty, Bool.not_true, Bool.false_eq_true, if_false, (cb_enc_read c hc).2.2 _, h73',
    if_true]
  rw [tableLoop_enc encRaw rtCb cbs (fun cb hcb => ⟨hlen cb hcb, (cb_enc_read cb (hcbs cb hcb)).2.2⟩) _ _
    (length_le_flatMap encRaw cbs hlen)]
  cases stepAll (cbs.map rtCb) _ <;> rfl

theorem rowCbsFrom_mnems (cells : List Cell) : ∀ (ms : List Bytes) (c : Nat), cells.length = ms.length →
    (rowCbsFrom c cells ms).map (·.mnem) = ms := by
  induction cells with
  | nil => intro ms c h; cases ms <;> simp_all [rowCbsFrom]
  | cons x xs ih =>
    intro ms c h
    cases ms with
    | nil => simp at h
    | cons m ms => simp [rowCbsFrom, cellCb, ih ms (c + 1) (by simpa using h)]

theorem rowOk_rowCbs (r : List Cell) (ms : List Bytes) (hl : r.length = ms.length) (hne : ms ≠ []) :
    RowOk (rowCbsFrom 0 r ms) := by
  obtain ⟨c, cs, m, ms, rfl, rfl⟩ := exists_cons_of_length_eq hl hne
  refine ⟨cellCb 0 m c, rowCbsFrom 1 cs ms, by simp [rowCbsFrom], rfl, fun x hx => ?_⟩
  obtain ⟨_, _, _, _, k, hk, rfl⟩ := mem_rowCbsFrom cs ms 1 hx
  exact if_neg (by omega)

theorem rowCbs_good (cells : List Cell) (ms : List Bytes) (c : Nat)
    (hv : ∀ x ∈ cells, x.v.legal ∧ (unitsOf x.u).length = 4) (hm : ∀ m ∈ ms, m.length = 4) :
    ∀ cb ∈ rowCbsFrom c cells ms, CbGood cb := by
  intro cb h
  obtain ⟨cell, hc, m, hmm, k, _, rfl⟩ := mem_rowCbsFrom cells ms c h
  exact ⟨_, cell.v, m, unitsOf cell.u, rfl, by split <;> decide, (hv cell hc).1, hm m hmm, (hv cell hc).2⟩

theorem rowOk_map_rt (r : List Cb) (h : RowOk r) : RowOk (r.map rtCb) := by
  obtain ⟨hd, cells, rfl, hh, hc⟩ := h
  refine ⟨rtCb hd, cells.map rtCb, by simp, hh, ?_⟩
  intro c hcm
  obtain ⟨c', hc', rfl⟩ := List.mem_map.1 hcm
  exact hc c' hc'

theorem getByLabel_map_rt (r : List Cb) (lab : Bytes) : getByLabel (r.map rtCb) lab = (getByLabel r lab).map rtCb := by
  induction r with
  | nil => rfl
  | cons a r ih =>
    simp only [getByLabel, List.map_cons, List.find?_cons] at ih ⊢
    have : (rtCb a).mnem = a.mnem := rfl
    rw [this]
    split
    · rfl
    · exact ih

end TD.C08
