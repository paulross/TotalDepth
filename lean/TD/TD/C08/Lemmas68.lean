import TD.C08.Model
import Mathlib.Tactic.Ring
import Mathlib.Tactic.Positivity

/-! Representation code 68: representable values are fixed points of `from68 ∘ to68`. -/
namespace TD.C08

theorem normAux_pow (m : Int) (hm : m % 2 = 1) :
    ∀ (k fuel : Nat) (e : Int), k < fuel → normAux fuel (m * 2 ^ k) e = ⟨m, e + k⟩ := by
  intro k
  induction k with
  | zero =>
    intro fuel e h
    cases fuel with
    | zero => omega
    | succ fuel =>
      have h0 : m ≠ 0 := by omega
      have h2 : ¬ m % 2 = 0 := by omega
      simp [normAux, h0, h2]
  | succ k ih =>
    intro fuel e h
    cases fuel with
    | zero => omega
    | succ fuel =>
      have hm0 : m ≠ 0 := by omega
      have hp : (2:Int) ^ (k + 1) ≠ 0 := by positivity
      have h0 : m * 2 ^ (k + 1) ≠ 0 := Int.mul_ne_zero hm0 hp
      have hmul : m * 2 ^ (k + 1) = (m * 2 ^ k) * 2 := by rw [Int.pow_succ, Int.mul_assoc]
      have heven : (m * 2 ^ (k + 1)) % 2 = 0 := by rw [hmul]; exact Int.mul_emod_left _ _
      have hdiv : (m * 2 ^ (k + 1)) / 2 = m * 2 ^ k := by rw [hmul]; exact Int.mul_ediv_cancel _ (by decide)
      simp only [normAux, h0, heven, hdiv, if_false, if_true]
      rw [ih fuel (e + 1) (by omega)]
      congr 1
      push_cast; omega

theorem from68_word (sg E T : Nat) (hs : sg < 2) (hE : E < 256) (hT : T < 8388608) :
    from68 ((sg * 256 + E) * 8388608 + T) =
      if sg = 1 then Dy.norm ⟨(T : Int) - 8388608, 104 - (E : Int)⟩ else Dy.norm ⟨T, (E : Int) - 151⟩ := by
  unfold from68
  have h1 : ((sg * 256 + E) * 8388608 + T) % 8388608 = T := Nat.mul_add_mod_of_lt hT
  have h2 : ((sg * 256 + E) * 8388608 + T) / 8388608 = sg * 256 + E := by
    rw [Nat.mul_comm, Nat.mul_add_div (by decide), Nat.div_eq_of_lt hT, Nat.add_zero]
  have h3 : ((sg * 256 + E) * 8388608 + T) / 2147483648 = sg := by
    rw [show 2147483648 = 8388608 * 256 from rfl, ← Nat.div_div_eq_div_mul, h2, Nat.mul_comm, Nat.mul_add_div (by decide),
      Nat.div_eq_of_lt hE, Nat.add_zero]
  simp only [h1, h2, h3, Nat.mul_add_mod_of_lt hE, Nat.mod_eq_of_lt hs]

theorem from68_pos (t x : Int) (ht : 0 ≤ t ∧ t < 8388608) (hx : -128 ≤ x ∧ x ≤ 127) :
    from68 (((x - 128) % 256).toNat * 8388608 + (t % 8388608).toNat) = Dy.norm ⟨t, x - 23⟩ := by
  have hE : (x - 128) % 256 = x + 128 := by omega
  have := from68_word 0 (x + 128).toNat t.toNat (by decide) (by omega) (by omega)
  rw [Nat.zero_mul, Nat.zero_add] at this
  rw [Int.emod_eq_of_lt ht.1 ht.2, hE, this, if_neg (by decide), Int.toNat_of_nonneg ht.1,
    Int.toNat_of_nonneg (by omega)]
  congr 2; omega

theorem from68_neg (t x : Int) (ht : -8388608 < t ∧ t < 0) (hx : -128 ≤ x ∧ x ≤ 127) :
    from68 ((256 + ((127 - x) % 256).toNat) * 8388608 + (t % 8388608).toNat) = Dy.norm ⟨t, x - 23⟩ := by
  have hT : t % 8388608 = t + 8388608 := by omega
  have := from68_word 1 (127 - x).toNat (t + 8388608).toNat (by decide) (by omega) (by omega)
  rw [Nat.one_mul] at this
  rw [hT, Int.emod_eq_of_lt (by omega) (by omega), this, if_pos rfl, Int.toNat_of_nonneg (by omega),
    Int.toNat_of_nonneg (by omega)]
  congr 2 <;> omega

/-- normalised dyadics that code 68 represents exactly: zero, or odd mantissa with the `frexp` exponent in
(−151, 127] and no bit below 2^(max(exponent, −128) − 23) -/
def Rep68 (d : Dy) : Prop :=
  (d.m = 0 ∧ d.e = 0) ∨
  (d.m % 2 = 1 ∧ -151 < frexpE d ∧ frexpE d ≤ 127 ∧ (if frexpE d < -128 then -128 else frexpE d) - 23 ≤ d.e)

theorem norm_shift (m : Int) (hm : m % 2 = 1) (k : Nat) (e : Int) : Dy.norm ⟨m * 2 ^ k, e⟩ = ⟨m, e + k⟩ := by
  unfold Dy.norm
  apply normAux_pow m hm k _ e
  have h1 : k < 2 ^ k := Nat.lt_two_pow_self
  have h2 : (m * 2 ^ k).natAbs = m.natAbs * 2 ^ k := by
    rw [Int.natAbs_mul]; congr 1
  have h3 : 1 ≤ m.natAbs := by omega
  have : 2 ^ k ≤ m.natAbs * 2 ^ k := Nat.le_mul_of_pos_left _ h3
  simp only [h2]; omega

theorem f68_fixed (d : Dy) (h : Rep68 d) : from68 (to68 d) = d := by
  rcases h with ⟨hm, he⟩ | ⟨hodd, hlo, hhi, hres⟩
  · obtain ⟨m, e⟩ := d; simp only at hm he; subst hm; subst he; decide
  · obtain ⟨m, e⟩ := d
    simp only at hodd hres
    have hm0 : m ≠ 0 := by omega
    have hfe : frexpE ⟨m, e⟩ = ((m.natAbs.log2 + 1 : Nat) : Int) + e := by simp [frexpE, hm0]
    generalize hx : (if frexpE ⟨m, e⟩ < -128 then -128 else frexpE ⟨m, e⟩) = x at hres
    have hx1 : -128 ≤ x ∧ x ≤ 127 ∧ frexpE ⟨m, e⟩ ≤ x := by
      rw [← hx]; split <;> omega
    obtain ⟨k, hk⟩ : ∃ k : Nat, e + 23 - x = k := ⟨(e + 23 - x).toNat, by omega⟩
    -- `log2 |m| + 1 + k = frexp exponent - x + 23 ≤ 23`
    have hT : (m * 2 ^ k).natAbs < 2 ^ 23 := by
      have hsum : m.natAbs.log2 + 1 + k ≤ 23 := by have := hx1.2.2; rw [hfe] at this; omega
      calc (m * 2 ^ k).natAbs = m.natAbs * 2 ^ k := by rw [Int.natAbs_mul, Int.natAbs_pow]; rfl
        _ < 2 ^ (m.natAbs.log2 + 1) * 2 ^ k := Nat.mul_lt_mul_of_pos_right Nat.lt_log2_self (by positivity)
        _ = 2 ^ (m.natAbs.log2 + 1 + k) := (Nat.pow_add ..).symm
        _ ≤ 2 ^ 23 := Nat.pow_le_pow_right (by decide) hsum
    have hpow : (0:Int) < 2 ^ k := by positivity
    have hfin : Dy.norm ⟨m * 2 ^ k, x - 23⟩ = ⟨m, e⟩ := by
      rw [norm_shift m hodd]; congr 1; omega
    unfold to68
    simp only [show ¬ frexpE ⟨m, e⟩ ≤ -151 by omega, show ¬ frexpE ⟨m, e⟩ > 127 by omega, if_false, hx, hk,
      Int.toNat_natCast, show (0:Int) ≤ (k:Int) by omega, if_true]
    by_cases hneg : m < 0
    · have := Int.mul_neg_of_neg_of_pos hneg hpow
      rw [if_pos hneg, from68_neg _ x ⟨by omega, this⟩ ⟨hx1.1, hx1.2.1⟩, hfin]
    · have := Int.mul_nonneg (show 0 ≤ m by omega) (Int.le_of_lt hpow)
      rw [if_neg hneg, from68_pos _ x ⟨this, by omega⟩ ⟨hx1.1, hx1.2.1⟩, hfin]

end TD.C08
