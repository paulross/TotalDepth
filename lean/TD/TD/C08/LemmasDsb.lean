import TD.C08.LemmasEbs

/-! Datum specification block lemmas. -/
namespace TD.C08

theorem len2 (l : Bytes) (h : l.length = 2) : ∃ a b, l = [a, b] := by
  match l, h with
  | [a, b], _ => exact ⟨a, b, rfl⟩

theorem len6 (l : Bytes) (h : l.length = 6) : ∃ a b c d e f, l = [a, b, c, d, e, f] := by
  match l, h with
  | [a, b, c, d, e, f], _ => exact ⟨a, b, c, d, e, f, rfl⟩

theorem len8 (l : Bytes) (h : l.length = 8) : ∃ a b c d e f g i, l = [a, b, c, d, e, f, g, i] := by
  match l, h with
  | [a, b, c, d, e, f, g, i], _ => exact ⟨a, b, c, d, e, f, g, i, rfl⟩

/-- a channel specification whose fields fit the 40-byte structure exactly -/
structure ChanOk (c : ChanSpec) : Prop where
  name : c.name.length = 4
  servId : c.servId.length = 6
  servOrd : c.servOrd.length = 8
  units : c.units.length = 4
  api : 0 ≤ c.api ∧ c.api < 4294967296
  fileNo : -32768 ≤ c.fileNo ∧ c.fileNo ≤ 32767
  chLen : -32768 ≤ c.chLen ∧ c.chLen ≤ 32767
  sa : 0 ≤ c.sa ∧ c.sa < 256
  rc : 0 ≤ c.rc ∧ c.rc < 256

/-- the channel definition a specification denotes (given the derived bursts / sub-channels) -/
def dsbOf (c : ChanSpec) (b sc : Nat) : Dsb :=
  ⟨c.name, c.servId, c.servOrd, c.units, c.api.toNat / 1000000, (c.api.toNat % 1000000) / 1000, (c.api.toNat % 1000) / 10,
   c.api.toNat % 10, c.fileNo, c.chLen, c.sa.toNat, c.rc.toNat, b, sc⟩

/-- `x*`, `y*` are the pad bytes the format skips -/
theorem readDsb_fields (name sid sord units api fno len rest : Bytes) (x0 x1 x2 sa rc y0 y1 y2 y3 y4 : Nat)
    (hn : name.length = 4) (hs : sid.length = 6) (ho : sord.length = 8) (hu : units.length = 4) (ha : api.length = 4)
    (hf : fno.length = 2) (hl : len.length = 2) :
    readDsb (name ++ sid ++ sord ++ units ++ api ++ fno ++ len ++ [x0, x1, x2] ++ [sa, rc] ++ [y0, y1, y2, y3, y4] ++ rest)
      = (burstsSub rc (sInt 16 (beNat len)) sa).map fun p =>
          (⟨name, sid, sord, units, beNat api / 1000000, (beNat api % 1000000) / 1000, (beNat api % 1000) / 10,
            beNat api % 10, sInt 16 (beNat fno), sInt 16 (beNat len), sa, rc, p.1, p.2⟩, rest) := by
  obtain ⟨n0, n1, n2, n3, rfl⟩ := len4 name hn
  obtain ⟨s0, s1, s2, s3, s4, s5, rfl⟩ := len6 sid hs
  obtain ⟨o0, o1, o2, o3, o4, o5, o6, o7, rfl⟩ := len8 sord ho
  obtain ⟨u0, u1, u2, u3, rfl⟩ := len4 units hu
  obtain ⟨a0, a1, a2, a3, rfl⟩ := len4 api ha
  obtain ⟨f0, f1, rfl⟩ := len2 fno hf
  obtain ⟨l0, l1, rfl⟩ := len2 len hl
  have hunp := unpackN_append [n0, n1, n2, n3, s0, s1, s2, s3, s4, s5, o0, o1, o2, o3, o4, o5, o6, o7, u0, u1, u2, u3,
    a0, a1, a2, a3, f0, f1, l0, l1, x0, x1, x2, sa, rc, y0, y1, y2, y3, y4] rest (n := 40) rfl (by decide)
  unfold readDsb
  simp only [List.cons_append, List.nil_append] at hunp ⊢
  rw [hunp]
  simp only [List.drop_succ_cons, List.drop_zero, List.take_succ_cons, List.take_zero, List.getD_cons_succ,
    List.getD_cons_zero]
  cases burstsSub rc (sInt 16 (beNat [l0, l1])) sa <;> rfl

def dsbRaw (c : ChanSpec) : Bytes := match dsbBytes c with | .ok b => b | .error _ => []

theorem dsb_enc_read (c : ChanSpec) (h : ChanOk c) :
    dsbBytes c = .ok (dsbRaw c) ∧ (dsbRaw c).length = 40 ∧
      ∀ rest, readDsb (dsbRaw c ++ rest) =
        (burstsSub c.rc.toNat c.chLen c.sa.toNat).map fun p => (dsbOf c p.1 p.2, rest) := by
  have hcond : ¬ (c.api < 0 ∨ 4294967296 ≤ c.api ∨ c.fileNo < -32768 ∨ 32767 < c.fileNo ∨ c.chLen < -32768 ∨ 32767 < c.chLen
     ∨ c.sa < 0 ∨ 256 ≤ c.sa ∨ c.rc < 0 ∨ 256 ≤ c.rc) := by
    have := h.api; have := h.fileNo; have := h.chLen; have := h.sa; have := h.rc; omega
  have hb : dsbBytes c = .ok _ := if_neg hcond
  rw [dsbRaw, hb]
  refine ⟨rfl, by simp [padTo_length, toBE_length], fun rest => ?_⟩
  rw [padTo_eq_self 4 _ h.name, padTo_eq_self 6 _ h.servId, padTo_eq_self 8 _ h.servOrd, padTo_eq_self 4 _ h.units,
    readDsb_fields _ _ _ _ _ _ _ rest _ _ _ _ _ _ _ _ _ _ h.name h.servId h.servOrd h.units (toBE_length _ _)
      (toBE_length _ _) (toBE_length _ _),
    beNat_toBE 4 _ (by have := h.api; omega), sInt16_toBE _ h.fileNo.1 h.fileNo.2, sInt16_toBE _ h.chLen.1 h.chLen.2]
  rfl

/-! ### the channel loop -/

theorem dsbLoop_list {α} (g : α → Bytes) (d : α → Dsb) (l : List α)
    (h : ∀ a ∈ l, 1 ≤ (g a).length ∧ ∀ rest, readDsb (g a ++ rest) = .ok (d a, rest)) :
    ∀ (fuel : Nat) (acc : List Dsb), l.length ≤ fuel →
      dsbLoop fuel (l.flatMap g) acc = .ok (acc ++ (l.map d).filter (fun x => x.size ≠ 0)) := by
  induction l with
  | nil => intro fuel acc _; cases fuel <;> simp [dsbLoop]
  | cons p r ih =>
    intro fuel acc hf
    cases fuel with
    | zero => simp at hf
    | succ fuel =>
      obtain ⟨hlen, hread⟩ := h p (by simp)
      have hne : g p ++ r.flatMap g ≠ [] := by
        intro hh; rw [(List.append_eq_nil_iff.1 hh).1] at hlen; simp at hlen
      simp only [List.flatMap_cons]
      conv => lhs; unfold dsbLoop
      split
      · rename_i heq; exact absurd heq hne
      · rw [hread]
        simp only
        rw [ih (fun q hq => h q (by simp [hq])) fuel _ (by simpa using hf)]
        by_cases hz : (d p).size = 0 <;> simp [hz]

end TD.C08
