import TD.C08.Lemmas

/-! Table level lemmas: the reader loop on encoded blocks, regrouping reader/writer, first-kept de-duplication. -/
namespace TD.C08

/-! ### the reader loop on a list of encoded blocks -/

def stepAll : List Cb → TS → Except Err TS
  | [], st => .ok st
  | cb :: r, st => (tableStep cb st).bind (stepAll r)

theorem tableLoop_enc {α} (g : α → Bytes) (rd : α → Cb) (l : List α) 
    (hall : ∀ a ∈ l, 1 ≤ (g a).length ∧ ∀ rest, readCb (g a ++ rest) = .ok (rd a, rest)) :
    ∀ fuel st, l.length ≤ fuel → tableLoop fuel (l.flatMap g) st = stepAll (l.map rd) st := by
  induction l with
  | nil => intro fuel st _; cases fuel <;> simp [tableLoop, stepAll]
  | cons p r ih =>
    intro fuel st hf
    cases fuel with
    | zero => simp at hf
    | succ fuel =>
      have hp := hall p (by simp)
      have hne : (p :: r).flatMap g ≠ [] := by
        intro hh; rw [List.flatMap_cons, List.append_eq_nil_iff] at hh; rw [hh.1] at hp; simp at hp
      have hread : readCb ((p :: r).flatMap g) = .ok (rd p, r.flatMap g) := by
        rw [List.flatMap_cons]
        exact hp.2 _
      have ih' := ih (fun q hq => hall q (by simp [hq])) fuel
      unfold tableLoop
      split
      · rename_i heq; exact absurd heq hne
      · rw [hread]
        simp only [List.map_cons, stepAll]
        cases hs : tableStep (rd p) st with
        | error e => simp [Except.bind]
        | ok st' => simp only [Except.bind]; exact ih' st' (by simpa using hf)

/-! ### pure effect of one row -/

def incCols (r : List Cb) (cols : List (Bytes × Nat)) : List (Bytes × Nat) :=
  r.foldl (fun c cb => incCol cb.mnem c) cols

/-- append a complete row (what `startNewRow` + `addDatumBlock`* do) -/
def pushRow (r : List Cb) (st : TS) : TS := { st with rows := st.rows ++ [r], cols := incCols r st.cols }

/-- a row of blocks: a type-0 block followed by type-69 blocks -/
def RowOk (r : List Cb) : Prop := ∃ h cells, r = h :: cells ∧ h.type = 0 ∧ ∀ c ∈ cells, c.type = 69

theorem addDatum_last (cb : Cb) (hct : cb.type = 69) (st : TS) (K : List (List Cb)) (p : List Cb) (ht : st.tcb.isSome)
    (hr : st.rows = K ++ [p]) :
    addDatum cb st = .ok { st with rows := K ++ [p ++ [cb]], cols := incCol cb.mnem st.cols } := by
  have hne : st.tcb.isNone = false := by cases h : st.tcb <;> simp_all
  simp [addDatum, hct, hne, hr]

/-- add cells to the last row -/
theorem stepAll_cells (cells : List Cb) (hc : ∀ c ∈ cells, c.type = 69) :
    ∀ (more : List Cb) (st : TS) (K : List (List Cb)) (p : List Cb), st.tcb.isSome → st.rows = K ++ [p] →
      stepAll (cells ++ more) st =
        stepAll more { st with rows := K ++ [p ++ cells], cols := incCols cells st.cols } := by
  induction cells with
  | nil => intro more st K p _ hr; simp [incCols, ← hr]
  | cons c cs ih =>
    intro more st K p ht hr
    have hct : c.type = 69 := hc c (by simp)
    have hstep : tableStep c st = .ok { st with rows := K ++ [p ++ [c]], cols := incCol c.mnem st.cols } := by
      simp [tableStep, hct, addDatum_last c hct st K p ht hr]
    simp only [List.cons_append, stepAll, hstep, Except.bind]
    rw [ih (fun x hx => hc x (by simp [hx])) more _ K (p ++ [c]) (by simpa using ht) (by simp)]
    simp [incCols, List.append_assoc]

theorem indexLast_fields {st st' : TS} (h : indexLast st = .ok st') : st'.tcb = st.tcb ∧ st'.cols = st.cols := by
  unfold indexLast at h
  split at h
  · cases h; exact ⟨rfl, rfl⟩
  · split at h
    · cases h; exact ⟨rfl, rfl⟩
    · split at h
      · cases h; exact ⟨rfl, rfl⟩
      · split at h <;> cases h <;> exact ⟨rfl, rfl⟩

theorem indexLast_tcb {st st' : TS} (h : indexLast st = .ok st') : st'.tcb = st.tcb := (indexLast_fields h).1

theorem indexLast_cols {st st' : TS} (h : indexLast st = .ok st') : st'.cols = st.cols := (indexLast_fields h).2

/-- one whole row through the reader: close the previous row, then append this one -/
theorem stepAll_row (r : List Cb) (hr : RowOk r) (more : List Cb) (st : TS) (ht : st.tcb.isSome) :
    stepAll (r ++ more) st = (indexLast st).bind (fun st1 => stepAll more (pushRow r st1)) := by
  obtain ⟨h, cells, rfl, hh, hc⟩ := hr
  simp only [List.cons_append, stepAll]
  have : tableStep h st = (indexLast st).bind (startNewRow h) := by
    simp only [tableStep, hh, if_true]
    cases indexLast st <;> rfl
  rw [this]
  cases hi : indexLast st with
  | error e => rfl
  | ok st1 =>
    have ht1 : st1.tcb.isSome := by rw [indexLast_tcb hi]; exact ht
    simp only [Except.bind, startNewRow, hh]
    simp only [ne_eq, not_true_eq_false, if_false]
    rw [stepAll_cells cells hc more _ st1.rows [h] (by simpa using ht1) rfl]
    simp [pushRow, incCols]

/-- the sequence of operations in the grouping of the writer: append a row, index-or-discard it -/
def runRows : List (List Cb) → TS → Except Err TS
  | [], st => .ok st
  | r :: rs, st => (indexLast (pushRow r st)).bind (runRows rs)

theorem bind_ok_right {ε α} (x : Except ε α) : x.bind Except.ok = x := by cases x <;> rfl

theorem bind_assoc' {ε α β γ} (x : Except ε α) (f : α → Except ε β) (g : β → Except ε γ) :
    (x.bind f).bind g = x.bind (fun a => (f a).bind g) := by cases x <;> rfl

theorem bind_congr' {ε α β} (x : Except ε α) (f g : α → Except ε β) (h : ∀ a, x = .ok a → f a = g a) :
    x.bind f = x.bind g := by
  cases x with
  | error e => rfl
  | ok a => exact h a rfl

/-- **regrouping**: reading a stream of rows and finally indexing the last row is the writer's sequence of operations
preceded by one `indexLast` -/
theorem reader_regroup (rows : List (List Cb)) (hrows : ∀ r ∈ rows, RowOk r) :
    ∀ st : TS, st.tcb.isSome →
      (stepAll rows.flatten st).bind indexLast = (indexLast st).bind (runRows rows) := by
  induction rows with
  | nil =>
    intro st _
    simp only [List.flatten_nil, stepAll, runRows, Except.bind]
    exact (bind_ok_right _).symm
  | cons r rs ih =>
    intro st ht
    rw [List.flatten_cons, stepAll_row r (hrows r (by simp)) _ st ht, bind_assoc']
    apply bind_congr'
    intro st1 h1
    have ht1 : (pushRow r st1).tcb.isSome := by
      simp only [pushRow]; rw [indexLast_tcb h1]; exact ht
    rw [ih (fun x hx => hrows x (by simp [hx])) _ ht1]
    rfl

/-! ### first-kept de-duplication -/

def keptAux (seen : List (Option Val)) : List (List Cb) → List (List Cb)
  | [] => []
  | r :: rs =>
    if seen.any (fun s => keyEq s (rowValue r)) then keptAux seen rs
    else r :: keptAux (seen ++ [rowValue r]) rs

/-- the rows that survive: the first row of every name (Python `==` on names), in order -/
def kept (rows : List (List Cb)) : List (List Cb) := keptAux [] rows

/-- all rows indexed, none pending -/
structure Inv (st : TS) : Prop where
  names : st.rowIdx.map (·.1) = st.rows.map rowValue
  idx : st.rowIdx.map (·.2) = List.range st.rows.length

theorem indexLast_push (r : List Cb) (st : TS) (hinv : Inv st) :
    ∃ st', indexLast (pushRow r st) = .ok st' ∧ Inv st' ∧
      st'.rows = (if (st.rows.map rowValue).any (fun s => keyEq s (rowValue r)) then st.rows else st.rows ++ [r]) := by
  have hkey : keyIn (rowValue r) st.rowIdx = (st.rows.map rowValue).any (fun s => keyEq s (rowValue r)) := by
    rw [← hinv.names]; simp [keyIn, List.any_map, Function.comp_def]
  have hnew : Inv { (pushRow r st) with rowIdx := st.rowIdx ++ [(rowValue r, (st.rows ++ [r]).length - 1)] } :=
    ⟨by simp [pushRow, hinv.names], by simp [pushRow, hinv.idx, List.range_succ]⟩
  unfold indexLast
  simp only [pushRow, List.getLast?_concat, hkey] at hnew ⊢
  split
  · exact ⟨_, rfl, ⟨by simp [hinv.names], by simp [hinv.idx]⟩, by simp⟩
  · -- the `Mnem` map is not part of the invariant
    split
    · exact ⟨_, rfl, hnew, rfl⟩
    · split <;> exact ⟨_, rfl, ⟨hnew.1, hnew.2⟩, rfl⟩

theorem runRows_spec (rows : List (List Cb)) :
    ∀ st : TS, Inv st →
      ∃ fin, runRows rows st = .ok fin ∧ fin.tcb = st.tcb ∧ Inv fin ∧
        fin.rows = st.rows ++ keptAux (st.rows.map rowValue) rows ∧
        fin.cols = incCols rows.flatten st.cols := by
  induction rows with
  | nil => intro st hinv; exact ⟨st, rfl, rfl, hinv, by simp [keptAux], by simp [incCols]⟩
  | cons r rs ih =>
    intro st hinv
    obtain ⟨st', h1, hinv', hrows⟩ := indexLast_push r st hinv
    obtain ⟨ht, hc⟩ := indexLast_fields h1
    obtain ⟨fin, h2, ht2, hinv2, hrows2, hc2⟩ := ih st' hinv'
    refine ⟨fin, ?_, by rw [ht2, ht]; rfl, hinv2, ?_, ?_⟩
    · simp only [runRows, h1, Except.bind]; exact h2
    · rw [hrows2, hrows]
      simp only [keptAux]
      split <;> simp
    · rw [hc2, hc]; simp [pushRow, incCols, List.foldl_append]

theorem reader_spec (tcb : Cb) (rows : List (List Cb)) (hrows : ∀ r ∈ rows, RowOk r) :
    ∃ R, (stepAll rows.flatten { TS.empty with tcb := some tcb }).bind indexLast = .ok R ∧ R.tcb = some tcb ∧ Inv R ∧
      R.rows = kept rows ∧ R.cols = incCols rows.flatten [] := by
  have hreg := reader_regroup rows hrows { TS.empty with tcb := some tcb } rfl
  obtain ⟨R, hR, ht, hinv, hr, hc⟩ := runRows_spec rows { TS.empty with tcb := some tcb } ⟨rfl, rfl⟩
  exact ⟨R, hreg.trans hR, ht, hinv, hr, hc⟩

theorem keptAux_idem (rows : List (List Cb)) : ∀ seen, keptAux seen (keptAux seen rows) = keptAux seen rows := by
  induction rows with
  | nil => intro seen; rfl
  | cons r rs ih =>
    intro seen
    by_cases h : seen.any (fun s => keyEq s (rowValue r)) = true
    · simp only [keptAux, h, if_true]; exact ih seen
    · have h' : (seen.any fun s => keyEq s (rowValue r)) = false := by simpa using h
      simp only [keptAux, h', Bool.false_eq_true, if_false, ih]

theorem keptAux_map_on (f : List Cb → List Cb) (rows : List (List Cb)) (hf : ∀ r ∈ rows, rowValue (f r) = rowValue r) :
    ∀ seen, keptAux seen (rows.map f) = (keptAux seen rows).map f := by
  induction rows with
  | nil => intro seen; rfl
  | cons r rs ih =>
    intro seen
    simp only [List.map_cons, keptAux, hf r (by simp)]
    split
    · exact ih (fun x hx => hf x (by simp [hx])) seen
    · simp [ih (fun x hx => hf x (by simp [hx]))]

theorem keptAux_map (f : List Cb → List Cb) (hf : ∀ r, rowValue (f r) = rowValue r) (rows : List (List Cb)) :
    ∀ seen, keptAux seen (rows.map f) = (keptAux seen rows).map f :=
  keptAux_map_on f rows (fun r _ => hf r)

/-! ### column labels -/

def colKeys (cols : List (Bytes × Nat)) : List Bytes := cols.map (·.1)

/-- what `_incColMnem` does to the labels -/
def addKey (K : List Bytes) (k : Bytes) : List Bytes := if k ∈ K then K else K ++ [k]

theorem colKeys_incCol (k : Bytes) (cols : List (Bytes × Nat)) : colKeys (incCol k cols) = addKey (colKeys cols) k := by
  unfold addKey
  induction cols with
  | nil => simp [incCol, colKeys]
  | cons p r ih =>
    obtain ⟨k', n⟩ := p
    simp only [incCol, colKeys] at ih ⊢
    by_cases h : k' = k
    · simp [h]
    · have h' : ¬ k = k' := fun e => h e.symm
      simp only [h, if_false, List.map_cons, List.mem_cons, h', false_or]
      rw [ih]
      split <;> simp_all

theorem colKeys_incCols (r : List Cb) : ∀ cols, colKeys (incCols r cols) = (r.map (·.mnem)).foldl addKey (colKeys cols) := by
  induction r with
  | nil => intro cols; rfl
  | cons c cs ih =>
    intro cols
    simp only [List.map_cons, List.foldl_cons, ← colKeys_incCol]
    exact ih _

theorem foldl_addKey_present (ks K : List Bytes) (h : ∀ k ∈ ks, k ∈ K) : ks.foldl addKey K = K := by
  induction ks with
  | nil => rfl
  | cons k ks ih =>
    rw [List.foldl_cons, addKey, if_pos (h k (by simp))]
    exact ih (fun x hx => h x (by simp [hx]))

theorem foldl_addKey_fresh (ks : List Bytes) (hnd : ks.Nodup) :
    ∀ K : List Bytes, (∀ k ∈ ks, k ∉ K) → ks.foldl addKey K = K ++ ks := by
  induction ks with
  | nil => intro K _; simp
  | cons k ks ih =>
    intro K h
    rw [List.nodup_cons] at hnd
    rw [List.foldl_cons, addKey, if_neg (h k (by simp)), ih hnd.2, List.append_assoc, List.singleton_append]
    intro x hx
    simp only [List.mem_append, List.mem_singleton, not_or]
    exact ⟨h x (by simp [hx]), fun e => hnd.1 (e ▸ hx)⟩

theorem colKeys_rows (mn : List Bytes) (hnd : mn.Nodup) (rows : List (List Cb)) (hrows : ∀ r ∈ rows, r.map (·.mnem) = mn) :
    colKeys (incCols rows.flatten []) = if rows = [] then [] else mn := by
  rw [colKeys_incCols, List.map_flatten]
  cases rows with
  | nil => rfl
  | cons r rs =>
    simp only [List.map_cons, List.flatten_cons, List.foldl_append, hrows r (by simp), reduceCtorEq, if_false]
    rw [show colKeys [] = [] from rfl, foldl_addKey_fresh mn hnd [] (by simp), List.nil_append, foldl_addKey_present]
    intro k hk
    obtain ⟨l, hl, hkl⟩ := List.mem_flatten.1 hk
    obtain ⟨r', hr', rfl⟩ := List.mem_map.1 hl
    exact hrows r' (by simp [hr']) ▸ hkl

end TD.C08
