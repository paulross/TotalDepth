import TD.C08.Lemmas

/-! Entry block lemmas. -/
namespace TD.C08

/-- an entry block with a legal size: no value and size 0, or a value whose size matches its code -/
def EBLegal (e : EB) : Prop :=
  e.type < 256 ∧ e.rc < 256 ∧ ((e.val = none ∧ e.size = 0) ∨ ∃ v, e.val = some v ∧ EBValOk e.rc e.size v)

theorem EBLegal.none {t rc : Nat} (ht : t < 256) (hrc : rc < 256) : EBLegal ⟨t, 0, rc, none⟩ :=
  ⟨ht, hrc, Or.inl ⟨rfl, rfl⟩⟩

theorem EBLegal.some {t size rc : Nat} {v : Val} (ht : t < 256) (h : EBValOk rc size v) : EBLegal ⟨t, size, rc, some v⟩ :=
  ⟨ht, h.bounds.1, Or.inr ⟨v, rfl, h⟩⟩

/-- a runnable test sufficient for `EBLegal` (integers: code 66 only) -/
def ebLegalB (e : EB) : Bool :=
  decide (e.type < 256) && decide (e.rc < 256) &&
  match e.val with
  | none => e.size == 0
  | some (.bytes b) => e.rc == 65 && e.size == b.length && decide (1 ≤ e.size) && decide (e.size ≤ 255)
  | some (.int i) => e.rc == 66 && e.size == 1 && decide (0 ≤ i) && decide (i ≤ 255)
  | some (.float _) => e.rc == 68 && e.size == 4

theorem legal_of_ebLegalB {e : EB} (h : ebLegalB e = true) : EBLegal e := by
  obtain ⟨t, s, r, v⟩ := e
  simp only [ebLegalB, Bool.and_eq_true, decide_eq_true_eq] at h
  obtain ⟨⟨ht, hr⟩, hv⟩ := h
  rcases v with _ | b | i | d <;> simp only [Bool.and_eq_true, beq_iff_eq, decide_eq_true_eq] at hv
  · exact hv ▸ .none ht hr
  · obtain ⟨⟨⟨rfl, rfl⟩, h1⟩, h2⟩ := hv; exact .some ht (.text h1 h2)
  · obtain ⟨⟨⟨rfl, rfl⟩, h1⟩, h2⟩ := hv; exact .some ht (.int8 h1 h2)
  · obtain ⟨rfl, rfl⟩ := hv; exact .some ht (.float d)

def rtEB (e : EB) : EB := { e with val := e.val.map rtVal }

def encEBRaw (e : EB) : Bytes := match encEB e with | .ok b => b | .error _ => []

/-- **one entry block survives** -/
theorem eb_enc_read (e : EB) (h : EBLegal e) :
    encEB e = .ok (encEBRaw e) ∧ (encEBRaw e).length = 3 + e.size ∧
      ∀ rest, readEB (encEBRaw e ++ rest) = .ok (rtEB e, rest) := by
  suffices ∃ bs, encEB e = .ok bs ∧ bs.length = 3 + e.size ∧ ∀ rest, readEB (bs ++ rest) = .ok (rtEB e, rest) by
    obtain ⟨bs, he, hl, hr⟩ := this
    have : encEBRaw e = bs := by simp [encEBRaw, he]
    rw [this]; exact ⟨he, hl, hr⟩
  obtain ⟨t, s, r, vv⟩ := e
  obtain ⟨ht, hrc, hv⟩ := h
  simp only at ht hrc hv
  have h3 : ∀ rest, unpackN 3 (t :: s :: r :: rest) = .ok ([t, s, r], rest) :=
    fun rest => unpackN_append [t, s, r] rest rfl (by decide)
  rcases hv with ⟨rfl, rfl⟩ | ⟨v, rfl, hok⟩
  · exact ⟨[t, 0, r], by simp [encEB, ht, hrc], rfl, fun rest => by simp [readEB, h3, rtEB]⟩
  · have hb := hok.bounds
    have hs0 : ¬ s = 0 := by omega
    have hfields : ¬ (256 ≤ t ∨ 256 ≤ s ∨ 256 ≤ r) := by omega
    by_cases h65 : r = 65
    · rcases hok with ⟨_, b, rfl, hsb, _, _⟩ | ⟨hc, _⟩ | ⟨hc, _⟩ | ⟨hc, _⟩ | ⟨hc, _⟩ <;> try omega
      subst h65
      have hbne : b ≠ [] := by intro h; rw [h] at hsb; exact hs0 hsb
      have hr : ∀ rest, readLr s (b ++ rest) = (some b, rest) := fun rest => by
        rw [hsb]; exact readLr_append b rest (by simp [hbne])
      exact ⟨[t, s, 65] ++ b, by simp [encEB, encVal, ht]; omega, by simp [hsb]; omega,
        fun rest => by simp [readEB, h3, hs0, hr, rtEB, rtVal]⟩
    · obtain ⟨vb, henc, hlen, hread⟩ := readNum_enc hok h65
      exact ⟨[t, s, r] ++ vb, by simp [encEB, hfields, henc], by simp [hlen]; omega,
        fun rest => by simp [readEB, h3, hs0, h65, hread, rtEB]⟩

theorem flatMap_encEBRaw_length (l : List EB) (hl : ∀ e ∈ l, EBLegal e) :
    (l.flatMap encEBRaw).length = 3 * l.length + (l.map (·.size)).sum := by
  induction l with
  | nil => rfl
  | cons e r ih =>
    simp only [List.flatMap_cons, List.length_append, (eb_enc_read e (hl e (by simp))).2.1,
      ih (fun x hx => hl x (by simp [hx])), List.length_cons, List.map_cons, List.sum_cons]
    omega

/-- the pure part of `_setLisSizeEven` -/
def evenOf (E : List EB) : List EB :=
  if ebsLisSize (E.set 0 ⟨0, 0, 66, none⟩) % 2 = 1 then E.set 0 ⟨0, 1, 66, some (.int 1)⟩ else E.set 0 ⟨0, 0, 66, none⟩

/-- the terminator `_setLisSizeEven` installs -/
def evenTerm (E : List EB) : EB :=
  if ebsLisSize (E.set 0 ⟨0, 0, 66, none⟩) % 2 = 1 then ⟨0, 1, 66, some (.int 1)⟩ else ⟨0, 0, 66, none⟩

theorem evenOf_eq (E : List EB) : evenOf E = E.set 0 (evenTerm E) := by
  unfold evenOf evenTerm; split <;> rfl

theorem evenTerm_type (E : List EB) : (evenTerm E).type = 0 := by
  unfold evenTerm; split <;> rfl

theorem evenTerm_legal (E : List EB) : EBLegal (evenTerm E) := by
  unfold evenTerm
  split
  · exact .some (by decide) (.int8 (by decide) (by decide))
  · exact .none (by decide) (by decide)

theorem ebsLisSize_cons (t : EB) (ht : t.type = 0) (tl : List EB) : ebsLisSize (t :: tl) = t.size + ebsLisSize tl := by
  simp [ebsLisSize, ht]

theorem evenOf_parity (E : List EB) : ebsLisSize (evenOf E) % 2 = 0 := by
  cases E with
  | nil => rfl
  | cons a0 tl =>
    have h0 : ebsLisSize (⟨0, 0, 66, none⟩ :: tl) = 0 + ebsLisSize tl := ebsLisSize_cons _ rfl tl
    have h1 : ebsLisSize (⟨0, 1, 66, some (.int 1)⟩ :: tl) = 1 + ebsLisSize tl := ebsLisSize_cons _ rfl tl
    show ebsLisSize (if ebsLisSize (⟨0, 0, 66, none⟩ :: tl) % 2 = 1 then ⟨0, 1, 66, some (.int 1)⟩ :: tl
      else ⟨0, 0, 66, none⟩ :: tl) % 2 = 0
    split
    · rw [h1]; omega
    · omega

theorem setEven_eq (E : List EB) (h : integrity E = true) : setEven E = .ok (evenOf E) := by
  simp only [setEven, h, Bool.not_true, Bool.false_eq_true, if_false, evenOf]
  split <;> rfl

theorem evenOf_set0 (E : List EB) (t : EB) : evenOf (E.set 0 t) = evenOf E := by
  simp [evenOf, List.set_set]

theorem evenOf_idem (E : List EB) : evenOf (evenOf E) = evenOf E := by
  rw [evenOf_eq E, evenOf_set0, evenOf_eq E]

theorem ebOk_of_legal (e : EB) (h : EBLegal e) : ebOk e.type e = true := by
  obtain ⟨_, _, hv⟩ := h
  rcases hv with ⟨hn, h0⟩ | ⟨v, hs, hok⟩
  · simp [ebOk, hn, h0]
  · have := hok.bounds
    simp [ebOk, hs]; omega

theorem ebOk_rtEB (i : Nat) (e : EB) : ebOk i (rtEB e) = ebOk i e := by
  simp [ebOk, rtEB]

theorem integrityFrom_set (l : List EB) : ∀ (k j : Nat) (e : EB), integrityFrom k l = true → ebOk (k + j) e = true →
    integrityFrom k (l.set j e) = true := by
  induction l with
  | nil => intro k j e h _; simpa using h
  | cons a r ih =>
    intro k j e h he
    simp only [integrityFrom, Bool.and_eq_true] at h
    cases j with
    | zero => simp only [List.set_cons_zero, integrityFrom, Bool.and_eq_true]; exact ⟨by simpa using he, h.2⟩
    | succ j =>
      simp only [List.set_cons_succ, integrityFrom, Bool.and_eq_true]
      exact ⟨h.1, ih (k + 1) j e h.2 (by rw [show k + 1 + j = k + (j + 1) by omega]; exact he)⟩

theorem integrity_set (E : List EB) (j : Nat) (e : EB) (h : integrity E = true) (he : ebOk j e = true) :
    integrity (E.set j e) = true := by
  simp only [integrity, Bool.and_eq_true, beq_iff_eq, List.length_set] at h ⊢
  exact ⟨h.1, integrityFrom_set E 0 j e h.2 (by simpa using he)⟩

theorem integrity_evenOf (E : List EB) (h : integrity E = true) : integrity (evenOf E) = true := by
  rw [evenOf_eq]
  exact integrity_set E 0 _ h (by rw [← evenTerm_type E]; exact ebOk_of_legal _ (evenTerm_legal E))

theorem integrityFrom_of_legal : ∀ (l : List EB) (k : Nat), l.map (·.type) = List.range' k l.length →
    (∀ e ∈ l, EBLegal e) → integrityFrom k l = true
  | [], _, _, _ => rfl
  | e :: r, k, ht, hl => by
    simp only [List.map_cons, List.length_cons, List.range'_succ, List.cons.injEq] at ht
    have := ebOk_of_legal e (hl e (by simp))
    rw [ht.1] at this
    simp only [integrityFrom, this, Bool.true_and]
    exact integrityFrom_of_legal r (k + 1) ht.2 (fun x hx => hl x (by simp [hx]))

theorem setEB_eq (e : EB) (E : List EB) (hE : integrity E = true) (ht : e.type < 17) (h10 : e.type ≠ 10)
    (hok : ebOk e.type e = true) : setEB e E = .ok (evenOf (E.set e.type e)) := by
  have h1 := integrity_set E e.type e hE hok
  have h17 : ¬ 17 ≤ e.type := by omega
  simp [setEB, hE, h17, h10, setEven_eq _ h1, integrity_evenOf _ h1]

/-! ### the read loop -/

theorem ebsLoop_succ (e : EB) (hl : EBLegal e) (ht : e.type < 17) (h10 : e.type ≠ 10) (rest : Bytes) (E : List EB)
    (hE : integrity E = true) (fuel : Nat) :
    ebsLoop (fuel + 1) (encEBRaw e ++ rest) E =
      if e.type = 0 then .ok (evenOf E, rest) else ebsLoop fuel rest (evenOf (E.set e.type (rtEB e))) := by
  obtain ⟨_, hlen, hread⟩ := eb_enc_read e hl
  have hne : encEBRaw e ++ rest ≠ [] := by
    intro hh; have := congrArg List.length hh; simp [hlen] at this
  have hset : setEB (rtEB e) E = .ok (evenOf (E.set e.type (rtEB e))) :=
    setEB_eq (rtEB e) E hE ht h10 (by rw [ebOk_rtEB]; exact ebOk_of_legal e hl)
  conv => lhs; unfold ebsLoop
  split
  · rename_i heq; exact absurd heq hne
  · rw [hread rest]
    simp only [hset]
    show (if e.type = 0 then _ else _) = _
    split
    · rename_i h0; rw [h0, evenOf_set0]
    · rfl

/-- a block that `setEntryBlock` accepts and that is not the terminator -/
def Settable (e : EB) : Prop := EBLegal e ∧ e.type < 17 ∧ e.type ≠ 0 ∧ e.type ≠ 10

def applyRead (E0 : List EB) (bl : List EB) : List EB := bl.foldl (fun acc e => acc.set e.type (rtEB e)) E0

theorem evenOf_applyRead (bl : List EB) (hbl : ∀ e ∈ bl, e.type ≠ 0) :
    ∀ X, evenOf (applyRead (evenOf X) bl) = evenOf (applyRead X bl) := by
  induction bl with
  | nil => intro X; exact evenOf_idem X
  | cons e r ih =>
    intro X
    have ih' := ih (fun x hx => hbl x (by simp [hx]))
    simp only [applyRead, List.foldl_cons] at ih' ⊢
    have h1 := ih' ((evenOf X).set e.type (rtEB e))
    have h2 := ih' (X.set e.type (rtEB e))
    rw [← h1, evenOf_eq X, List.set_comm _ _ (Ne.symm (hbl e (by simp))), evenOf_set0, h2]

theorem integrity_applyRead (bl : List EB) (hbl : ∀ e ∈ bl, EBLegal e) :
    ∀ E0, integrity E0 = true → integrity (applyRead E0 bl) = true := by
  induction bl with
  | nil => intro E0 h; exact h
  | cons e r ih =>
    intro E0 h
    simp only [applyRead, List.foldl_cons]
    exact ih (fun x hx => hbl x (by simp [hx])) _
      (integrity_set E0 e.type (rtEB e) h (by rw [ebOk_rtEB]; exact ebOk_of_legal e (hbl e (by simp))))

theorem ebsLoop_list (term : EB) (hterm : EBLegal term) (hterm0 : term.type = 0) (rest : Bytes) (bl : List EB)
    (hbl : ∀ e ∈ bl, Settable e) :
    ∀ (E0 : List EB) (fuel : Nat), integrity E0 = true → bl.length + 1 ≤ fuel →
      ebsLoop fuel (bl.flatMap encEBRaw ++ (encEBRaw term ++ rest)) E0 = .ok (evenOf (applyRead E0 bl), rest) := by
  induction bl with
  | nil =>
    intro E0 fuel hE hf
    cases fuel with
    | zero => omega
    | succ fuel =>
      simpa [applyRead, hterm0] using ebsLoop_succ term hterm (by omega) (by omega) rest E0 hE fuel
  | cons e r ih =>
    intro E0 fuel hE hf
    cases fuel with
    | zero => omega
    | succ fuel =>
      obtain ⟨hl, ht, h0, h10⟩ := hbl e (by simp)
      simp only [List.flatMap_cons, List.append_assoc]
      rw [ebsLoop_succ e hl ht h10 _ E0 hE fuel, if_neg h0]
      have hE1 : integrity (evenOf (E0.set e.type (rtEB e))) = true :=
        integrity_evenOf _ (integrity_set E0 e.type (rtEB e) hE (by rw [ebOk_rtEB]; exact ebOk_of_legal e hl))
      rw [ih (fun x hx => hbl x (by simp [hx])) _ fuel hE1 (by simpa using hf)]
      have := evenOf_applyRead r (fun x hx => (hbl x (by simp [hx])).2.2.1) (E0.set e.type (rtEB e))
      simp only [applyRead, List.foldl_cons] at this ⊢
      rw [this]

/-- block `e` of `l` belongs at position `e.type` of `pre ++ X` -/
theorem applyRead_filter (p : EB → Bool) : ∀ (l : List EB) (pre X : List EB),
    l.map (·.type) = List.range' pre.length l.length → X.length = l.length →
    applyRead (pre ++ X) (l.filter p) = pre ++ List.zipWith (fun e x => if p e then rtEB e else x) l X
  | [], pre, X, _, hX => by
    rw [List.length_eq_zero_iff.1 hX]; rfl
  | e :: l, pre, [], _, hX => by simp at hX
  | e :: l, pre, x :: X, ht, hX => by
    simp only [List.map_cons, List.length_cons, List.range'_succ, List.cons.injEq] at ht
    have ht' : l.map (·.type) = List.range' (pre ++ [x]).length l.length := by simpa using ht.2
    have hX' : X.length = l.length := by simpa using hX
    by_cases hp : p e = true
    · have ht'' : l.map (·.type) = List.range' (pre ++ [rtEB e]).length l.length := by simpa using ht.2
      have := applyRead_filter p l (pre ++ [rtEB e]) X ht'' hX'
      simp only [List.filter_cons_of_pos hp, applyRead, List.foldl_cons, ht.1, List.zipWith_cons_cons, hp, if_true] at this ⊢
      rw [List.set_append_right _ _ (Nat.le_refl _), Nat.sub_self, List.set_cons_zero]
      simpa using this
    · have := applyRead_filter p l (pre ++ [x]) X ht' hX'
      simp only [List.filter_cons_of_neg hp, List.zipWith_cons_cons, hp] at this ⊢
      simpa using this

/-- a legal entry block set: 17 blocks, block `i` has type `i`, every block has a legal size -/
structure EBSOk (E : List EB) : Prop where
  types : E.map (·.type) = List.range 17
  legal : ∀ e ∈ E, EBLegal e

theorem range_set_self (n i : Nat) : (List.range n).set i i = List.range n := by
  apply List.ext_getElem (by simp)
  intro j h1 h2
  simp only [List.getElem_set, List.getElem_range]
  split <;> omega

theorem ebsOk_integrity (E : List EB) (h : EBSOk E) : integrity E = true := by
  have hl : E.length = 17 := by have := congrArg List.length h.types; simpa using this
  have ht : E.map (·.type) = List.range' 0 E.length := by rw [hl, ← List.range_eq_range']; exact h.types
  simp only [integrity, hl, integrityFrom_of_legal E 0 ht h.legal]; rfl

theorem EBSOk.cons {a0 : EB} {tl : List EB} (h : EBSOk (a0 :: tl)) :
    a0.type = 0 ∧ tl.map (·.type) = List.range' 1 16 :=
  List.cons.inj (h.types.trans (by decide : List.range 17 = 0 :: List.range' 1 16))

/-- the 15 blocks written before the terminator -/
def ebsPayload (E : List EB) : List EB := E.filter (fun e => e.type ≠ 10 ∧ e.type ≠ 0)

/- `a0` is the terminator's slot (type 0), `tl` the blocks of types 1 … 16 -/
variable {a0 : EB} {tl : List EB}

theorem payload_settable (hE : EBSOk (a0 :: tl)) : ∀ e ∈ ebsPayload tl, Settable e := by
  intro e he
  obtain ⟨hm, hp⟩ := List.mem_filter.1 he
  have : e.type ∈ List.range' 1 16 := hE.cons.2 ▸ List.mem_map_of_mem hm
  simp only [List.mem_range'_1] at this
  simp only [ne_eq, decide_eq_true_eq] at hp
  exact ⟨hE.legal e (by simp [hm]), by omega, hp.2, hp.1⟩

theorem payload_length (hE : EBSOk (a0 :: tl)) : (ebsPayload tl).length = 15 := by
  have : ((tl.map (·.type)).filter (fun t => t ≠ 10 ∧ t ≠ 0)).length = 15 := by rw [hE.cons.2]; decide
  simpa [ebsPayload, List.filter_map, Function.comp_def] using this

theorem ebsLisSize_payload (hE : EBSOk (a0 :: tl)) (t : EB) (ht : t.type = 0) :
    ebsLisSize (t :: tl) = t.size + ((ebsPayload tl).map (·.size)).sum := by
  rw [ebsLisSize_cons t ht, ebsLisSize, ebsPayload]
  congr 3
  apply List.filter_congr
  intro e he
  have : e.type ∈ List.range' 1 16 := hE.cons.2 ▸ List.mem_map_of_mem he
  simp only [List.mem_range'_1] at this
  simp; omega

theorem ebsBytes_cons (hE : EBSOk (a0 :: tl)) :
    ebsBytes (a0 :: tl) = .ok ((ebsPayload tl).flatMap encEBRaw ++ encEBRaw (evenTerm (a0 :: tl))) := by
  unfold ebsBytes
  rw [setEven_eq _ (ebsOk_integrity _ hE), evenOf_eq]
  simp only [List.set_cons_zero, List.getD_cons_zero]
  rw [List.filter_cons_of_neg (by simp [evenTerm_type])]
  exact concatE_append
    (concatE_map_ok encEB encEBRaw _ (fun e he => (eb_enc_read e (payload_settable hE e he).1).1))
    (by simp [concatE, (eb_enc_read _ (evenTerm_legal _)).1])

theorem ebsBytes_length (hE : EBSOk (a0 :: tl)) :
    ((ebsPayload tl).flatMap encEBRaw ++ encEBRaw (evenTerm (a0 :: tl))).length
      = 48 + ebsLisSize (evenOf (a0 :: tl)) := by
  rw [evenOf_eq, List.set_cons_zero, ebsLisSize_payload hE _ (evenTerm_type _), List.length_append,
    flatMap_encEBRaw_length _ (fun e he => (payload_settable hE e he).1), payload_length hE,
    (eb_enc_read _ (evenTerm_legal _)).2.1]
  omega

theorem ebsRead_cons (hE : EBSOk (a0 :: tl)) (E0 : List EB) (hE0 : integrity E0 = true) (rest : Bytes) :
    ebsRead ((ebsPayload tl).flatMap encEBRaw ++ encEBRaw (evenTerm (a0 :: tl)) ++ rest) E0
      = .ok (evenOf (((a0 :: tl).map rtEB).set 10 (E0.getD 10 ⟨10, 0, 66, none⟩)), rest) := by
  have hset := payload_settable hE
  have hterm := eb_enc_read _ (evenTerm_legal (a0 :: tl))
  have hfuel : (ebsPayload tl).length + 1 ≤
      ((ebsPayload tl).flatMap encEBRaw ++ encEBRaw (evenTerm (a0 :: tl)) ++ rest).length := by
    have := length_le_flatMap encEBRaw (ebsPayload tl) (fun e he => by rw [(eb_enc_read e (hset e he).1).2.1]; omega)
    simp only [List.length_append, hterm.2.1]
    omega
  unfold ebsRead
  rw [List.append_assoc] at hfuel ⊢
  rw [ebsLoop_list _ (evenTerm_legal _) (evenTerm_type _) rest _ hset E0 _ hE0 hfuel]
  simp only [setEven_eq _ (integrity_evenOf _ (integrity_applyRead _ (fun e he => (hset e he).1) E0 hE0)), evenOf_idem]
  have hl0 : E0.length = 17 := by
    simp only [integrity, Bool.and_eq_true, beq_iff_eq] at hE0; exact hE0.1
  obtain ⟨f0, X, rfl⟩ : ∃ f0 X, E0 = f0 :: X := by cases E0 <;> simp_all
  have hlt : tl.length = 16 := by have := congrArg List.length hE.cons.2; simpa using this
  have hX : X.length = tl.length := by simp at hl0; omega
  have := applyRead_filter (fun e => decide (e.type ≠ 10 ∧ e.type ≠ 0)) tl [f0] X (by rw [hlt]; exact hE.cons.2) hX
  rw [show f0 :: X = [f0] ++ X from rfl, ebsPayload, this]
  simp only [List.map_cons, List.set_cons_succ, List.cons_append, List.nil_append]
  rw [← evenOf_set0 (rtEB a0 :: _) f0, List.set_cons_zero]
  congr 4
  apply List.ext_getElem
  · simp [hX]
  · intro i h1 h2
    have hi : i < tl.length := by simp at h1; omega
    have hty : (tl[i]).type = 1 + i := by
      have := congrArg (fun l => l[i]?) hE.cons.2
      simpa [hi, List.getElem?_range', show i < 16 by omega] using this
    simp only [List.getElem_zipWith, hty, List.getElem_set, List.getElem_map, List.getD_cons_succ]
    -- `tl` starts at type 1, so block 10, the one the reader keeps, is `tl[9]`
    by_cases h9 : i = 9
    · subst h9; simp [List.getD_eq_getElem?_getD, List.getElem?_eq_getElem (show 9 < X.length by omega)]
    · have : ¬ 9 = i := fun h => h9 h.symm
      simp [this]; omega

end TD.C08
