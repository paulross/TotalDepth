import TD.C08.Model

/-! Byte-level round trips of single values and component blocks. -/
namespace TD.C08

/-! ### stream primitives -/

theorem readLr_append (a r : Bytes) (h : a ++ r ≠ []) : readLr a.length (a ++ r) = (some a, r) := by
  unfold readLr
  split
  · rename_i heq; exact absurd heq h
  · simp

theorem unpackN_append {n : Nat} (a r : Bytes) (hn : a.length = n) (h0 : n ≠ 0) : unpackN n (a ++ r) = .ok (a, r) := by
  subst hn
  unfold unpackN
  rw [readLr_append a r (by intro h; simp at h; exact h0 (by rw [h.1]; rfl))]
  simp

theorem padTo_length (n : Nat) (b : Bytes) : (padTo n b).length = n := by
  unfold padTo; simp; omega

theorem padTo_eq_self (n : Nat) (b : Bytes) (h : b.length = n) : padTo n b = b := by
  unfold padTo; simp [h, List.take_of_length_le]

theorem concatE_append {xs ys : List (Except Err Bytes)} {a b : Bytes} (hx : concatE xs = .ok a)
    (hy : concatE ys = .ok b) : concatE (xs ++ ys) = .ok (a ++ b) := by
  induction xs generalizing a with
  | nil => cases hx; exact hy
  | cons x xs ih =>
    cases x with
    | error e => simp [concatE] at hx
    | ok c =>
      cases hc : concatE xs with
      | error e => simp [concatE, hc] at hx
      | ok a' =>
        simp only [concatE, hc, Except.ok.injEq] at hx
        subst hx
        simp [concatE, ih hc]

theorem concatE_map_ok {α} (f : α → Except Err Bytes) (g : α → Bytes) (l : List α) (h : ∀ a ∈ l, f a = .ok (g a)) :
    concatE (l.map f) = .ok (l.flatMap g) := by
  induction l with
  | nil => rfl
  | cons p r ih =>
    simp only [List.map_cons, concatE, h p (by simp), List.flatMap_cons]
    rw [ih (fun q hq => h q (by simp [hq]))]

theorem length_le_flatMap {α} (g : α → Bytes) (l : List α) (h : ∀ a ∈ l, 1 ≤ (g a).length) :
    l.length ≤ (l.flatMap g).length := by
  induction l with
  | nil => simp
  | cons p r ih =>
    have := h p (by simp)
    have := ih (fun q hq => h q (by simp [hq]))
    simp only [List.flatMap_cons, List.length_append, List.length_cons]
    omega

/-! ### big-endian integers -/

theorem toBE_length (n v : Nat) : (toBE n v).length = n := by
  induction n generalizing v with
  | zero => rfl
  | succ k ih => simp [toBE, ih]

theorem beNat_append (a : Bytes) (x : Nat) : beNat (a ++ [x]) = beNat a * 256 + x := by
  simp [beNat]

theorem beNat_toBE (n v : Nat) (h : v < 256 ^ n) : beNat (toBE n v) = v := by
  induction n generalizing v with
  | zero => simp at h; subst h; rfl
  | succ k ih =>
    rw [toBE, beNat_append, ih (v / 256) (Nat.div_lt_of_lt_mul (by rwa [Nat.pow_succ, Nat.mul_comm] at h))]
    omega

theorem beNat_toBE1 (v : Nat) (h : v < 256) : beNat (toBE 1 v) = v := beNat_toBE 1 v h

theorem unpackN_toBE (n v : Nat) (rest : Bytes) (hn : n ≠ 0) : unpackN n (toBE n v ++ rest) = .ok (toBE n v, rest) :=
  unpackN_append _ rest (toBE_length n v) hn

theorem sInt16_toBE (i : Int) (h1 : -32768 ≤ i) (h2 : i ≤ 32767) : sInt 16 (beNat (toBE 2 (i % 65536).toNat)) = i := by
  rw [beNat_toBE 2 (i % 65536).toNat (by omega)]
  unfold sInt
  simp only [Nat.reducePow, Nat.reduceSub]
  split <;> omega

theorem sInt32_toBE (i : Int) (h1 : -2147483648 ≤ i) (h2 : i ≤ 2147483647) :
    sInt 32 (beNat (toBE 4 (i % 4294967296).toNat)) = i := by
  rw [beNat_toBE 4 (i % 4294967296).toNat (by omega)]
  unfold sInt
  simp only [Nat.reducePow, Nat.reduceSub]
  split <;> omega

theorem ite_lt {c : Prop} [Decidable c] {a b n : Nat} (ha : a < n) (hb : b < n) : (if c then a else b) < n := by
  split <;> assumption

theorem to68_lt (d : Dy) : to68 d < 4294967296 := by
  unfold to68
  extract_lets ex x sh t f
  have hf : f < 8388608 := by show (t % 8388608).toNat < 8388608; omega
  exact ite_lt (by decide) (ite_lt (ite_lt (by decide) (by decide)) (ite_lt (by omega) (by omega)))

/-! ### values by representation code -/

/-- the representation code `CbEngValWrite` chooses for a value -/
def rcOf : Val → Nat
  | .bytes _ => 65
  | .float _ => 68
  | .int i => if 0 ≤ i ∧ i ≤ 255 then 66 else if -32768 ≤ i ∧ i ≤ 32767 then 79 else 73

/-- the size field `CbEngValWrite` sets -/
def sizeOf : Val → Nat
  | .bytes b => b.length
  | .float _ => 4
  | .int i => if 0 ≤ i ∧ i ≤ 255 then 1 else if -32768 ≤ i ∧ i ≤ 32767 then 2 else 4

/-- values that can be put in a cell: byte strings of at most 255 bytes, 32-bit integers, floats -/
def Val.legal : Val → Prop
  | .bytes b => b.length ≤ 255
  | .int i => -2147483648 ≤ i ∧ i ≤ 2147483647
  | .float _ => True

/-- legal (representation code, size, value) triples of a block that carries a value (also non-empty cell values) -/
def EBValOk (rc size : Nat) (v : Val) : Prop :=
  (rc = 65 ∧ ∃ b, v = .bytes b ∧ size = b.length ∧ 1 ≤ size ∧ size ≤ 255) ∨
  (rc = 66 ∧ size = 1 ∧ ∃ i, v = .int i ∧ 0 ≤ i ∧ i ≤ 255) ∨
  (rc = 79 ∧ size = 2 ∧ ∃ i, v = .int i ∧ -32768 ≤ i ∧ i ≤ 32767) ∨
  (rc = 73 ∧ size = 4 ∧ ∃ i, v = .int i ∧ -2147483648 ≤ i ∧ i ≤ 2147483647) ∨
  (rc = 68 ∧ size = 4 ∧ ∃ d, v = .float d)

theorem EBValOk.text {b : Bytes} (h1 : 1 ≤ b.length) (h2 : b.length ≤ 255) : EBValOk 65 b.length (.bytes b) :=
  Or.inl ⟨rfl, b, rfl, rfl, h1, h2⟩

theorem EBValOk.int8 {i : Int} (h0 : 0 ≤ i) (h1 : i ≤ 255) : EBValOk 66 1 (.int i) :=
  Or.inr (Or.inl ⟨rfl, rfl, i, rfl, h0, h1⟩)

theorem EBValOk.int16 {i : Int} (h0 : -32768 ≤ i) (h1 : i ≤ 32767) : EBValOk 79 2 (.int i) :=
  Or.inr (Or.inr (Or.inl ⟨rfl, rfl, i, rfl, h0, h1⟩))

theorem EBValOk.int32 {i : Int} (h0 : -2147483648 ≤ i) (h1 : i ≤ 2147483647) : EBValOk 73 4 (.int i) :=
  Or.inr (Or.inr (Or.inr (Or.inl ⟨rfl, rfl, i, rfl, h0, h1⟩)))

theorem EBValOk.float (d : Dy) : EBValOk 68 4 (.float d) :=
  Or.inr (Or.inr (Or.inr (Or.inr ⟨rfl, rfl, d, rfl⟩)))

theorem EBValOk.bounds {rc size : Nat} {v : Val} (h : EBValOk rc size v) : rc < 256 ∧ 1 ≤ size ∧ size ≤ 255 := by
  rcases h with ⟨h, b, _, _, _, _⟩ | ⟨h, hs, _⟩ | ⟨h, hs, _⟩ | ⟨h, hs, _⟩ | ⟨h, hs, _⟩ <;> omega

/-- an empty byte string is left out: `EBValOk` wants `1 ≤ size` -/
theorem valOk_of_legal {v : Val} (hv : v.legal) (hne : v ≠ .bytes []) : EBValOk (rcOf v) (sizeOf v) v := by
  cases v with
  | bytes b =>
    have : b.length ≠ 0 := fun h => hne (by rw [List.length_eq_zero_iff.1 h])
    exact .text (by omega) hv
  | float d => exact .float d
  | int i =>
    simp only [Val.legal] at hv
    simp only [rcOf, sizeOf]
    split
    · exact .int8 (by omega) (by omega)
    · split
      · exact .int16 (by omega) (by omega)
      · exact .int32 hv.1 hv.2

/-- numeric values: what `readNum` gives back on what `encVal` produced -/
theorem readNum_enc {rc size : Nat} {v : Val} (h : EBValOk rc size v) (hrc : rc ≠ 65) :
    ∃ vb, encVal rc v = .ok vb ∧ vb.length = size ∧ ∀ rest, readNum rc (vb ++ rest) = .ok (rtVal v, rest) := by
  rcases h with ⟨h65, _⟩ | ⟨rfl, rfl, i, rfl, h0, h1⟩ | ⟨rfl, rfl, i, rfl, h0, h1⟩ | ⟨rfl, rfl, i, rfl, h0, h1⟩ | ⟨rfl, rfl, d, rfl⟩
  · exact absurd h65 hrc
  · refine ⟨[i.toNat], by simp [encVal, h0, show i < 256 by omega], rfl, fun rest => ?_⟩
    simp [readNum, unpackN, readLr, beNat, rtVal]; omega
  · refine ⟨toBE 2 (i % 65536).toNat, by simp [encVal, h0, h1], toBE_length _ _, fun rest => ?_⟩
    simp [readNum, unpackN_toBE, sInt16_toBE i h0 h1, rtVal]
  · refine ⟨toBE 4 (i % 4294967296).toNat, by simp [encVal, h0, h1], toBE_length _ _, fun rest => ?_⟩
    simp [readNum, unpackN_toBE, sInt32_toBE i h0 h1, rtVal]
  · refine ⟨toBE 4 (to68 d), by simp [encVal], toBE_length _ _, fun rest => ?_⟩
    simp [readNum, unpackN_toBE, beNat_toBE 4 _ (to68_lt d), rtVal]

/-! ### component blocks -/

theorem len4 (l : Bytes) (h : l.length = 4) : ∃ a b c d, l = [a, b, c, d] := by
  match l, h with
  | [a, b, c, d], _ => exact ⟨a, b, c, d, rfl⟩

theorem unpackN_cbHead (t rc sz cat m0 m1 m2 m3 u0 u1 u2 u3 : Nat) (r : Bytes) :
    unpackN 12 (t :: rc :: sz :: cat :: m0 :: m1 :: m2 :: m3 :: u0 :: u1 :: u2 :: u3 :: r)
      = .ok ([t, rc, sz, cat, m0, m1, m2, m3, u0, u1, u2, u3], r) :=
  unpackN_append [t, rc, sz, cat, m0, m1, m2, m3, u0, u1, u2, u3] r rfl (by decide)

theorem readCb_text (t sz cat : Nat) (pm pu b rest : Bytes) (hm : pm.length = 4) (hu : pu.length = 4)
    (hb : b.length = sz) :
    readCb ([t, 65, sz, cat] ++ pm ++ pu ++ (b ++ rest))
      = .ok (⟨t, 65, sz, cat, pm, pu, some (.bytes b)⟩, rest) := by
  obtain ⟨m0, m1, m2, m3, rfl⟩ := len4 pm hm
  obtain ⟨u0, u1, u2, u3, rfl⟩ := len4 pu hu
  subst hb
  cases b with
  | nil => simp [readCb, unpackN_cbHead]
  | cons x xs =>
    have hr : readLr (xs.length + 1) (x :: (xs ++ rest)) = (some (x :: xs), rest) := by
      simpa using readLr_append (x :: xs) rest (by simp)
    simp [readCb, unpackN_cbHead, hr]

theorem readCb_num (t rc sz cat : Nat) (pm pu vb rest : Bytes) (v : Val) (hm : pm.length = 4) (hu : pu.length = 4)
    (hrc : rc ≠ 65) (hread : readNum rc (vb ++ rest) = .ok (v, rest)) :
    readCb ([t, rc, sz, cat] ++ pm ++ pu ++ (vb ++ rest))
      = .ok (⟨t, rc, sz, cat, pm, pu, some v⟩, rest) := by
  obtain ⟨m0, m1, m2, m3, rfl⟩ := len4 pm hm
  obtain ⟨u0, u1, u2, u3, rfl⟩ := len4 pu hu
  simp [readCb, unpackN_cbHead, hrc, hread]

theorem rcOf_ne_65 (v : Val) (hnb : ∀ b, v ≠ .bytes b) : rcOf v ≠ 65 := by
  cases v with
  | bytes b => exact absurd rfl (hnb b)
  | float d => simp [rcOf]
  | int i =>
    simp only [rcOf]
    split
    · decide
    · split <;> decide

theorem cbWrite_eq (t : Nat) (v : Val) (m : Bytes) (u : Option Bytes) (ht : t = 73 ∨ t = 0 ∨ t = 69) (hv : v.legal) :
    cbWrite t v m u = .ok ⟨t, rcOf v, sizeOf v, 0, m,
      (match u with | none => spaces4 | some [] => spaces4 | some b => b), some v⟩ := by
  have ht' : ¬ (t ≠ 73 ∧ t ≠ 0 ∧ t ≠ 69) := by omega
  unfold cbWrite
  simp only [ht', if_false]
  cases v with
  | bytes b => rfl
  | float d => rfl
  | int i =>
    simp only [Val.legal] at hv
    simp only [rcOf, sizeOf]
    split
    · rfl
    · split
      · rfl
      · first | rfl | simp [hv.1, hv.2]

/-- a block as it comes back from the file: the value passed through `rtVal` -/
def rtCb (cb : Cb) : Cb := { cb with val := cb.val.map rtVal }

/-- the bytes `CbEngVal.lisBytes()` gives (empty when it raises) -/
def encRaw (cb : Cb) : Bytes := match encCb cb with | .ok b => b | .error _ => []

/-- a block as `CbEngValWrite` builds it, with 4-byte mnemonic and units and a legal value -/
def CbGood (cb : Cb) : Prop :=
  ∃ t v m un, cb = ⟨t, rcOf v, sizeOf v, 0, m, un, some v⟩ ∧ t < 256 ∧ v.legal ∧ m.length = 4 ∧ un.length = 4

/-- **one component block survives**: a block with 4-byte mnemonic and units holding a legal value, written by
`CbEngVal.lisBytes`, is read back by `CbEngValRead` with the value passed through `rtVal` (also an empty byte string at
the very end of the logical data). -/
theorem cb_enc_read (cb : Cb) (h : CbGood cb) :
    encCb cb = .ok (encRaw cb) ∧ 12 ≤ (encRaw cb).length ∧ ∀ rest, readCb (encRaw cb ++ rest) = .ok (rtCb cb, rest) := by
  obtain ⟨t, v, m, un, rfl, ht, hv, hm, hu⟩ := h
  suffices ∃ bs, encCb ⟨t, rcOf v, sizeOf v, 0, m, un, some v⟩ = .ok bs ∧ 12 ≤ bs.length ∧
      ∀ rest, readCb (bs ++ rest) = .ok (⟨t, rcOf v, sizeOf v, 0, m, un, some (rtVal v)⟩, rest) by
    obtain ⟨bs, he, hl, hr⟩ := this
    have : encRaw ⟨t, rcOf v, sizeOf v, 0, m, un, some v⟩ = bs := by simp [encRaw, he]
    rw [this]; exact ⟨he, hl, hr⟩
  have hval : ∃ vb, encVal (rcOf v) v = .ok vb ∧ rcOf v < 256 ∧ sizeOf v < 256 ∧ ∀ rest,
      readCb ([t, rcOf v, sizeOf v, 0] ++ m ++ un ++ (vb ++ rest))
        = .ok (⟨t, rcOf v, sizeOf v, 0, m, un, some (rtVal v)⟩, rest) := by
    by_cases hb : ∃ b, v = .bytes b
    · obtain ⟨b, rfl⟩ := hb
      exact ⟨b, rfl, by simp [rcOf], Nat.lt_succ_of_le hv, fun rest => readCb_text t _ 0 m un b rest hm hu rfl⟩
    · have hnb : ∀ b, v ≠ .bytes b := fun b h => hb ⟨b, h⟩
      have hok := valOk_of_legal hv (hnb [])
      obtain ⟨vb, henc, _, hread⟩ := readNum_enc hok (rcOf_ne_65 v hnb)
      exact ⟨vb, henc, hok.bounds.1, by have := hok.bounds; omega,
        fun rest => readCb_num t _ _ 0 m un vb rest _ hm hu (rcOf_ne_65 v hnb) (hread rest)⟩
  obtain ⟨vb, henc, hrc, hsz, hread⟩ := hval
  refine ⟨[t, rcOf v, sizeOf v, 0] ++ m ++ un ++ vb, ?_, by simp [hm, hu]; omega, fun rest => by
    rw [List.append_assoc]; exact hread rest⟩
  simp [encCb, henc, padTo_eq_self 4 m hm, padTo_eq_self 4 un hu]
  exact ⟨ht, hrc, hsz⟩

end TD.C08
