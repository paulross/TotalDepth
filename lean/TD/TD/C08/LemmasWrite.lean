import TD.C08.LemmasTable

/-! The writer (`LrTableWrite`) in terms of `runRows`, and rows in column order. -/
namespace TD.C08

def unitsOf (u : Option Bytes) : Bytes :=
  match u with
  | none => spaces4
  | some [] => spaces4
  | some b => b

/-- the block `CbEngValWrite(t, cell.v, m, units=cell.u)` builds -/
def cellCb (t : Nat) (m : Bytes) (c : Cell) : Cb := ⟨t, rcOf c.v, sizeOf c.v, 0, m, unitsOf c.u, some c.v⟩

/-- the blocks of one row: type 0 for the first column, 69 for the others -/
def rowCbsFrom : Nat → List Cell → List Bytes → List Cb
  | c, cell :: cells, m :: ms => cellCb (if c = 0 then 0 else 69) m cell :: rowCbsFrom (c + 1) cells ms
  | _, _, _ => []

theorem mem_rowCbsFrom {cb : Cb} : ∀ (cells : List Cell) (ms : List Bytes) (c : Nat), cb ∈ rowCbsFrom c cells ms →
    ∃ cell ∈ cells, ∃ m ∈ ms, ∃ k, c ≤ k ∧ cb = cellCb (if k = 0 then 0 else 69) m cell
  | [], _, _, h => by simp [rowCbsFrom] at h
  | _ :: _, [], _, h => by simp [rowCbsFrom] at h
  | cell :: cells, m :: ms, c, h => by
    simp only [rowCbsFrom, List.mem_cons] at h
    rcases h with rfl | h
    · exact ⟨cell, by simp, m, by simp, c, Nat.le_refl c, rfl⟩
    · obtain ⟨x, hx, y, hy, k, hk, rfl⟩ := mem_rowCbsFrom cells ms (c + 1) h
      exact ⟨x, by simp [hx], y, by simp [hy], k, by omega, rfl⟩

theorem cbWrite_cell (t : Nat) (m : Bytes) (c : Cell) (ht : t = 73 ∨ t = 0 ∨ t = 69) (hv : c.v.legal) :
    cbWrite t c.v m c.u = .ok (cellCb t m c) := by
  rw [cbWrite_eq t c.v m c.u ht hv]; rfl

theorem writeCells_tail (cells : List Cell) :
    ∀ (ms : List Bytes) (c : Nat) (st : TS) (K : List (List Cb)) (p : List Cb), 0 < c → st.tcb.isSome →
      st.rows = K ++ [p] → (∀ x ∈ cells, x.v.legal) → cells.length = ms.length →
      writeCells c cells ms st =
        .ok { st with rows := K ++ [p ++ rowCbsFrom c cells ms], cols := incCols (rowCbsFrom c cells ms) st.cols } := by
  induction cells with
  | nil => intro ms c st K p _ _ hr _ _; simp [writeCells, rowCbsFrom, incCols, ← hr]
  | cons cell cells ih =>
    intro ms c st K p hc ht hr hv hl
    cases ms with
    | nil => simp at hl
    | cons m ms =>
      have hc0 : ¬ c = 0 := by omega
      simp only [writeCells, hc0, if_false, cbWrite_cell 69 m cell (by simp) (hv cell (by simp)),
        addDatum_last (cellCb 69 m cell) rfl st K p ht hr]
      rw [ih ms (c + 1) _ K (p ++ [cellCb 69 m cell]) (by omega) (by simpa using ht) (by simp)
        (fun x hx => hv x (by simp [hx])) (by simpa using hl)]
      simp [rowCbsFrom, hc0, incCols, cellCb, List.append_assoc]

theorem exists_cons_of_length_eq {α β} {r : List α} {ms : List β} (hl : r.length = ms.length) (hne : ms ≠ []) :
    ∃ c cs m ms', r = c :: cs ∧ ms = m :: ms' :=
  match r, ms, hl, hne with
  | c :: cs, m :: ms', _, _ => ⟨c, cs, m, ms', rfl, rfl⟩
  | [], [], _, h => absurd rfl h

theorem writeCells_row (row : List Cell) (ms : List Bytes) (st : TS) (ht : st.tcb.isSome)
    (hv : ∀ x ∈ row, x.v.legal) (hl : row.length = ms.length) (hne : ms ≠ []) :
    writeCells 0 row ms st = .ok (pushRow (rowCbsFrom 0 row ms) st) := by
  obtain ⟨cell, cells, m, ms, rfl, rfl⟩ := exists_cons_of_length_eq hl hne
  simp only [writeCells, if_true, cbWrite_cell 0 m cell (by simp) (hv cell (by simp))]
  have hs : startNewRow (cellCb 0 m cell) st = .ok { st with rows := st.rows ++ [[cellCb 0 m cell]], cols := incCol m st.cols } := by
    simp [startNewRow, cellCb]
  simp only [hs]
  rw [writeCells_tail cells ms 1 _ st.rows [cellCb 0 m cell] (by omega) (by simpa using ht) rfl
    (fun x hx => hv x (by simp [hx])) (by simpa using hl)]
  simp [pushRow, rowCbsFrom, incCols, cellCb]

theorem writeRows_eq (ms : List Bytes) (hne : ms ≠ []) (rows : List (List Cell)) :
    ∀ st : TS, st.tcb.isSome → (∀ r ∈ rows, r.length = ms.length) → (∀ r ∈ rows, ∀ x ∈ r, x.v.legal) →
      writeRows ms rows st = runRows (rows.map (fun r => rowCbsFrom 0 r ms)) st := by
  induction rows with
  | nil => intro st _ _ _; rfl
  | cons r rs ih =>
    intro st ht hl hv
    have hlr : ¬ r.length ≠ ms.length := by simpa using hl r (by simp)
    simp only [writeRows, hlr, if_false, writeCells_row r ms st ht (hv r (by simp)) (hl r (by simp)) hne,
      List.map_cons, runRows]
    cases hi : indexLast (pushRow (rowCbsFrom 0 r ms) st) with
    | error e => rfl
    | ok st2 =>
      simp only [Except.bind]
      apply ih st2
      · rw [indexLast_tcb hi]; exact ht
      · intro x hx; exact hl x (by simp [hx])
      · intro x hx; exact hv x (by simp [hx])

/-! ### rows in column order -/

theorem find_self (row : List Cb) (hnd : (row.map (·.mnem)).Nodup) :
    ∀ c ∈ row, getByLabel row c.mnem = some c := by
  induction row with
  | nil => intro c hc; simp at hc
  | cons a r ih =>
    intro c hc
    simp only [List.map_cons, List.nodup_cons] at hnd
    simp only [getByLabel, List.find?_cons]
    rcases List.mem_cons.1 hc with rfl | hcr
    · simp
    · have hne : (a.mnem == c.mnem) = false := by
        simp only [beq_eq_false_iff_ne, ne_eq]
        intro e
        exact hnd.1 (by rw [e]; exact List.mem_map_of_mem hcr)
      simp only [hne]
      exact ih hnd.2 c hcr

theorem rowInColOrder_self (cols : List (Bytes × Nat)) (row : List Cb) (hk : colKeys cols = row.map (·.mnem))
    (hnd : (row.map (·.mnem)).Nodup) : rowInColOrder cols row = row := by
  unfold rowInColOrder
  have h1 : cols.filterMap (fun c => getByLabel row c.1) = (colKeys cols).filterMap (fun k => getByLabel row k) := by
    simp [colKeys, List.filterMap_map, Function.comp_def]
  rw [h1, hk, List.filterMap_map]
  have : ∀ l : List Cb, (∀ c ∈ l, c ∈ row) → l.filterMap ((fun k => getByLabel row k) ∘ fun c => c.mnem) = l := by
    intro l
    induction l with
    | nil => intro _; rfl
    | cons a l ih =>
      intro h
      simp only [List.filterMap_cons, Function.comp, find_self row hnd a (h a (by simp))]
      rw [ih (fun c hc => h c (by simp [hc]))]
  exact this row (fun c hc => hc)

end TD.C08
