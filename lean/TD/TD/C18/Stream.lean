import TD.C18.Lemmas
/-!
The recogniser run over each piece of markup the writer emits, and the hypotheses a call sequence must meet
(`OpOk`, `shape`).
-/
namespace TD.C18

/-! ### micro-lemmas: pieces of markup -/

theorem nameChar_not_special {c : Char} (h : nameChar c = true) :
    c ≠ '>' ∧ c ≠ '/' ∧ c ≠ '=' ∧ c ≠ ' ' ∧ isS c = false := by
  refine ⟨?_, ?_, ?_, ?_, ?_⟩
  · intro e; subst e; revert h; decide
  · intro e; subst e; revert h; decide
  · intro e; subst e; revert h; decide
  · intro e; subst e; revert h; decide
  · cases hs : isS c with
    | false => rfl
    | true =>
      simp [isS] at hs
      rcases hs with ((e | e) | e) | e <;> (subst e; revert h; decide)

theorem validName_cons {c : Char} {r : Str} (h : validName (c :: r) = true) :
    nameStart c = true ∧ ∀ x ∈ r, nameChar x = true := by
  simp [validName] at h; exact h

theorem nameStart_nameChar {c : Char} (h : nameStart c = true) : nameChar c = true := by
  simp [nameChar, nameCharN, nameStart] at *; simp [h]

theorem validName_nameChar {n : Str} (hn : validName n = true) : ∀ c ∈ n, nameChar c = true := by
  cases n with
  | nil => simp [validName] at hn
  | cons c r =>
    obtain ⟨hs, hr⟩ := validName_cons hn
    intro x hx
    rcases List.mem_cons.1 hx with rfl | hx
    · exact nameStart_nameChar hs
    · exact hr x hx

theorem nameStart_not_special {c : Char} (h : nameStart c = true) :
    c ≠ '/' ∧ c ≠ '!' ∧ c ≠ '?' ∧ c ≠ '>' ∧ isS c = false := by
  have h2 := nameChar_not_special (nameStart_nameChar h)
  refine ⟨h2.2.1, ?_, ?_, h2.1, h2.2.2.2.2⟩
  · intro e; subst e; revert h; decide
  · intro e; subst e; revert h; decide

/-- `<name` from content: the start-tag name -/
theorem run_lt_name (n : Str) (hn : validName n = true) (stk : List Str) (rd : Bool) (evs : List Event)
    (hroot : (stk.isEmpty && rd) = false) :
    runM ⟨.content, stk, rd, evs⟩ ('<' :: n) = some ⟨.stag n.reverse, stk, rd, evs⟩ := by
  cases n with
  | nil => simp [validName] at hn
  | cons c r =>
    obtain ⟨hs, hr⟩ := validName_cons hn
    obtain ⟨h1, h2, h3, _, _⟩ := nameStart_not_special hs
    have e1 : runM ⟨.content, stk, rd, evs⟩ ['<', c] = some ⟨.stag [c], stk, rd, evs⟩ := by
      simp [runM, step, h1, h2, h3, hs, hroot]
    have : '<' :: c :: r = ['<', c] ++ r := rfl
    rw [this, runM_append_of e1, runM_accum .stag _ (fun _ _ _ _ _ h => by simp [step, h]) r [c] _ _ _ hr]; simp

/-- the mode inside a start tag after the name and the attributes `as` -/
def tagMode (n : Str) (as : List (Str × Str)) : Mode :=
  if as.isEmpty then .stag n.reverse else .afterAttr n as

theorem tagMode_cases (n : Str) (as : List (Str × Str)) :
    tagMode n as = .stag n.reverse ∧ as = [] ∨ tagMode n as = .afterAttr n as := by
  cases as <;> simp [tagMode]

/-- one attribute ` k="v"` from inside a start tag -/
theorem run_attr (k v n : Str) (as : List (Str × Str)) (stk : List Str) (rd : Bool) (evs : List Event)
    (hk : validName k = true) (hv : ∀ c ∈ v, xmlChar c = true) (hu : as.any (fun kv => kv.1 = k) = false) :
    runM ⟨tagMode n as, stk, rd, evs⟩ (attrStr (k, v)) = some ⟨tagMode n (as ++ [(k, v)]), stk, rd, evs⟩ := by
  cases k with
  | nil => simp [validName] at hk
  | cons c r =>
    obtain ⟨hs, hr⟩ := validName_cons hk
    obtain ⟨h1, _, _, h4, h5⟩ := nameStart_not_special hs
    have e1 : runM ⟨tagMode n as, stk, rd, evs⟩ [' ', c] = some ⟨.attrName n as [c], stk, rd, evs⟩ := by
      rcases tagMode_cases n as with ⟨h, rfl⟩ | h <;> rw [h] <;>
        simp [runM, step, hs, h5, show nameChar ' ' = false by decide, show isS ' ' = true by decide]
    have e2 : runM ⟨.attrName n as (r.reverse ++ [c]), stk, rd, evs⟩ ['=', '"'] = some ⟨.attrVal n as (c :: r) '"' [], stk, rd, evs⟩ := by
      simp [runM, step, show nameChar '=' = false by decide, show isS '"' = false by decide, hu]
    have e3 : runM ⟨.attrVal n as (c :: r) '"' (v.reverse ++ []), stk, rd, evs⟩ ['"'] = some ⟨.afterAttr n (as ++ [(c :: r, v)]), stk, rd, evs⟩ := by
      simp [runM, step]
    rw [show attrStr (c :: r, v) = [' ', c] ++ (r ++ (['=', '"'] ++ (encodeL v ++ ['"']))) by simp [attrStr],
      show tagMode n (as ++ [(c :: r, v)]) = .afterAttr n (as ++ [(c :: r, v)]) by simp [tagMode],
      runM_append_of e1, runM_append_of (runM_accum (.attrName n as) _ (fun _ _ _ _ _ h => by simp [step, h]) r [c] _ _ _ hr),
      runM_append_of e2, runM_append_of (run_encodeL_attr v hv _ _ _ _ _ _ _), e3]

theorem run_attrs (l : List (Str × Str)) (n : Str) (as : List (Str × Str)) (stk : List Str) (rd : Bool) (evs : List Event)
    (hk : ∀ kv ∈ l, validName kv.1 = true) (hv : ∀ kv ∈ l, ∀ c ∈ kv.2, xmlChar c = true)
    (hu : ((as ++ l).map (·.1)).Nodup) :
    runM ⟨tagMode n as, stk, rd, evs⟩ (l.flatMap attrStr) = some ⟨tagMode n (as ++ l), stk, rd, evs⟩ := by
  induction l generalizing as with
  | nil => simp [runM]
  | cons kv t ih =>
    obtain ⟨k, v⟩ := kv
    have hany : as.any (fun kv => kv.1 = k) = false := by
      rw [List.any_eq_false]
      intro x hx hxe
      simp only [decide_eq_true_eq] at hxe
      simp only [List.map_append, List.map_cons] at hu
      have := (List.nodup_append.1 hu).2.2 x.1 (List.mem_map_of_mem hx) k (by simp)
      exact this hxe
    simp only [List.flatMap_cons]
    rw [runM_append_of (run_attr k v n as stk rd evs (hk (k, v) (by simp)) (hv (k, v) (by simp)) hany),
      ih (as ++ [(k, v)]) (fun kv h => hk kv (by simp [h])) (fun kv h => hv kv (by simp [h])) (by simpa using hu)]
    simp

/-- `>` closing a start tag -/
theorem run_open (n : Str) (as : List (Str × Str)) (stk : List Str) (rd : Bool) (evs : List Event) :
    runM ⟨tagMode n as, stk, rd, evs⟩ ['>'] = some ⟨.content, n :: stk, rd, .start n as :: evs⟩ := by
  rcases tagMode_cases n as with ⟨h, rfl⟩ | h <;> rw [h] <;>
    simp [runM, step, openTag, show nameChar '>' = false by decide, show isS '>' = false by decide]

/-- `/>` closing an empty-element tag -/
theorem run_empty (n : Str) (as : List (Str × Str)) (stk : List Str) (rd : Bool) (evs : List Event) :
    runM ⟨tagMode n as, stk, rd, evs⟩ ['/', '>'] = some ⟨.content, stk, rd || stk.isEmpty, .stop n :: .start n as :: evs⟩ := by
  rcases tagMode_cases n as with ⟨h, rfl⟩ | h <;> rw [h] <;>
    simp [runM, step, emptyTag, show nameChar '/' = false by decide, show isS '/' = false by decide]

/-- `</name>` -/
theorem run_etag (n : Str) (hn : validName n = true) (stk : List Str) (rd : Bool) (evs : List Event) :
    runM ⟨.content, n :: stk, rd, evs⟩ (['<', '/'] ++ n ++ ['>']) = some ⟨.content, stk, rd || stk.isEmpty, .stop n :: evs⟩ := by
  have hall := validName_nameChar hn
  have e1 : runM ⟨.content, n :: stk, rd, evs⟩ ['<', '/'] = some ⟨.etag [], n :: stk, rd, evs⟩ := by
    simp [runM, step]
  rw [List.append_assoc, runM_append_of e1, runM_append_of (runM_accum .etag _ (fun _ _ _ _ _ h => by simp [step, h]) n [] _ _ _ hall)]
  simp [runM, step, closeTag, show nameChar '>' = false by decide, show isS '>' = false by decide]

/-- text that `literal()` may write: plain character data -/
def plainChar (c : Char) : Bool := xmlChar c && c != '<' && c != '&' && c != '>' && c != '\r'

theorem run_plain (s : Str) (hs : ∀ c ∈ s, plainChar c = true) (a : Str) (stk : List Str) (rd : Bool) (evs : List Event) :
    runM ⟨.content, a :: stk, rd, evs⟩ s = some ⟨.content, a :: stk, rd, (s.map Event.chr).reverse ++ evs⟩ := by
  induction s generalizing evs with
  | nil => simp [runM]
  | cons c r ih =>
    have hc := hs c (by simp)
    simp [plainChar] at hc
    obtain ⟨⟨⟨⟨h1, h2⟩, h3⟩, h4⟩, h5⟩ := hc
    rw [runM_cons_of (s' := ⟨.content, a :: stk, rd, .chr c :: evs⟩) (by simp [step, h1, h2, h3, h4, h5]),
      ih (fun c h => hs c (by simp [h]))]
    simp

theorem run_ws (ws : Str) (hws : ∀ c ∈ ws, c = '\n' ∨ c = ' ') (stk : List Str) (rd : Bool) (evs : List Event) :
    runM ⟨.content, stk, rd, evs⟩ ws = some ⟨.content, stk, rd, if stk.isEmpty then evs else (ws.map Event.chr).reverse ++ evs⟩ := by
  cases stk with
  | cons a stk => exact run_plain ws (fun c h => by rcases hws c h with rfl | rfl <;> decide) a stk rd evs
  | nil =>
    induction ws with
    | nil => rfl
    | cons c r ih =>
      rw [runM_cons_of (s' := ⟨.content, [], rd, evs⟩) (by rcases hws c (by simp) with rfl | rfl <;> rfl),
        ih (fun c h => hws c (List.mem_cons_of_mem _ h))]
      rfl

/-! ### comments: the `--` repair of `XmlStream.comment` -/

/-- no run of three dashes, given `k` dashes immediately before -/
def ok3 : Nat → Str → Bool
  | _, [] => true
  | k, c :: r => if c = '-' then (decide (k < 2) && ok3 (k + 1) r) else ok3 0 r

theorem replaceDD_head (t : Str) : (replaceDD t).head? = t.head? := by
  unfold replaceDD
  split <;> simp

/-- the side condition of the second equation of `hasDD` and of `replaceDD` -/
theorem not_dd {c : Char} {r : Str} (hnot : ∀ r', c = '-' → r = '-' :: r' → False) : c ≠ '-' ∨ r.head? ≠ some '-' := by
  by_cases hc : c = '-'
  · right
    cases r with
    | nil => simp
    | cons y r' => intro e; simp at e; exact hnot r' hc (by rw [e])
  · exact Or.inl hc

theorem hasDD_cons {c : Char} {r : Str} (h : c ≠ '-' ∨ r.head? ≠ some '-') : hasDD (c :: r) = hasDD r := by
  rw [hasDD]
  intro r' hc hr
  rcases h with h | h
  · exact h hc
  · exact h (by rw [hr]; rfl)

theorem ok3_nondash (k : Nat) (l : Str) (h : l.head? ≠ some '-') : ok3 k l = ok3 0 l := by
  cases l with
  | nil => simp [ok3]
  | cons x r =>
    have hx : x ≠ '-' := by intro e; subst e; simp at h
    simp [ok3, hx]

theorem ok3_mono (l : Str) : ok3 1 l = true → ok3 0 l = true := by
  cases l with
  | nil => simp [ok3]
  | cons x r =>
    by_cases hx : x = '-'
    · subst hx
      simp only [ok3, if_true]
      intro h
      simp at h ⊢
      cases r with
      | nil => simp [ok3]
      | cons y r' =>
        by_cases hy : y = '-'
        · subst hy; simp [ok3] at h
        · simp [ok3, hy] at h ⊢; exact h
    · simp [ok3, hx]

/-- after one `replace('--', '- -')` there is no run of three dashes (even after one more dash before it) -/
theorem ok3_replaceDD (t : Str) : ok3 1 (replaceDD t) = true := by
  induction t using replaceDD.induct with
  | case1 r ih =>
    simp only [replaceDD]
    simp [ok3, ih]
  | case2 c r hnot ih =>
    rw [replaceDD]
    · by_cases hc : c = '-'
      · subst hc
        simp only [ok3, if_true]
        rw [ok3_nondash 2 _ (by rw [replaceDD_head]; exact (not_dd hnot).resolve_left (by simp))]
        simp [ok3_mono _ ih]
      · simp [ok3, hc, ok3_mono _ ih]
    · exact hnot
  | case3 => simp [replaceDD, ok3]

theorem ok3_two {r : Str} (h : ok3 2 r = true) : r.head? ≠ some '-' ∧ ok3 0 r = true := by
  cases r with
  | nil => simp [ok3]
  | cons y r' =>
    by_cases hy : y = '-'
    · subst hy; simp [ok3] at h
    · refine ⟨by simp [hy], ?_⟩; simpa [ok3, hy] using h

/-- a second `replace` leaves no `--` at all -/
theorem hasDD_replaceDD (t : Str) : ok3 0 t = true → hasDD (replaceDD t) = false := by
  induction t using replaceDD.induct with
  | case1 r ih =>
    intro h
    obtain ⟨hh, h0⟩ := ok3_two (r := r) (by simpa [ok3] using h)
    simp only [replaceDD]
    rw [hasDD_cons (Or.inr (by simp)), hasDD_cons (Or.inl (by decide)),
      hasDD_cons (Or.inr (by rw [replaceDD_head]; exact hh))]
    exact ih h0
  | case2 c r hnot ih =>
    intro h
    rw [replaceDD]
    · rw [hasDD_cons ((not_dd hnot).imp_right (by rw [replaceDD_head]; exact id))]
      apply ih
      by_cases hc : c = '-'
      · subst hc
        have h1 : ok3 1 r = true := by simpa [ok3] using h
        rwa [ok3_nondash 1 _ ((not_dd hnot).resolve_left (by simp))] at h1
      · simpa [ok3, hc] using h
    · exact hnot
  | case3 => intro _; rfl

/-- the `while` loop ends with no `--` left (two rounds always suffice) -/
theorem hasDD_fixDD (f : Nat) (t : Str) : hasDD (fixDD (f + 2) t) = false := by
  simp only [fixDD]
  by_cases h0 : hasDD t = true
  · rw [if_pos h0]
    by_cases h1 : hasDD (replaceDD t) = true
    · rw [if_pos h1]
      have h2 := hasDD_replaceDD (replaceDD t) (ok3_mono _ (ok3_replaceDD t))
      cases f with
      | zero => simpa [fixDD] using h2
      | succ f => simp [fixDD, h2]
    · rw [if_neg h1]; simpa using h1
  · rw [if_neg h0]; simpa using h0

theorem mem_replaceDD (t : Str) : ∀ c ∈ replaceDD t, c ∈ t ∨ c = ' ' := by
  induction t using replaceDD.induct with
  | case1 r ih =>
    intro c hc
    simp only [replaceDD, List.mem_cons] at hc
    rcases hc with rfl | rfl | rfl | hc
    · simp
    · simp
    · simp
    · rcases ih c hc with h | h
      · left; simp [h]
      · right; exact h
  | case2 c r hnot ih =>
    intro x hx
    rw [replaceDD] at hx
    · simp only [List.mem_cons] at hx
      rcases hx with rfl | hx
      · simp
      · rcases ih x hx with h | h
        · left; simp [h]
        · right; exact h
    · exact hnot
  | case3 => simp [replaceDD]

theorem mem_fixDD (f : Nat) (t : Str) : ∀ c ∈ fixDD f t, c ∈ t ∨ c = ' ' := by
  induction f generalizing t with
  | zero => intro c hc; left; simpa [fixDD] using hc
  | succ f ih =>
    intro c hc
    simp only [fixDD] at hc
    split at hc
    · rcases ih _ c hc with h | h
      · exact mem_replaceDD t c h
      · right; exact h
    · left; exact hc

theorem encodeL_chars (s : Str) : ∀ x ∈ encodeL s, xmlChar x = true ∧ x ≠ '>' := by
  intro x hx
  simp only [encodeL, List.mem_flatMap] at hx
  obtain ⟨c, _, hxc⟩ := hx
  rcases encodeChar_form c with ⟨⟨h32, h128, _, hgt, _⟩, e⟩ | ⟨_, r, e, hr, _⟩
  · rw [e, List.mem_singleton] at hxc
    subst hxc
    exact ⟨by simp [xmlChar, isXmlCharN]; omega, hgt⟩
  · rw [e] at hxc
    simp only [List.mem_cons, List.mem_append, List.not_mem_nil, or_false] at hxc
    rcases hxc with rfl | hxc | rfl
    · decide
    · exact ⟨(hr x hxc).2.2.1, (hr x hxc).2.2.2⟩
    · decide

theorem hasDD_append_blank (t : Str) : hasDD (t ++ [' ']) = hasDD t := by
  induction t using hasDD.induct with
  | case1 r => simp [hasDD]
  | case2 c r hnot ih =>
    have h := not_dd hnot
    rw [List.cons_append, hasDD_cons h, ← ih]
    refine hasDD_cons (h.imp_right fun hr => ?_)
    cases r with
    | nil => simp
    | cons y r' => exact hr
  | case3 => rfl

theorem endsDash_append_blank (t : Str) : endsDash (t ++ [' ']) = false := by
  induction t with
  | nil => rfl
  | cons c r ih =>
    cases r with
    | nil => rfl
    | cons y r' => simpa [endsDash] using ih

/-- comment text a parser accepts [15]: no `--`, not ending in `-` (`d` = a `-` has just been read) -/
def cOk : Nat → Str → Bool
  | d, [] => d == 0
  | d, c :: r => if c = '-' then (d == 0 && cOk 1 r) else cOk 0 r

theorem cOk_of_plain (u : Str) : hasDD u = false → endsDash u = false → cOk 0 u = true := by
  induction u using hasDD.induct with
  | case1 r => intro h; simp [hasDD] at h
  | case2 c r hnot ih =>
    intro hd he
    rw [hasDD_cons (not_dd hnot)] at hd
    have he' : endsDash r = false := by
      cases r with
      | nil => rfl
      | cons y r' => simpa [endsDash] using he
    by_cases hc : c = '-'
    · subst hc
      cases r with
      | nil => simp [endsDash] at he
      | cons y r' =>
        have hy : y ≠ '-' := by
          have := (not_dd hnot).resolve_left (by simp); simpa using this
        have := ih hd he'
        simp only [cOk, hy, if_false] at this ⊢
        simpa using this
    · simpa [cOk, hc] using ih hd he'
  | case3 => intro _ _; rfl

theorem commentText_plain (s : Str) : hasDD (commentText s) = false ∧ endsDash (commentText s) = false := by
  have hdd := hasDD_fixDD (encodeL s).length (encodeL s)
  unfold commentText
  simp only
  split
  · exact ⟨by rw [hasDD_append_blank]; exact hdd, endsDash_append_blank _⟩
  · rename_i he; exact ⟨hdd, by simpa using he⟩

theorem commentText_ok (s : Str) : cOk 0 (commentText s) = true ∧ ∀ x ∈ commentText s, xmlChar x = true := by
  refine ⟨cOk_of_plain _ (commentText_plain s).1 (commentText_plain s).2, fun x hx => ?_⟩
  have hx' : x ∈ fixDD ((encodeL s).length + 2) (encodeL s) ∨ x = ' ' := by
    unfold commentText at hx
    simp only at hx
    split at hx
    · simpa using hx
    · exact Or.inl hx
  rcases hx'.elim (mem_fixDD _ _ x) Or.inr with h | rfl
  · exact (encodeL_chars s x h).1
  · decide

theorem run_comment_text (u acc : Str) (d : Nat) (hd : d ≤ 1) (stk : List Str) (rd : Bool) (evs : List Event)
    (h : cOk d u = true) (hx : ∀ x ∈ u, xmlChar x = true) :
    runM ⟨.comment acc d, stk, rd, evs⟩ u = some ⟨.comment (u.reverse ++ (if d = 1 then '-' :: acc else acc)) 0, stk, rd, evs⟩ := by
  induction u generalizing acc d with
  | nil => simp [cOk] at h; subst h; simp [runM]
  | cons c r ih =>
    have hxc := hx c (by simp)
    have hxr : ∀ x ∈ r, xmlChar x = true := fun x hm => hx x (by simp [hm])
    by_cases hc : c = '-'
    · subst hc
      simp [cOk] at h
      obtain ⟨rfl, h⟩ := h
      rw [runM_cons_of (s' := ⟨.comment acc 1, stk, rd, evs⟩) rfl, ih acc 1 (by omega) h hxr]
      simp
    · simp [cOk, hc] at h
      have hd' : d = 0 ∨ d = 1 := by omega
      rcases hd' with rfl | rfl
      · rw [runM_cons_of (s' := ⟨.comment (c :: acc) 0, stk, rd, evs⟩) (by simp [step, hxc, hc]),
          ih (c :: acc) 0 (by omega) h hxr]
        simp
      · rw [runM_cons_of (s' := ⟨.comment (c :: '-' :: acc) 0, stk, rd, evs⟩) (by simp [step, hxc, hc]),
          ih (c :: '-' :: acc) 0 (by omega) h hxr]
        simp

/-- the comment is read back as exactly the text the writer put between `<!--` and `-->` -/
theorem run_comment (s : Str) (stk : List Str) (rd : Bool) (evs : List Event) :
    runM ⟨.content, stk, rd, evs⟩ (['<', '!', '-', '-'] ++ commentText s ++ ['-', '-', '>']) =
      some ⟨.content, stk, rd, .comment (commentText s) :: evs⟩ := by
  have e1 : runM ⟨.content, stk, rd, evs⟩ ['<', '!', '-', '-'] = some ⟨.comment [] 0, stk, rd, evs⟩ := rfl
  obtain ⟨hok, hx⟩ := commentText_ok s
  have ha := run_comment_text (commentText s) [] 0 (by omega) stk rd evs hok hx
  rw [List.append_assoc, runM_append_of e1, runM_append_of ha]
  simp [runM, step]

/-! ### attribute sorting -/

theorem insertAttr_perm (x : Str × Str) (l : List (Str × Str)) : (insertAttr x l).Perm (x :: l) := by
  induction l with
  | nil => simp [insertAttr]
  | cons y t ih =>
    simp only [insertAttr]
    split
    · exact List.Perm.refl _
    · exact (List.Perm.cons y ih).trans (List.Perm.swap x y t)

theorem sortAttrs_perm (l : List (Str × Str)) : (sortAttrs l).Perm l := by
  induction l with
  | nil => simp [sortAttrs]
  | cons x t ih =>
    simp only [sortAttrs]
    exact (insertAttr_perm x _).trans (List.Perm.cons x ih)

/-! ### processing instructions -/

/-- an ASCII name character is written as itself -/
theorem encodeChar_asciiName {c : Char} (hn : nameChar c = true) (ha : c.toNat < 128) : encodeChar c = [c] := by
  rcases encodeChar_form c with ⟨_, e⟩ | ⟨h, _⟩
  · exact e
  · have lo : ∀ n, n < 32 → nameCharN n = false := by decide +kernel
    refine absurd ⟨Nat.le_of_not_lt fun h32 => ?_, ha, ?_, ?_, ?_, ?_, ?_⟩ h
    · rw [nameChar, lo _ h32] at hn; cases hn
    all_goals (rintro rfl; revert hn; decide)

theorem encodeL_asciiName (t : Str) (hn : ∀ c ∈ t, nameChar c = true) (ha : ∀ c ∈ t, c.toNat < 128) : encodeL t = t := by
  induction t with
  | nil => rfl
  | cons c r ih =>
    simp only [encodeL, List.flatMap_cons]
    rw [encodeChar_asciiName (hn c (by simp)) (ha c (by simp))]
    have := ih (fun x hx => hn x (by simp [hx])) (fun x hx => ha x (by simp [hx]))
    simp only [encodeL] at this
    rw [this]; rfl

theorem run_piData (t : Str) (l : Str) (hl : ∀ x ∈ l, xmlChar x = true ∧ x ≠ '>') : ∀ (acc : Str) (q : Bool),
    ∃ d, ∀ (stk : List Str) (rd : Bool) (evs : List Event),
      runM ⟨.piData t acc q, stk, rd, evs⟩ (l ++ ['?', '>']) = some ⟨.content, stk, rd, .pi t d :: evs⟩ := by
  induction l with
  | nil =>
    intro acc q
    cases q
    · exact ⟨acc.reverse, fun stk rd evs => by simp [runM, step]⟩
    · exact ⟨('?' :: acc).reverse, fun stk rd evs => by simp [runM, step]⟩
  | cons c r ih =>
    intro acc q
    obtain ⟨hx, hg⟩ := hl c (by simp)
    have hr : ∀ x ∈ r, xmlChar x = true ∧ x ≠ '>' := fun x h => hl x (by simp [h])
    -- where the machine goes on `c`, by the character and by whether a `?` has just been read
    obtain ⟨acc', q', hstep⟩ : ∃ acc' q', ∀ stk rd evs,
        step ⟨.piData t acc q, stk, rd, evs⟩ c = some ⟨.piData t acc' q', stk, rd, evs⟩ := by
      by_cases hc : c = '?'
      · subst hc
        cases q
        · exact ⟨acc, true, fun _ _ _ => by simp [step]⟩
        · exact ⟨'?' :: acc, true, fun _ _ _ => by simp [step]⟩
      · cases q
        · exact ⟨c :: acc, false, fun _ _ _ => by simp [step, hc, hx]⟩
        · exact ⟨c :: '?' :: acc, false, fun _ _ _ => by simp [step, hc, hx, hg]⟩
    obtain ⟨d, hd⟩ := ih hr acc' q'
    exact ⟨d, fun stk rd evs => by rw [List.cons_append, runM_cons_of (hstep stk rd evs), hd]⟩

theorem run_piWS (t : Str) (l : Str) (hl : ∀ x ∈ l, xmlChar x = true ∧ x ≠ '>') :
    ∃ d, ∀ (stk : List Str) (rd : Bool) (evs : List Event),
      runM ⟨.piWS t, stk, rd, evs⟩ (l ++ ['?', '>']) = some ⟨.content, stk, rd, .pi t d :: evs⟩ := by
  induction l with
  | nil => exact ⟨[], fun stk rd evs => by simp [runM, step, show isS '?' = false by decide]⟩
  | cons c r ih =>
    obtain ⟨hx, hg⟩ := hl c (by simp)
    have hr : ∀ x ∈ r, xmlChar x = true ∧ x ≠ '>' := fun x h => hl x (by simp [h])
    by_cases hs : isS c = true
    · obtain ⟨d, hd⟩ := ih hr
      exact ⟨d, fun stk rd evs => by
        rw [List.cons_append, runM_cons_of (s' := ⟨.piWS t, stk, rd, evs⟩) (by simp [step, hs]), hd]⟩
    · by_cases hc : c = '?'
      · subst hc
        obtain ⟨d, hd⟩ := run_piData t r hr [] true
        exact ⟨d, fun stk rd evs => by
          rw [List.cons_append, runM_cons_of (s' := ⟨.piData t [] true, stk, rd, evs⟩) (by simp [step, hs]), hd]⟩
      · obtain ⟨d, hd⟩ := run_piData t r hr [c] false
        exact ⟨d, fun stk rd evs => by
          rw [List.cons_append, runM_cons_of (s' := ⟨.piData t [c] false, stk, rd, evs⟩) (by simp [step, hs, hc, hx]), hd]⟩

/-- what the caller owes for `pI(s)`: `s` is an ASCII PI target (a Name other than `xml`; the writer would turn a
non-ASCII name character into a reference), alone or followed by one blank and arbitrary data -/
def PiOk (s : Str) : Prop :=
  ∃ t d, validTarget t = true ∧ (∀ c ∈ t, c.toNat < 128) ∧ (s = t ∨ s = t ++ ' ' :: d)

/-- `<?target data?>` from content: accepted, and the target is reported unchanged -/
theorem run_pi (s : Str) (h : PiOk s) :
    ∃ t d', (∀ c ∈ t, c ≠ ' ') ∧ (s = t ∨ ∃ d, s = t ++ ' ' :: d) ∧ ∀ (stk : List Str) (rd : Bool) (evs : List Event),
      runM ⟨.content, stk, rd, evs⟩ (['<', '?'] ++ encodeL s ++ ['?', '>']) = some ⟨.content, stk, rd, .pi t d' :: evs⟩ := by
  obtain ⟨t, d, hv, ha, hs⟩ := h
  have hvn : validName t = true := by simp [validTarget] at hv; exact hv.1
  have hall := validName_nameChar hvn
  have hsp : ∀ c ∈ t, c ≠ ' ' := fun c hc => (nameChar_not_special (hall c hc)).2.2.2.1
  have e1 : ∀ stk rd evs, runM ⟨.content, stk, rd, evs⟩ ['<', '?'] = some ⟨.piTarget [], stk, rd, evs⟩ := fun _ _ _ => rfl
  have et := encodeL_asciiName t hall ha
  rcases hs with hs | hs
  · refine ⟨t, [], hsp, Or.inl hs, fun stk rd evs => ?_⟩
    rw [hs, et, List.append_assoc, runM_append_of (e1 stk rd evs), runM_append_of (runM_accum .piTarget _ (fun _ _ _ _ _ h => by simp [step, h]) t [] stk rd evs hall)]
    simp [runM, step, hv, show nameChar '?' = false by decide, show isS '?' = false by decide]
  · obtain ⟨d', hd'⟩ := run_piWS t (encodeL d) (encodeL_chars d)
    refine ⟨t, d', hsp, Or.inr ⟨d, hs⟩, fun stk rd evs => ?_⟩
    have esp : encodeL (t ++ ' ' :: d) = t ++ ' ' :: encodeL d := by
      simp only [encodeL, List.flatMap_append, List.flatMap_cons]
      have := et; simp only [encodeL] at this; rw [this]
      rfl
    have e2 : runM ⟨.piTarget (t.reverse ++ []), stk, rd, evs⟩ [' '] = some ⟨.piWS t, stk, rd, evs⟩ := by
      simp [runM, step, hv, show nameChar ' ' = false by decide, show isS ' ' = true by decide]
    rw [hs, esp, List.append_assoc, runM_append_of (e1 stk rd evs)]
    rw [show (t ++ ' ' :: encodeL d) ++ ['?', '>'] = t ++ ([' '] ++ (encodeL d ++ ['?', '>'])) by simp]
    rw [runM_append_of (runM_accum .piTarget _ (fun _ _ _ _ _ h => by simp [step, h]) t [] stk rd evs hall), runM_append_of e2]
    exact hd' stk rd evs

/-! ### hypotheses -/

/-- what the caller must respect for one call (the writer does not escape names, and `literal` writes raw text) -/
def OpOk : Op → Prop
  | .start n as => validName n = true ∧ (∀ kv ∈ as, validName kv.1 = true ∧ ∀ c ∈ kv.2, xmlChar c = true) ∧ (as.map (·.1)).Nodup
  | .chars s => ∀ c ∈ s, xmlChar c = true
  | .literal s => ∀ c ∈ s, plainChar c = true
  | .comment _ => True
  | .stop _ => True
  | .spacePreserve => True
  | .pi s => PiOk s
  | .charsBr _ => False

/-- exactly one document element: no start tag at depth 0 once the document element is closed, and at the end
either something is still open (closed by `__exit__`) or the document element has been closed -/
def shape : Nat → Bool → List Op → Bool
  | d, rd, [] => decide (0 < d) || rd
  | d, rd, .start _ _ :: r => !(d == 0 && rd) && shape (d + 1) rd r
  | d, rd, .stop _ :: r => shape (d - 1) (rd || d == 1) r
  | d, rd, _ :: r => shape d rd r

theorem indent_ws (w : WState) : ∀ c ∈ w.indent, c = '\n' ∨ c = ' ' := by
  intro c hc
  unfold WState.indent at hc
  split at hc
  · simp at hc
    rcases hc with rfl | ⟨_, rfl⟩ <;> simp
  · simp at hc

theorem run_startChunk (n : Str) (as : List (Str × Str)) (hok : OpOk (.start n as)) (stk : List Str) (rd : Bool)
    (evs : List Event) (hroot : (stk.isEmpty && rd) = false) :
    runM ⟨.content, stk, rd, evs⟩ (startChunk n as) = some ⟨tagMode n (sortAttrs as), stk, rd, evs⟩ := by
  obtain ⟨hn, has, hnd⟩ := hok
  have hperm := sortAttrs_perm as
  have r1 := run_lt_name n hn stk rd evs hroot
  have r2 := run_attrs (sortAttrs as) n [] stk rd evs (fun kv hkv => (has kv (hperm.mem_iff.1 hkv)).1)
    (fun kv hkv => (has kv (hperm.mem_iff.1 hkv)).2) (by simpa using ((hperm.map _).nodup_iff).2 hnd)
  rw [show tagMode n [] = .stag n.reverse by simp [tagMode]] at r2
  rw [show startChunk n as = ('<' :: n) ++ (sortAttrs as).flatMap attrStr by simp [startChunk], runM_append_of r1, r2]
  simp

theorem stripDecl_header (rest : Str) : stripDecl (xmlHeader "utf-8".toList ++ rest) = some rest := by
  rfl

theorem parse_header {body : Str} {p : PState} (h : runM {} body = some p) (ha : accepting p = true) :
    parse (xmlHeader "utf-8".toList ++ body) = some p.evs.reverse := by
  rw [parse, stripDecl_header]
  simp only [h, ha, if_true]

theorem wellFormed_header {body : Str} {p : PState} (h : runM {} body = some p) (ha : accepting p = true) :
    wellFormed (xmlHeader "utf-8".toList ++ body) = true := by
  unfold wellFormed
  rw [parse_header h ha]
  rfl

theorem document_ok {k : Kind} {enc : Str} {ops : List Op} {doc : Str} (h : document k enc ops = .ok doc) :
    ∃ w1 c1, runW (enter k enc).1 ops = .ok (w1, c1) ∧ doc = (enter k enc).2 ++ (c1 ++ exitChunk w1) := by
  unfold document at h
  generalize enter k enc = e at h ⊢
  obtain ⟨w0, c0⟩ := e
  simp only at h ⊢
  cases hr : runW w0 ops with
  | error e => rw [hr] at h; cases h
  | ok r =>
    rw [hr] at h
    cases h
    exact ⟨r.1, r.2, rfl, List.append_assoc _ _ _⟩

/-- the form in which the examples of `TD.C18.Props` state well-formedness; used there only -/
theorem map_wellFormed_of_isOk {r : Except Err Str} (hr : r.isOk = true)
    (h : ∀ doc, r = .ok doc → wellFormed doc = true) : r.toOption.map wellFormed = some true := by
  cases r with
  | error e => cases hr
  | ok doc => exact congrArg some (h doc rfl)

theorem enter_xhtml (enc : Str) : enter .xhtml enc =
    ((startElement {} "html".toList xhtmlRootAttrs).1,
     xmlHeader enc ++ xhtmlDoctype ++ (startElement {} "html".toList xhtmlRootAttrs).2) := rfl

theorem run_doctype : runM {} xhtmlDoctype = some ⟨.content, [], false, [.doctype xhtmlDoctype.tail.tail.tail.dropLast]⟩ := by
  decide +kernel

theorem html_ok : OpOk (.start "html".toList xhtmlRootAttrs) :=
  ⟨by decide +kernel, by decide +kernel, by decide +kernel⟩

theorem element_doc (n : Str) (as : List (Str × Str)) (s : Str) :
    document .xml "utf-8".toList [.start n as, .chars s, .stop n] =
      .ok (xmlHeader "utf-8".toList ++ (['\n'] ++ (startChunk n as ++ (['>'] ++ (encodeL s ++ ((['<', '/'] ++ n ++ ['>']) ++ ['\n'])))))) := by
  simp [document, enter, runW, stepW, startElement, endElement, WState.closeIfOpen, WState.flipIndent, WState.indent,
    WState.canIndent, exitChunk, closeAll]

theorem element_parse (n : Str) (as : List (Str × Str)) (s : Str)
    (hn : validName n = true)
    (has : ∀ kv ∈ as, validName kv.1 = true ∧ ∀ c ∈ kv.2, xmlChar c = true)
    (hnd : (as.map (·.1)).Nodup) (hs : ∀ c ∈ s, xmlChar c = true) :
    parse (xmlHeader "utf-8".toList ++ (['\n'] ++ (startChunk n as ++ (['>'] ++ (encodeL s ++ ((['<', '/'] ++ n ++ ['>']) ++ ['\n']))))))
      = some (.start n (sortAttrs as) :: (s.map Event.chr ++ [.stop n])) := by
  have e0 : runM {} ['\n'] = some ⟨.content, [], false, []⟩ := rfl
  have e1 := run_startChunk n as ⟨hn, has, hnd⟩ [] false [] rfl
  have e2 := run_open n (sortAttrs as) [] false []
  have e3 := run_encodeL_content s hs n [] false [.start n (sortAttrs as)]
  have e4 := run_etag n hn [] false ((s.map Event.chr).reverse ++ [.start n (sortAttrs as)])
  have e5 : ∀ evs, runM ⟨.content, [], true, evs⟩ ['\n'] = some ⟨.content, [], true, evs⟩ := fun _ => rfl
  rw [parse_header (by rw [runM_append_of e0, runM_append_of e1, runM_append_of e2, runM_append_of e3, runM_append_of e4]; exact e5 _) rfl]
  simp

end TD.C18
