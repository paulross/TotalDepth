import TD.C18.Stream
/-! The recogniser follows the writer call by call; one invariant carries the nesting and the events read. -/
namespace TD.C18

/-! ### the specification of "the data, unchanged" for a whole call sequence -/

/-- what the calls ask for, independently of how the writer lays the text out; most recent event first -/
structure SpecSt where
  stk : List Str := []
  rev : List Event := []

def notBlank (c : Char) : Bool := c != ' '

def specStep (st : SpecSt) : Op → SpecSt
  | .start n as => ⟨n :: st.stk, .start n (sortAttrs as) :: st.rev⟩
  | .stop n => ⟨st.stk.tail, .stop n :: st.rev⟩
  | .chars s => ⟨st.stk, (s.map Event.chr).reverse ++ st.rev⟩
  | .literal s => ⟨st.stk, (s.map Event.chr).reverse ++ st.rev⟩
  | .comment s => ⟨st.stk, .comment (commentText s) :: st.rev⟩
  | .pi s => ⟨st.stk, .pi (s.takeWhile notBlank) [] :: st.rev⟩    -- the target; nothing is claimed about PI data
  | _ => st    -- `xmlSpacePreserve` writes nothing; `charactersWithBr` is not covered (`OpOk` excludes it)

/-- `__exit__`: whatever is open is closed, innermost first -/
def specClose : List Str → List Event → List Event
  | [], rev => rev
  | top :: rest, rev => specClose rest (.stop top :: rev)

/-- the events the calls `ops` ask for, in document order -/
def specEvents (ops : List Op) : List Event :=
  let st := ops.foldl specStep {}
  (specClose st.stk st.rev).reverse

/-- reversed indentation run: spaces, then the newline that started it -/
def IsIndentRev (ws : List Event) : Prop := ∃ k, ws = List.replicate k (Event.chr ' ') ++ [Event.chr '\n']

def AllFalse (m : List Bool) : Prop := ∀ b ∈ m, b = false

/-- `PadRev m spec parsed` (both most-recent-first): `parsed` is `spec` with nothing changed except that an
indentation run (newline + spaces) may stand immediately before a start tag or an end tag, and only where neither the
element concerned nor any enclosing element has character data so far.  `m` = per open element (innermost first):
has it character data? -/
inductive PadRev : List Bool → List Event → List Event → Prop
  | nil : PadRev [] [] []
  | start {m s p} (n : Str) (a : List (Str × Str)) (ws : List Event) :
      PadRev m s p → (ws = [] ∨ (IsIndentRev ws ∧ AllFalse m)) →
      PadRev (false :: m) (.start n a :: s) (.start n a :: (ws ++ p))
  | stop {b m s p} (n : Str) (ws : List Event) :
      PadRev (b :: m) s p → (ws = [] ∨ (IsIndentRev ws ∧ AllFalse (b :: m))) →
      PadRev m (.stop n :: s) (.stop n :: (ws ++ p))
  | chr {b m s p} (c : Char) : PadRev (b :: m) s p → PadRev (true :: m) (.chr c :: s) (.chr c :: p)
  | comment {m s p} (t : Str) : PadRev m s p → PadRev m (.comment t :: s) (.comment t :: p)
  | pi {m s p} (t d d' : Str) : PadRev m s p → PadRev m (.pi t d :: s) (.pi t d' :: p)

theorem PadRev.chrs {b : Bool} {m : List Bool} {s p : List Event} (h : PadRev (b :: m) s p) (cs : Str) :
    ∃ b', PadRev (b' :: m) ((cs.map Event.chr).reverse ++ s) ((cs.map Event.chr).reverse ++ p) := by
  induction cs generalizing b s p with
  | nil => exact ⟨b, by simpa using h⟩
  | cons c r ih =>
    obtain ⟨b', hb⟩ := ih (PadRev.chr c h)
    exact ⟨b', by simpa using hb⟩

/-- writer flag false wherever the element has character data -/
inductive FlagsRel : List Bool → List Bool → Prop
  | nil : FlagsRel [] []
  | cons {a b : Bool} {l1 l2 : List Bool} : (a = true → b = false) → FlagsRel l1 l2 → FlagsRel (a :: l1) (b :: l2)

theorem FlagsRel.allFalse {m ws : List Bool} (h : FlagsRel m ws) (hall : ws.all id = true) : AllFalse m := by
  induction h with
  | nil => intro b hb; cases hb
  | cons hab _ ih =>
    simp only [List.all_cons, Bool.and_eq_true, id] at hall
    intro x hx
    simp only [List.mem_cons] at hx
    rcases hx with rfl | hx
    · cases hx' : x with
      | false => rfl
      | true => have := hab hx'; rw [hall.1] at this; cases this
    · exact ih hall.2 x hx

theorem indent_events (w : WState) :
    (w.indent.map Event.chr).reverse = [] ∧ w.indent = [] ∨
    (IsIndentRev (w.indent.map Event.chr).reverse ∧ w.canIndentStk.all id = true) := by
  unfold WState.indent WState.canIndent
  split
  · rename_i h
    right
    refine ⟨⟨2 * w.elemStk.length, ?_⟩, h⟩
    simp
  · left; simp

/-- `PadRev` on the events read after `base` (for `XhtmlStream`, the DOCTYPE) -/
def PadFrom (base : List Event) (m : List Bool) (s p : List Event) : Prop := ∃ e, p = e ++ base ∧ PadRev m s e

variable {base : List Event}

theorem PadFrom.start {m : List Bool} {s p : List Event} (n : Str) (a : List (Str × Str))
    (ws : List Event) (h : PadFrom base m s p) (hws : ws = [] ∨ (IsIndentRev ws ∧ AllFalse m)) :
    PadFrom base (false :: m) (.start n a :: s) (.start n a :: (ws ++ p)) := by
  obtain ⟨e, rfl, he⟩ := h
  exact ⟨.start n a :: (ws ++ e), by simp, PadRev.start n a ws he hws⟩

theorem PadFrom.stop {b : Bool} {m : List Bool} {s p : List Event} (n : Str) (ws : List Event)
    (h : PadFrom base (b :: m) s p) (hws : ws = [] ∨ (IsIndentRev ws ∧ AllFalse (b :: m))) :
    PadFrom base m (.stop n :: s) (.stop n :: (ws ++ p)) := by
  obtain ⟨e, rfl, he⟩ := h
  exact ⟨.stop n :: (ws ++ e), by simp, PadRev.stop n ws he hws⟩

theorem PadFrom.chrs {b : Bool} {m : List Bool} {s p : List Event} (h : PadFrom base (b :: m) s p)
    (cs : Str) : ∃ b', PadFrom base (b' :: m) ((cs.map Event.chr).reverse ++ s) ((cs.map Event.chr).reverse ++ p) := by
  obtain ⟨e, rfl, he⟩ := h
  obtain ⟨b', hb⟩ := he.chrs cs
  exact ⟨b', _, (List.append_assoc _ _ _).symm, hb⟩

theorem PadFrom.comment {m : List Bool} {s p : List Event} (t : Str) (h : PadFrom base m s p) :
    PadFrom base m (.comment t :: s) (.comment t :: p) := by
  obtain ⟨e, rfl, he⟩ := h
  exact ⟨.comment t :: e, rfl, PadRev.comment t he⟩

theorem PadFrom.pi {m : List Bool} {s p : List Event} (t d d' : Str) (h : PadFrom base m s p) :
    PadFrom base m (.pi t d :: s) (.pi t d' :: p) := by
  obtain ⟨e, rfl, he⟩ := h
  exact ⟨.pi t d' :: e, rfl, PadRev.pi t d d' he⟩

theorem closeIfOpen_fst (w : WState) : w.closeIfOpen.1 = ⟨w.elemStk, false, w.canIndentStk⟩ := by
  unfold WState.closeIfOpen
  split
  · rfl
  · rename_i h; cases w; simp_all

theorem closeIfOpen_chunk (w : WState) : w.closeIfOpen.2 = if w.inElem then ['>'] else [] := by
  unfold WState.closeIfOpen
  split <;> rfl

theorem startElement_eq (w : WState) (n : Str) (as : List (Str × Str)) :
    startElement w n as =
      ({ elemStk := n :: w.closeIfOpen.1.elemStk, inElem := true, canIndentStk := true :: w.closeIfOpen.1.canIndentStk },
       w.closeIfOpen.2 ++ w.closeIfOpen.1.indent ++ startChunk n as) := rfl

/-- The recogniser is described as it will be once a pending start tag is closed: every call but an immediate
`endElement` begins with `_closeElemIfOpen()`; for that one, `tag` keeps what closing with `/>` needs. -/
structure Inv (base : List Event) (w : WState) (p : PState) (st : SpecSt) : Prop where
  names : ∀ n ∈ w.elemStk, validName n = true
  len : w.canIndentStk.length = w.elemStk.length
  stk : st.stk = w.elemStk
  tag : w.inElem = true → ∃ name as, p.mode = tagMode name as
  closed : ∃ evs m, runM p w.closeIfOpen.2 = some ⟨.content, w.elemStk, p.rootDone, evs⟩ ∧
    FlagsRel m w.canIndentStk ∧ PadFrom base m st.rev evs

theorem Inv.content {w : WState} {st : SpecSt} {m : List Bool} {rd : Bool} {evs : List Event}
    (names : ∀ n ∈ w.elemStk, validName n = true) (len : w.canIndentStk.length = w.elemStk.length)
    (stk : st.stk = w.elemStk) (hi : w.inElem = false) (hm : FlagsRel m w.canIndentStk)
    (hp : PadFrom base m st.rev evs) : Inv base w ⟨.content, w.elemStk, rd, evs⟩ st :=
  ⟨names, len, stk, fun h => (by rw [hi] at h; cases h), evs, m, (by rw [closeIfOpen_chunk, hi]; rfl), hm, hp⟩

theorem indent_step (w1 : WState) (m : List Bool) (hm : FlagsRel m w1.canIndentStk) (stk : List Str) (rd : Bool) (evs : List Event) :
    ∃ wsE, runM ⟨.content, stk, rd, evs⟩ w1.indent = some ⟨.content, stk, rd, wsE ++ evs⟩ ∧
      (wsE = [] ∨ (IsIndentRev wsE ∧ AllFalse m)) := by
  have hrun := run_ws w1.indent (indent_ws w1) stk rd evs
  cases stk with
  | nil => exact ⟨[], by simpa using hrun, Or.inl rfl⟩
  | cons a stk =>
    refine ⟨(w1.indent.map Event.chr).reverse, by simpa using hrun, ?_⟩
    rcases indent_events w1 with ⟨h, _⟩ | ⟨h1, h2⟩
    · exact Or.inl h
    · exact Or.inr ⟨h1, hm.allFalse h2⟩

theorem sim_start {w w' : WState} {p : PState} {st : SpecSt} {n chunk : Str} {as : List (Str × Str)} (h : Inv base w p st)
    (hs : startElement w n as = (w', chunk)) (hok : OpOk (.start n as)) (hroot : w.elemStk = [] → p.rootDone = false) :
    ∃ p', runM p chunk = some p' ∧ Inv base w' p' (specStep st (.start n as)) ∧
      p'.rootDone = p.rootDone ∧ w'.elemStk.length = w.elemStk.length + 1 := by
  obtain ⟨evs1, m, r1, hm, hp⟩ := h.closed
  rw [startElement_eq, closeIfOpen_fst] at hs
  obtain ⟨wsE, r2, hws⟩ := indent_step ⟨w.elemStk, false, w.canIndentStk⟩ m hm w.elemStk p.rootDone evs1
  have hr : (w.elemStk.isEmpty && p.rootDone) = false := by
    cases he : w.elemStk with
    | nil => simp [hroot he]
    | cons a b => simp
  have r3 := run_startChunk n as hok w.elemStk p.rootDone (wsE ++ evs1) hr
  cases hs
  refine ⟨⟨tagMode n (sortAttrs as), w.elemStk, p.rootDone, wsE ++ evs1⟩, ?_, ⟨?_, ?_, ?_, ?_, ?_⟩, rfl, rfl⟩
  · rw [List.append_assoc, runM_append_of r1, runM_append_of r2, r3]
  · intro x hx
    rcases List.mem_cons.1 hx with rfl | hx
    · exact hok.1
    · exact h.names x hx
  · simp [h.len]
  · simp [specStep, h.stk]
  · exact fun _ => ⟨n, sortAttrs as, rfl⟩
  · exact ⟨_, false :: m, run_open n (sortAttrs as) w.elemStk p.rootDone (wsE ++ evs1), FlagsRel.cons (by simp) hm,
      hp.start n _ wsE hws⟩

theorem sim_stop {w w' : WState} {p : PState} {st : SpecSt} {name chunk : Str} (h : Inv base w p st)
    (hs : endElement w name = .ok (w', chunk)) :
    ∃ p', runM p chunk = some p' ∧ Inv base w' p' (specStep st (.stop name)) ∧
      p'.rootDone = (p.rootDone || w'.elemStk.isEmpty) ∧ w'.elemStk.length + 1 = w.elemStk.length := by
  obtain ⟨evs1, m, r1, hm, hp⟩ := h.closed
  unfold endElement at hs
  split at hs
  · cases hs
  · rename_i top rest hstk
    split at hs
    · cases hs
    · rename_i hname
      have hname : name = top := by simpa using hname
      subst hname
      have hlen := h.len
      rw [hstk] at hlen r1
      obtain ⟨wb, tl, hc⟩ : ∃ wb tl, w.canIndentStk = wb :: tl := by
        cases hcs : w.canIndentStk with
        | nil => rw [hcs] at hlen; simp at hlen
        | cons a b => exact ⟨a, b, rfl⟩
      rw [hc] at hm hlen
      cases hm with
      | cons hab htl =>
        rename_i b m0
        have names' : ∀ x ∈ rest, validName x = true := fun x hx => h.names x (by rw [hstk]; exact List.mem_cons_of_mem _ hx)
        have len' : tl.length = rest.length := by simpa using hlen
        have stk' : (specStep st (.stop name)).stk = rest := by simp [specStep, h.stk, hstk]
        rw [closeIfOpen_chunk] at r1
        obtain ⟨mode, stk, rd, evs⟩ := p
        by_cases hi : w.inElem = true
        · simp only [hi, if_true] at hs r1
          cases hs
          obtain ⟨nm, as, hmode⟩ := h.tag hi
          simp only at hmode
          subst hmode
          -- the pending tag, closed by `>`, is the state of the invariant; closed by `/>` it has one more event
          rw [run_open] at r1
          cases r1
          refine ⟨_, run_empty name as rest rd evs, ?_, rfl, by simp [hstk]⟩
          simp only [hc, List.tail_cons]
          exact Inv.content (w := ⟨rest, false, tl⟩) names' len' stk' rfl htl (by simpa [specStep] using hp.stop name [] (Or.inl rfl))
        · have hi' : w.inElem = false := by simpa using hi
          simp only [hi', Bool.false_eq_true, if_false] at hs r1
          cases hs
          cases r1
          obtain ⟨wsE, r2, hws⟩ := indent_step ⟨rest, false, wb :: tl⟩ (b :: m0) (FlagsRel.cons hab htl) (name :: rest) rd evs1
          refine ⟨⟨.content, rest, rd || rest.isEmpty, .stop name :: (wsE ++ evs1)⟩, ?_, ?_, rfl, by simp [hstk]⟩
          · rw [hc, List.append_assoc, List.append_assoc, runM_append_of r2]
            simpa [List.append_assoc] using run_etag name (h.names name (by rw [hstk]; simp)) rest rd (wsE ++ evs1)
          · simp only [hc, List.tail_cons]
            exact Inv.content (w := ⟨rest, false, tl⟩) names' len' stk' rfl htl (by simpa [specStep] using hp.stop name wsE hws)

/-- text written after `_closeElemIfOpen()`, then `_flipIndent(False)`: `ne` the events read, `sne` those asked for -/
theorem sim_text {w w2 : WState} {p : PState} {st : SpecSt} (h : Inv base w p st)
    (hf : w.closeIfOpen.1.flipIndent false = .ok w2) (txt : Str) (ne sne : List Event)
    (hrun : ∀ a stk rd evs, runM ⟨.content, a :: stk, rd, evs⟩ txt = some ⟨.content, a :: stk, rd, ne ++ evs⟩)
    (hpad : ∀ (b : Bool) (m : List Bool) (s p : List Event), PadFrom base (b :: m) s p →
      ∃ b', PadFrom base (b' :: m) (sne ++ s) (ne ++ p)) :
    ∃ p', runM p (w.closeIfOpen.2 ++ txt) = some p' ∧ Inv base w2 p' ⟨st.stk, sne ++ st.rev⟩ ∧
      p'.rootDone = p.rootDone ∧ w2.elemStk = w.elemStk := by
  obtain ⟨evs1, m, r1, hm, hp⟩ := h.closed
  -- the flip only succeeds inside an element
  rw [closeIfOpen_fst] at hf
  unfold WState.flipIndent at hf
  cases hcs : w.canIndentStk with
  | nil => rw [hcs] at hf; cases hf
  | cons wb tl =>
    rw [hcs] at hf hm
    cases hf
    cases hm with
    | cons hab htl =>
      rename_i b m0
      have hlen := h.len
      rw [hcs] at hlen
      cases hstk : w.elemStk with
      | nil => rw [hstk] at hlen; simp at hlen
      | cons a stk =>
        rw [hstk] at r1
        obtain ⟨b', hb'⟩ := hpad b m0 _ _ hp
        refine ⟨⟨.content, a :: stk, p.rootDone, ne ++ evs1⟩, by rw [runM_append_of r1]; exact hrun a stk p.rootDone evs1,
          ?_, rfl, rfl⟩
        rw [← hstk]
        exact Inv.content (w := ⟨w.elemStk, false, false :: tl⟩) h.names hlen h.stk rfl (FlagsRel.cons (fun _ => rfl) htl) hb'

theorem takeWhile_target (t d : Str) (ht : ∀ c ∈ t, c ≠ ' ') :
    t.takeWhile notBlank = t ∧ (t ++ ' ' :: d).takeWhile notBlank = t := by
  induction t with
  | nil => exact ⟨rfl, by simp [notBlank]⟩
  | cons c r ih =>
    have hc : notBlank c = true := by simp [notBlank, ht c (by simp)]
    obtain ⟨a, b⟩ := ih (fun x hx => ht x (by simp [hx]))
    exact ⟨by simp only [List.takeWhile_cons, hc, if_true, a],
           by simp only [List.cons_append, List.takeWhile_cons, hc, if_true, b]⟩

theorem stepW_text_ok {w w' : WState} {chunk t : Str}
    (hs : (match w.closeIfOpen.1.flipIndent false with
        | .error e => (.error e : Except Err (WState × Str))
        | .ok w2 => .ok (w2, t)) = .ok (w', chunk)) :
    w.closeIfOpen.1.flipIndent false = .ok w' ∧ chunk = t := by
  cases hf : w.closeIfOpen.1.flipIndent false with
  | error e => rw [hf] at hs; cases hs
  | ok w2 => rw [hf] at hs; cases hs; exact ⟨rfl, rfl⟩

theorem sim_step {w w' : WState} {p : PState} {st : SpecSt} {op : Op} {chunk : Str} (r : List Op)
    (h : Inv base w p st) (hs : stepW w op = .ok (w', chunk)) (hok : OpOk op)
    (hsh : shape w.elemStk.length p.rootDone (op :: r) = true) :
    ∃ p', runM p chunk = some p' ∧ Inv base w' p' (specStep st op) ∧ shape w'.elemStk.length p'.rootDone r = true := by
  cases op with
  | start n as =>
    simp only [shape, Bool.and_eq_true, Bool.not_eq_true'] at hsh
    obtain ⟨p', r', i, rd, l⟩ := sim_start h (Except.ok.inj hs) hok (fun he => by simpa [he] using hsh.1)
    exact ⟨p', r', i, by rw [rd, l]; exact hsh.2⟩
  | stop name =>
    obtain ⟨p', r', i, rd, l⟩ := sim_stop h hs
    refine ⟨p', r', i, ?_⟩
    simp only [shape] at hsh
    have e : w'.elemStk.isEmpty = (w.elemStk.length == 1) := by
      cases hw' : w'.elemStk with
      | nil => rw [hw'] at l; simp [← l]
      | cons a b => rw [hw'] at l; simp [← l]
    rw [rd, e, show w'.elemStk.length = w.elemStk.length - 1 by omega]
    exact hsh
  | chars s =>
    obtain ⟨hf, rfl⟩ := stepW_text_ok (t := w.closeIfOpen.2 ++ encodeL s) hs
    obtain ⟨p', r', i, rd, l⟩ := sim_text h hf (encodeL s) _ _ (fun a stk rd evs => run_encodeL_content s hok a stk rd evs)
      (fun _ _ _ _ hp => hp.chrs s)
    exact ⟨p', r', i, by rw [rd, l]; exact hsh⟩
  | literal s =>
    obtain ⟨hf, rfl⟩ := stepW_text_ok (t := w.closeIfOpen.2 ++ s) hs
    obtain ⟨p', r', i, rd, l⟩ := sim_text h hf s _ _ (fun a stk rd evs => run_plain s hok a stk rd evs)
      (fun _ _ _ _ hp => hp.chrs s)
    exact ⟨p', r', i, by rw [rd, l]; exact hsh⟩
  | pi s =>
    obtain ⟨hf, rfl⟩ := stepW_text_ok (t := w.closeIfOpen.2 ++ ['<', '?'] ++ encodeL s ++ ['?', '>']) hs
    obtain ⟨t, d', hsp, hst, hrun⟩ := run_pi s hok
    have htk : s.takeWhile notBlank = t := by
      rcases hst with e | ⟨d, e⟩
      · rw [e]; exact (takeWhile_target t [] hsp).1
      · rw [e]; exact (takeWhile_target t d hsp).2
    obtain ⟨p', r', i, rd, l⟩ := sim_text h hf (['<', '?'] ++ encodeL s ++ ['?', '>']) [.pi t d'] [.pi t []]
      (fun a stk rd evs => hrun (a :: stk) rd evs) (fun b m s p hp => ⟨b, hp.pi t [] d'⟩)
    exact ⟨p', by simpa [List.append_assoc] using r', by simpa [specStep, htk] using i, by rw [rd, l]; exact hsh⟩
  | comment s =>
    have e : (w.closeIfOpen.1, w.closeIfOpen.2 ++ ['<', '!', '-', '-'] ++ commentText s ++ ['-', '-', '>']) = (w', chunk) :=
      Except.ok.inj hs
    cases e
    obtain ⟨evs1, m, r1, hm, hp⟩ := h.closed
    refine ⟨⟨.content, w.elemStk, p.rootDone, .comment (commentText s) :: evs1⟩, ?_, ?_, by rw [closeIfOpen_fst]; exact hsh⟩
    · rw [List.append_assoc, List.append_assoc, runM_append_of r1]
      simpa [List.append_assoc] using run_comment s w.elemStk p.rootDone evs1
    · rw [closeIfOpen_fst]
      exact Inv.content (w := ⟨w.elemStk, false, w.canIndentStk⟩) h.names h.len h.stk rfl hm (hp.comment _)
  | spacePreserve =>
    simp only [stepW] at hs
    split at hs
    · cases hs
    · rename_i x tl hr
      cases hs
      obtain ⟨evs1, m, r1, hm, hp⟩ := h.closed
      rw [hr] at hm
      cases hm with
      | cons hab htl =>
        -- only the top flag changes, to `false`: whatever the element has so far, the relation holds
        exact ⟨p, rfl, ⟨h.names, by simpa [hr] using h.len, h.stk, h.tag, evs1, _, by rw [closeIfOpen_chunk] at r1 ⊢; exact r1,
          FlagsRel.cons (fun _ => rfl) htl, hp⟩, hsh⟩
  | charsBr s => exact absurd hok (by simp [OpOk])

theorem sim_run (ops : List Op) : ∀ {w w' : WState} {p : PState} {st : SpecSt} {chunk : Str},
    Inv base w p st → runW w ops = .ok (w', chunk) → (∀ op ∈ ops, OpOk op) →
    shape w.elemStk.length p.rootDone ops = true →
    ∃ p', runM p chunk = some p' ∧ Inv base w' p' (ops.foldl specStep st) ∧ (0 < w'.elemStk.length ∨ p'.rootDone = true) := by
  induction ops with
  | nil =>
    intro w w' p st chunk h hr _ hsh
    simp only [runW] at hr
    cases hr
    exact ⟨p, rfl, h, by simpa [shape] using hsh⟩
  | cons op r ih =>
    intro w w' p st chunk h hr hok hsh
    simp only [runW] at hr
    cases hst : stepW w op with
    | error e => rw [hst] at hr; cases hr
    | ok r1 =>
      obtain ⟨w1, c1⟩ := r1
      rw [hst] at hr
      simp only at hr
      cases hrr : runW w1 r with
      | error e => rw [hrr] at hr; cases hr
      | ok r2 =>
        obtain ⟨w2, c2⟩ := r2
        rw [hrr] at hr
        cases hr
        obtain ⟨p1, r1, i1, hsh1⟩ := sim_step r h hst (hok op (by simp)) hsh
        obtain ⟨p2, r2, i2, fin⟩ := ih i1 hrr (fun o ho => hok o (by simp [ho])) hsh1
        exact ⟨p2, by rw [runM_append_of r1]; exact r2, i2, fin⟩

theorem endElement_top_ok {w : WState} {top : Str} {rest : List Str} (h : w.elemStk = top :: rest) :
    ∃ r, endElement w top = .ok r := by
  unfold endElement
  rw [h]
  simp only [ne_eq, not_true_eq_false, if_false]
  split <;> exact ⟨_, rfl⟩

theorem sim_closeAll (fuel : Nat) : ∀ (w : WState) (p : PState) (st : SpecSt), Inv base w p st →
    w.elemStk.length ≤ fuel → (0 < w.elemStk.length ∨ p.rootDone = true) →
    ∃ p', runM p (closeAll fuel w) = some p' ∧ accepting p' = true ∧ PadFrom base [] (specClose st.stk st.rev) p'.evs := by
  have atRoot : ∀ (w : WState) (p : PState) (st : SpecSt), Inv base w p st → w.elemStk = [] →
      (0 < w.elemStk.length ∨ p.rootDone = true) →
      ∃ p', runM p ['\n'] = some p' ∧ accepting p' = true ∧ PadFrom base [] (specClose st.stk st.rev) p'.evs := by
    intro w p st h he hd
    obtain ⟨mode, stk, rd, evs⟩ := p
    obtain ⟨evs1, m, r1, hm, hp⟩ := h.closed
    have hi : w.inElem = false := by
      cases hie : w.inElem with
      | false => rfl
      | true =>
        -- a pending tag would make `closed` push its name on an empty stack
        obtain ⟨nm, as, hmode⟩ := h.tag hie
        simp only at hmode
        subst hmode
        rw [closeIfOpen_chunk, hie, if_pos rfl, run_open, he] at r1
        cases r1
    have hl := h.len
    rw [he] at hl
    rw [List.length_eq_zero_iff.1 hl] at hm
    cases hm
    rw [closeIfOpen_chunk, hi, he] at r1
    cases r1
    rw [he] at hd
    simp only [List.length_nil, Nat.lt_irrefl, false_or] at hd
    rw [h.stk, he]
    exact ⟨⟨.content, [], rd, evs⟩, rfl, by simp [accepting, hd], hp⟩
  induction fuel with
  | zero =>
    intro w p st h hl hd
    exact atRoot w p st h (List.length_eq_zero_iff.1 (by omega)) hd
  | succ fuel ih =>
    intro w p st h hl hd
    simp only [closeAll]
    cases hstk : w.elemStk with
    | nil => exact atRoot w p st h hstk hd
    | cons top rest =>
      simp only
      obtain ⟨⟨w1, c1⟩, he⟩ := endElement_top_ok hstk
      rw [he]
      simp only
      obtain ⟨p1, r1, i1, rd1, l1⟩ := sim_stop h he
      have hd1 : 0 < w1.elemStk.length ∨ p1.rootDone = true := by
        cases hw1 : w1.elemStk with
        | nil => right; rw [rd1, hw1]; simp
        | cons a b => left; simp
      obtain ⟨p2, r2, acc, hp2⟩ := ih w1 p1 _ i1 (by omega) hd1
      refine ⟨p2, by rw [runM_append_of r1]; exact r2, acc, ?_⟩
      have : st.stk = top :: rest := by rw [h.stk, hstk]
      rw [this]
      simpa [specStep, specClose, this] using hp2

theorem stream_accepting {w w' : WState} {p : PState} {st : SpecSt} {ops : List Op} {chunk : Str}
    (h : Inv base w p st) (hr : runW w ops = .ok (w', chunk)) (hok : ∀ op ∈ ops, OpOk op)
    (hsh : shape w.elemStk.length p.rootDone ops = true) :
    ∃ p', runM p (chunk ++ exitChunk w') = some p' ∧ accepting p' = true ∧
      PadFrom base [] (specClose (ops.foldl specStep st).stk (ops.foldl specStep st).rev) p'.evs := by
  obtain ⟨p1, r1, i1, fin⟩ := sim_run ops h hr hok hsh
  obtain ⟨p2, r2, acc, hp⟩ := sim_closeAll w'.elemStk.length w' p1 _ i1 (Nat.le_refl _) fin
  exact ⟨p2, by rw [runM_append_of r1]; exact r2, acc, hp⟩

theorem inv_content (evs : List Event) : Inv evs {} ⟨.content, [], false, evs⟩ {} :=
  Inv.content (w := {}) (by simp) rfl rfl rfl FlagsRel.nil ⟨[], rfl, PadRev.nil⟩

theorem xhtml_accepting {ops : List Op} {w1 : WState} {c1 : Str}
    (hr : runW (startElement {} "html".toList xhtmlRootAttrs).1 ops = .ok (w1, c1))
    (hok : ∀ op ∈ ops, OpOk op) (hsh : shape 1 false ops = true) :
    ∃ p', runM {} (xhtmlDoctype ++ ((startElement {} "html".toList xhtmlRootAttrs).2 ++ (c1 ++ exitChunk w1))) = some p' ∧
      accepting p' = true := by
  have hr' : runW {} (.start "html".toList xhtmlRootAttrs :: ops) =
      .ok (w1, (startElement {} "html".toList xhtmlRootAttrs).2 ++ c1) := by
    simp only [runW, stepW, hr]
  obtain ⟨p', r, acc, _⟩ := stream_accepting (inv_content _) hr' (List.forall_mem_cons.2 ⟨html_ok, hok⟩)
    (by simpa [shape] using hsh)
  exact ⟨p', by rw [runM_append_of run_doctype, ← List.append_assoc]; exact r, acc⟩

end TD.C18
