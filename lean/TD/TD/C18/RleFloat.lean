import TD.C16.Props
import Mathlib.Algebra.Order.AbsoluteValue.Basic
/-!
C18 — the float X axis of the XML index: the run-length model over exact rationals of `TD.C16` (namespace `F`,
`math.isclose` as a parameter) instantiated with `math.isclose(v, expected, rel_tol=tol)` (`abs_tol = 0`).
Float rounding itself is not modelled (see C16); the oracle of `./check C18` checks the explicit rounding bound
`4·eps·max|x|` on the real code.
-/
namespace TD.C18

open TD.C16

/-- `math.isclose(a, b, rel_tol=tol)` over exact rationals: `abs(a-b) <= tol * max(abs(a), abs(b))` -/
def iscloseQ (tol : Rat) (a b : Rat) : Bool := decide (|a - b| ≤ tol * max |a| |b|)

theorem rel_iscloseQ {tol : Rat} (htol : 0 ≤ tol) {x y : Rat} (h : F.Rel (iscloseQ tol) x y) :
    |x - y| ≤ tol * max |x| |y| := by
  rcases h with h | h
  · subst h
    simp only [sub_self, abs_zero]
    exact mul_nonneg htol (le_trans (abs_nonneg x) (le_max_left _ _))
  · simpa [iscloseQ] using h

theorem forall2_within {tol : Rat} (htol : 0 ≤ tol) {xs ys : List Rat} (h : List.Forall₂ (F.Rel (iscloseQ tol)) xs ys) :
    List.Forall₂ (fun x y => |x - y| ≤ tol * max |x| |y|) xs ys := by
  induction h with
  | nil => exact List.Forall₂.nil
  | cons hab _ ih => exact List.Forall₂.cons (rel_iscloseQ htol hab) ih

end TD.C18
