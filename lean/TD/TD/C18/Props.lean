import TD.C18.RleDoc
import TD.C18.Tree
import TD.C18.RleFloat

/-!
# C18 — generated XML/XHTML/SVG is well-formed and carries the data unchanged

Property theorems only.  `TD.C18.Model` transcribes `util/XmlWrite.py` (and the RLE attribute writer of
`RP66V1/IndexXML.py` with the integer core of `common/Rle.py`); the specification side is the XML 1.0
recogniser/decoder `parse` / `wellFormed` / `decodeText` / `decodeAttr` of the same file (a character-level machine
that follows the productions of XML 1.0; it is tied to lxml and expat by the correspondence run of `./check C18`).

Hypotheses used below (defined in `TD.C18.Stream`):
* `OpOk op` — what the caller owes for one call: element/attribute names are XML Names (the writer does not escape
  them), attribute keys are distinct (a Python dict), attribute values and `characters()` strings consist of
  characters XML can represent (`xmlChar`), `literal()` text is plain character data; nothing is required of
  `comment()` text; a `pI()` string is an ASCII PI target alone or followed by one blank and arbitrary data (`PiOk`);
  `charactersWithBr` is not covered by the theorems.
* `shape d rd ops` — the calls make exactly one document element (XML requires it).
-/
namespace TD.C18

/-- **Character data round trip.**  A string made of characters XML can represent ([2] Char), written by
`XmlStream._encode` (i.e. by `characters()`), is read back unchanged by the specification decoder. -/
theorem encode_decodes (s : Str) (h : ∀ c ∈ s, xmlChar c = true) :
    decodeText (encode s).toList = some s := by
  simp only [encode, String.toList_ofList]
  exact decodeText_encodeL s h

example : (∀ c ∈ "a<b>&\"'\t\n\r é€😀".toList, xmlChar c = true) := by decide +kernel

/-- **Attribute value round trip.**  The same inside a double-quoted attribute value: TAB, LF and CR survive
(they are written as character references, which attribute-value normalisation leaves alone), quotes and markup too. -/
theorem encode_decodes_attr (s : Str) (h : ∀ c ∈ s, xmlChar c = true) :
    decodeAttr (encode s).toList = some s := by
  simp only [encode, String.toList_ofList]
  exact decodeAttr_encodeL s h

example : decodeAttr (encode "a\tb\nc\rd\"e'f<g".toList).toList = some "a\tb\nc\rd\"e'f<g".toList :=
  encode_decodes_attr _ (by decide +kernel)

/-- **Element round trip** (the data clause at document level).  `with XmlStream(f) as x: with Element(x, n, attrs):
x.characters(s)` writes a document which the specification parser accepts and decodes to exactly one element `n`
carrying the attributes (in sorted key order, values unchanged) and the character data `s` unchanged — for every
name, every attribute dictionary and every string of XML-representable characters. -/
theorem element_decodes (n : Str) (as : List (Str × Str)) (s : Str)
    (hn : validName n = true)
    (has : ∀ kv ∈ as, validName kv.1 = true ∧ ∀ c ∈ kv.2, xmlChar c = true)
    (hnd : (as.map (·.1)).Nodup) (hs : ∀ c ∈ s, xmlChar c = true) :
    (document .xml "utf-8".toList [.start n as, .chars s, .stop n]).toOption.bind parse
      = some (.start n (sortAttrs as) :: (s.map Event.chr ++ [.stop n])) := by
  rw [element_doc, Except.toOption, Option.bind_some]
  exact element_parse n as s hn has hnd hs

example : (document .xml "utf-8".toList [.start "Channel".toList [("units".toList, "0.1 in<\"µ\">".toList), ("I".toList, "A&B\t".toList)],
      .chars "x < y".toList, .stop "Channel".toList]).toOption.bind parse
    = some (.start "Channel".toList [("I".toList, "A&B\t".toList), ("units".toList, "0.1 in<\"µ\">".toList)]
        :: ("x < y".toList.map Event.chr ++ [.stop "Channel".toList])) :=
  element_decodes _ _ _ (by decide +kernel) (by decide +kernel) (by decide +kernel) (by decide +kernel)

/-- **Well-formedness of everything `XmlStream` writes.**  Any sequence of `startElement` / `characters` /
`literal` / `comment` / `pI` / `endElement` / `xmlSpacePreserve` calls that does not raise, respects `OpOk` and makes one
document element — with whatever is still open closed by `__exit__` — is a well-formed XML document
(nesting invariant by induction over the call list; indentation included). -/
theorem stream_wellformed (ops : List Op) (doc : Str)
    (hdoc : document .xml "utf-8".toList ops = .ok doc)
    (hok : ∀ op ∈ ops, OpOk op) (hshape : shape 0 false ops = true) :
    wellFormed doc = true := by
  obtain ⟨w1, c1, hr, hd⟩ := document_ok hdoc
  obtain ⟨p, hp, ha, _⟩ := stream_accepting (inv_content []) hr hok hshape
  rw [hd]
  exact wellFormed_header hp ha

/-- a non-trivial call sequence meeting the hypotheses: nested elements, escaped attribute and text, a comment,
an element left open for `__exit__` -/
example :
    let ops : List Op := [.start "a".toList [("k".toList, "<\"&'>\t".toList)], .start "b".toList [], .chars "x&y".toList,
      .stop "b".toList, .comment " note -- any--thing- ".toList, .start "c".toList [("z".toList, "é".toList), ("y".toList, [])]]
    (∀ op ∈ ops, OpOk op) ∧ shape 0 false ops = true ∧ (document .xml "utf-8".toList ops).toOption.map wellFormed = some true := by
  intro ops
  have hok : ∀ op ∈ ops, OpOk op := by
    intro op hop
    simp only [ops, List.mem_cons, List.not_mem_nil, or_false] at hop
    rcases hop with rfl | rfl | rfl | rfl | rfl | rfl
    · exact ⟨by decide +kernel, by decide +kernel, by decide +kernel⟩
    · exact ⟨by decide +kernel, by decide +kernel, by decide +kernel⟩
    · show ∀ c ∈ _, _; decide +kernel
    · trivial
    · trivial
    · exact ⟨by decide +kernel, by decide +kernel, by decide +kernel⟩
  have hsh : shape 0 false ops = true := by decide +kernel
  exact ⟨hok, hsh, map_wellFormed_of_isOk (by decide +kernel) fun doc h => stream_wellformed ops doc h hok hsh⟩

/-- a processing instruction with hostile data meets `PiOk`, and the document is well-formed -/
example : PiOk "xml-stylesheet href=\"a?>b\" <&>".toList ∧
    (document .xml "utf-8".toList [.start ['a'] [], .pi "xml-stylesheet href=\"a?>b\" <&>".toList, .pi "tgt".toList]).toOption.map wellFormed = some true :=
by
  have hpi : PiOk "xml-stylesheet href=\"a?>b\" <&>".toList :=
    ⟨"xml-stylesheet".toList, "href=\"a?>b\" <&>".toList, by decide +kernel, by decide +kernel, Or.inr (by decide +kernel)⟩
  refine ⟨hpi, map_wellFormed_of_isOk (by decide +kernel) fun doc h => stream_wellformed _ doc h ?_ (by decide +kernel)⟩
  intro op hop
  simp only [List.mem_cons, List.not_mem_nil, or_false] at hop
  rcases hop with rfl | rfl | rfl
  · exact ⟨by decide +kernel, by decide +kernel, by decide +kernel⟩
  · exact hpi
  · exact ⟨"tgt".toList, [], by decide +kernel, by decide +kernel, Or.inl rfl⟩

/-- **Whole-tree data preservation.**  Under the hypotheses of `stream_wellformed`, the specification parser decodes
the document to the events the calls asked for (`specEvents ops`: for every `startElement` the name with the
attributes in key order and their values unchanged, for every `characters`/`literal` its characters, for every
`comment` its text, for every `pI` its target (PI data is written entity-encoded, which a parser does not decode:
nothing is claimed about it), for every `endElement` — and for everything `__exit__` closes — the end tag), **with nothing
changed** except what `PadRev` allows: a run "newline + spaces" immediately before a start tag or an end tag, and only
where neither that element nor any enclosing element has character data so far (indentation never enters mixed
content).  Both lists are compared most-recent-first (`.reverse`), which is how the relation is built up. -/
theorem stream_decodes (ops : List Op) (doc : Str)
    (hdoc : document .xml "utf-8".toList ops = .ok doc)
    (hok : ∀ op ∈ ops, OpOk op) (hshape : shape 0 false ops = true) :
    ∃ evs, parse doc = some evs ∧ PadRev [] (specEvents ops).reverse evs.reverse := by
  obtain ⟨w1, c1, hr, hd⟩ := document_ok hdoc
  obtain ⟨p, hp, acc, e, he, hpad⟩ := stream_accepting (inv_content []) hr hok hshape
  rw [hd]
  exact ⟨p.evs.reverse, parse_header hp acc, by simpa [specEvents, he] using hpad⟩

/-- what `specEvents` and the parser give on a small nested sequence: the only differences are the indentation
before `<b>` and before `</a>` (element `a` has no character data); nothing is inserted inside `b` after `x&y` -/
example :
    let ops : List Op := [.start "a".toList [("k".toList, "<\"&".toList)], .start "b".toList [], .chars "x&y".toList,
      .start "c".toList [], .stop "c".toList]
    specEvents ops = [.start "a".toList [("k".toList, "<\"&".toList)], .start "b".toList [], .chr 'x', .chr '&', .chr 'y',
      .start "c".toList [], .stop "c".toList, .stop "b".toList, .stop "a".toList] ∧
    (document .xml "utf-8".toList ops).toOption.bind parse =
      some [.start "a".toList [("k".toList, "<\"&".toList)], .chr '\n', .chr ' ', .chr ' ', .start "b".toList [], .chr 'x', .chr '&', .chr 'y',
      .start "c".toList [], .stop "c".toList, .stop "b".toList, .chr '\n', .stop "a".toList] := by
  decide +kernel

/-- **The same for `XhtmlStream`** (XML declaration, DOCTYPE, and the `html` element opened by `__enter__`):
the calls are made inside `html`, hence `shape 1`. -/
theorem xhtml_stream_wellformed (ops : List Op) (doc : Str)
    (hdoc : document .xhtml "utf-8".toList ops = .ok doc)
    (hok : ∀ op ∈ ops, OpOk op) (hshape : shape 1 false ops = true) :
    wellFormed doc = true := by
  obtain ⟨w1, c1, hr, hd⟩ := document_ok hdoc
  rw [enter_xhtml] at hr hd
  obtain ⟨p, hp, ha⟩ := xhtml_accepting hr hok hshape
  rw [hd, List.append_assoc, List.append_assoc]
  exact wellFormed_header hp ha

example : (document .xhtml "utf-8".toList [.start "body".toList [], .start "p".toList [("class".toList, "a\"b".toList)],
    .chars "1 < 2".toList]).toOption.map wellFormed = some true := by
  refine map_wellFormed_of_isOk (by decide +kernel) fun doc h => xhtml_stream_wellformed _ doc h ?_ (by decide +kernel)
  intro op hop
  simp only [List.mem_cons, List.not_mem_nil, or_false] at hop
  rcases hop with rfl | rfl | rfl
  · exact ⟨by decide +kernel, by decide +kernel, by decide +kernel⟩
  · exact ⟨by decide +kernel, by decide +kernel, by decide +kernel⟩
  · show ∀ c ∈ _, _; decide +kernel

/-- **F13 (known finding), the negation witness.**  For a character XML cannot represent the writer emits a numeric
character reference to it, which no XML 1.0 document may contain: the text is rejected both as character data and
as an attribute value, and a whole document holding it is not well-formed.  So the clause "strings with other
characters never make the document unparseable" is false for the code as it is. -/
theorem encode_illegal_ref :
    encode [Char.ofNat 1] = "&#001;" ∧
    decodeText (encode [Char.ofNat 1]).toList = none ∧
    decodeAttr (encode [Char.ofNat 1]).toList = none ∧
    (document .xml "utf-8".toList [.start ['a'] [(['k'], [Char.ofNat 1])], .stop ['a']]).toOption.map wellFormed = some false ∧
    (document .xml "utf-8".toList [.start ['a'] [], .chars [Char.ofNat 0xFFFE], .stop ['a']]).toOption.map wellFormed = some false := by
  decide +kernel

/-- **Comments (former finding F20, repaired in `XmlStream.comment`).**  Whatever string is passed to `comment()` —
double hyphens, a trailing hyphen, markup, even characters XML cannot represent (they become literal `&#NNN;` text,
harmless inside a comment) — the text the writer puts between `<!--` and `-->` is a legal comment body ([15]: made of
XML characters, no `--`, no `-` before the closing `-->`), and the recogniser reads the whole comment from character
data back to character data.  No hypothesis on the string. -/
theorem comment_wellformed (s : Str) :
    (cOk 0 (commentText s) = true ∧ ∀ x ∈ commentText s, xmlChar x = true) ∧
    ∀ (stk : List Str) (rd : Bool) (evs : List Event), ∃ evs',
      runM ⟨.content, stk, rd, evs⟩ ("<!--".toList ++ commentText s ++ "-->".toList) = some ⟨.content, stk, rd, evs'⟩ :=
  ⟨commentText_ok s, fun stk rd evs => ⟨_, run_comment s stk rd evs⟩⟩

/-- **The repair loop reaches its fixpoint.**  For every string the text `comment()` puts between `<!--` and `-->`
(`_encode`, then `while '--' in text: text = text.replace('--', '- -')`, then a blank after a final `-`) contains no
`--` and does not end in `-`.  `'--' in text` is `hasDD`, `text.endswith('-')` is `endsDash`; no bound on the string,
on the number or on the length of the hyphen runs (two rounds of the loop always suffice: `hasDD_fixDD`). -/
theorem comment_text_no_double_hyphen (s : Str) :
    hasDD (commentText s) = false ∧ endsDash (commentText s) = false :=
  commentText_plain s

/-- why it must be a loop: `str.replace` is non-overlapping, so ONE pass leaves a `--` behind for every run of three or
more hyphens (`'---' -> '- --'`, `'----' -> '- -- -'`), whereas the loop gives `- - -`, `- - - -`; and the trailing
blank is needed on top of it -/
example : replaceDD "---".toList = "- --".toList ∧ hasDD (replaceDD "---".toList) = true ∧
    replaceDD "----".toList = "- -- -".toList ∧ hasDD (replaceDD "----".toList) = true ∧
    hasDD (replaceDD "a-----b".toList) = true ∧
    commentText "---".toList = "- - - ".toList ∧ commentText "a----b".toList = "a- - - -b".toList ∧
    commentText "--------".toList = "- - - - - - - - ".toList ∧
    endsDash (fixDD 5 "x--".toList) = true := by decide +kernel

/-- the strings of the former finding are now written as well-formed documents -/
example :
    (document .xml "utf-8".toList [.start ['a'] [], .comment " a -- b ".toList, .stop ['a']]).toOption.map wellFormed = some true ∧
    (document .xml "utf-8".toList [.start ['a'] [], .comment "DEPT-".toList, .stop ['a']]).toOption.map wellFormed = some true ∧
    (document .xml "utf-8".toList [.start ['a'] [], .comment "-----".toList, .stop ['a']]).toOption.map wellFormed = some true ∧
    commentText " a -- b ".toList = " a - - b ".toList ∧ commentText "-----".toList = "- - - - - ".toList ∧
    commentText "x-".toList = "x- ".toList := by
  have wf : ∀ s : Str, (document .xml "utf-8".toList [.start ['a'] [], .comment s, .stop ['a']]).toOption.map wellFormed = some true := by
    intro s
    refine map_wellFormed_of_isOk rfl fun doc h => stream_wellformed _ doc h ?_ rfl
    intro op hop
    simp only [List.mem_cons, List.not_mem_nil, or_false] at hop
    rcases hop with rfl | rfl | rfl
    · exact ⟨by decide +kernel, by decide +kernel, by decide +kernel⟩
    · trivial
    · trivial
  exact ⟨wf _, wf _, wf _, by decide +kernel, by decide +kernel, by decide +kernel⟩

/-- **RLE, values.**  The run-length items built by `create_rle` (integer branch of `RLEItem.add`) yield, by the
repeated addition of `RLEItem.values()`, exactly the list that was encoded — every integer list. -/
theorem rle_values_roundtrip (xs : List Int) : (rleCreate xs).flatMap RItem.values = xs := by
  have h := TD.C16.values_roundtrip xs
  rw [← toItem_rleCreate, TD.C16.rleValues, List.flatMap_map] at h
  simpa only [toItem_values] using h

/-- **RLE through XML.**  Writing each item as `datum` / `stride` / `repeat` attribute strings the way
`IndexXML.xml_rle_write` does (decimal, or `0x…` hexadecimal for file positions) and expanding the strings again
with the closed form `datum + i·stride, i = 0..repeat` gives back the encoded list: every integer list, both
notations.  (With `hex` a negative number is written `0x-5`, as Python's `f'0x{v:x}'` does; the reader of this
specification accepts that form.  Float X axes are outside this theorem: oracle only.) -/
theorem rle_xml_roundtrip (hex : Bool) (xs : List Int) :
    expand ((rleCreate xs).map (rleAttrs hex)) = some xs := by
  have h := TD.C16.items_expand xs
  rw [← toItem_rleCreate, List.flatMap_map] at h
  unfold expand
  rw [mapM_expand, Option.map_some, ← List.flatMap_def]
  exact congrArg some h

/-- **The RLE element of the XML index is well-formed**: the calls `xml_rle_write` makes for any integer list (any
element name that is an XML Name, both notations) satisfy the hypotheses of `stream_wellformed`. -/
theorem rle_document_wellformed (hex : Bool) (elem : Str) (helem : validName elem = true) (xs : List Int) (doc : Str)
    (hdoc : document .xml "utf-8".toList (rleOps hex elem (rleCreate xs)) = .ok doc) :
    wellFormed doc = true :=
  stream_wellformed _ doc hdoc (rleOps_ok hex elem helem _) (rleOps_shape hex elem _)

example : (document .xml "utf-8".toList (rleOps true "LRSH".toList (rleCreate [80, 128, 176, 300]))).toOption.map wellFormed = some true :=
  map_wellFormed_of_isOk (by decide +kernel) fun doc h => rle_document_wellformed true _ (by decide +kernel) _ doc h

/-- **Float X axis — partial.**  Full statement wanted: for every list of finite floats the `<Xaxis>` entries expand
to the X values held in memory up to the rounding of the float operations involved (`4·eps·max|x|`, count exact).
Proved here, over exact rationals (the `F` model of `TD.C16`, float rounding not modelled) with the predicate
`math.isclose(v, expected, rel_tol=tol)` as coded in `RLEItem.add`: the number of expanded values is exact and every
expanded value `y` is within `tol · max(|x|, |y|)` of the value `x` that was added — with `tol = eps = 2⁻⁵²` (what the
code passes) that is below the rounding allowance.  The rounding part is checked by the oracle on the real code. -/
theorem rle_float_expand_within (tol : Rat) (htol : 0 ≤ tol) (xs : List Rat) :
    List.Forall₂ (fun x y => |x - y| ≤ tol * max |x| |y|) xs (TD.C16.F.rleValues (TD.C16.F.create (iscloseQ tol) xs)) ∧
    TD.C16.F.numValues (TD.C16.F.create (iscloseQ tol) xs) = xs.length :=
  ⟨forall2_within htol (TD.C16.float_values_close_partial (iscloseQ tol) xs).1,
   (TD.C16.float_values_close_partial (iscloseQ tol) xs).2⟩

/-- **Why the tolerance matters** (the class of change the bound guards against): with `rel_tol = eps` a value that is
off the grid by a relative 1e-10 starts a new run and is reproduced exactly; with `math.isclose`'s default
`rel_tol = 1e-9` it is absorbed and the entries expand to the grid value instead of the X value that was indexed. -/
theorem rle_float_tolerance_witness :
    TD.C16.F.rleValues (TD.C16.F.create (iscloseQ (1 / 4503599627370496)) [100, 101, 102, 103 + 103 / 10000000000, 104])
      = [100, 101, 102, 103 + 103 / 10000000000, 104] ∧
    TD.C16.F.rleValues (TD.C16.F.create (iscloseQ (1 / 1000000000)) [100, 101, 102, 103 + 103 / 10000000000, 104])
      = [100, 101, 102, 103, 104] := by
  decide +kernel

example : (rleCreate [1, 2, 3, 7, 5, 3, 1]).map (fun it => (it.datum, it.stride, it.repeat_)) = [(1, 1, 2), (7, -2, 3)] := by decide +kernel
example : (rleCreate [80, 128, 176, 300]).map (rleAttrs true) =
    [[("datum".toList, "0x50".toList), ("stride".toList, "0x30".toList), ("repeat".toList, "2".toList)],
     [("datum".toList, "0x12c".toList), ("stride".toList, "0x0".toList), ("repeat".toList, "0".toList)]] := by decide +kernel

end TD.C18
