import TD.C18.Lemmas
import TD.C16.Props
/-! The integer run-length items are those of `TD.C16`; written as XML attributes they are read back unchanged. -/
namespace TD.C18

/-- the same `RLEItem` as modelled in `TD.C16` (there with the item list oldest first) -/
def toItem (it : RItem) : TD.C16.Item := ⟨it.datum, it.stride, it.repeat_⟩

theorem toItem_add (it : RItem) (v : Int) : (it.add v).map toItem = (toItem it).add v := by
  by_cases h0 : it.repeat_ = 0
  · simp [RItem.add, TD.C16.Item.add, toItem, h0]
  · by_cases hv : v = it.datum + it.stride * ((it.repeat_ : Int) + 1) <;>
      simp [RItem.add, TD.C16.Item.add, toItem, h0, hv]

theorem toItem_values (it : RItem) : (toItem it).values = it.values := by
  have h : ∀ (n : Nat) (v : Int), TD.C16.valuesLoop it.stride n v = valuesFrom v it.stride n := by
    intro n
    induction n with
    | zero => intro v; rfl
    | succ n ih => intro v; simp only [TD.C16.valuesLoop, valuesFrom, ih]
  exact congrArg (it.datum :: ·) (h _ _)

theorem toItem_rleAddRev (items : List RItem) (v : Int) :
    (rleAddRev items v).reverse.map toItem = TD.C16.rleAdd (items.reverse.map toItem) v := by
  cases items with
  | nil => rfl
  | cons it rest =>
    simp only [rleAddRev, List.reverse_cons, List.map_append, List.map_cons, List.map_nil, TD.C16.rleAdd_snoc, ← toItem_add]
    cases it.add v <;> simp [toItem, TD.C16.Item.new]

theorem toItem_rleCreate (xs : List Int) : (rleCreate xs).map toItem = TD.C16.create xs := by
  have h : ∀ items : List RItem, (xs.foldl rleAddRev items).reverse.map toItem =
      xs.foldl TD.C16.rleAdd (items.reverse.map toItem) := by
    induction xs with
    | nil => intro items; rfl
    | cons x xs ih => intro items; rw [List.foldl_cons, ih, toItem_rleAddRev]; rfl
  exact h []

/-! ### hexadecimal -/

theorem hexVal_hexDigitChar {n : Nat} (h : n < 16) : hexVal (hexDigitChar n) = some n := by
  have : ∀ n, n < 16 → hexVal (hexDigitChar n) = some n := by decide
  exact this n h

theorem parseHexAux_snoc (l : Str) (c : Char) (acc : Nat) :
    parseHexAux (l ++ [c]) acc = (parseHexAux l acc).bind (fun a => (hexVal c).map (fun d => a * 16 + d)) := by
  induction l generalizing acc with
  | nil => simp [parseHexAux]; cases hexVal c <;> simp
  | cons d r ih =>
    simp only [List.cons_append, parseHexAux]
    cases hexVal d with
    | none => simp
    | some x => exact ih _

theorem parseHexAux_hexAux (f n : Nat) (h : n < f) : parseHexAux (hexAux f n) 0 = some n := by
  induction f generalizing n with
  | zero => omega
  | succ f ih =>
    unfold hexAux
    split
    · rename_i h16
      simp [parseHexAux, hexVal_hexDigitChar h16]
    · rename_i h16
      rw [parseHexAux_snoc, ih (n / 16) (by omega)]
      have hm : n % 16 < 16 := by omega
      simp [hexVal_hexDigitChar hm]
      omega

theorem hexAux_ne_nil (f n : Nat) : hexAux (f + 1) n ≠ [] := by
  unfold hexAux; split <;> simp

theorem parseHex_hexNat (n : Nat) : parseHex (hexNat n) = some n := by
  unfold parseHex hexNat
  have := hexAux_ne_nil n n
  cases h : hexAux (n + 1) n with
  | nil => exact absurd h this
  | cons d r =>
    have := parseHexAux_hexAux (n + 1) n (by omega)
    rw [h] at this
    simpa using this

theorem hexAux_all (P : Char → Prop) (hP : ∀ k, k < 16 → P (hexDigitChar k)) (f n : Nat) : ∀ c ∈ hexAux f n, P c := by
  induction f generalizing n with
  | zero => simp [hexAux]
  | succ f ih =>
    unfold hexAux
    split
    · intro c hc; rw [List.mem_singleton.1 hc]; exact hP _ (by omega)
    · intro c hc
      rcases List.mem_append.1 hc with hc | hc
      · exact ih _ c hc
      · rw [List.mem_singleton.1 hc]; exact hP _ (by omega)

theorem readInt_showHexInt (v : Int) : readInt (showHexInt v) = some v := by
  unfold showHexInt
  by_cases hv : v < 0
  · simp only [hv, if_true]
    simp only [readInt, parseHex_hexNat, Option.map_some]
    congr 1; omega
  · simp only [hv, if_false]
    have hne := hexAux_ne_nil v.natAbs v.natAbs
    cases hh : hexNat v.natAbs with
    | nil => unfold hexNat at hh; exact absurd hh hne
    | cons a b =>
      have ha : a ≠ '-' := hexAux_all (· ≠ '-') (by decide) _ _ a (by unfold hexNat at hh; rw [hh]; simp)
      have hp := parseHex_hexNat v.natAbs
      rw [hh] at hp
      unfold readInt
      split
      · rename_i h; simp at h; exact absurd h.1 ha
      · rename_i h; simp at h; obtain ⟨rfl, rfl⟩ := h; rw [hp]; simp; omega
      · rename_i h; simp at h
      -- the decimal catch-all is excluded by the case `'0' :: 'x' :: h` itself
      case h_4 _ _ hhex _ => exact (hhex _ rfl).elim

theorem readInt_showInt (v : Int) : readInt (showInt v) = some v := by
  unfold showInt
  by_cases hv : v < 0
  · simp only [hv, if_true]
    simp only [readInt, parseDec_decimal, Option.map_some]
    congr 1; omega
  · simp only [hv, if_false]
    have hd := decimal_digits v.natAbs
    have hp := parseDec_decimal v.natAbs
    have hne : decimal v.natAbs ≠ [] := by unfold decimal; exact decimalAux_ne_nil _ _
    cases hh : decimal v.natAbs with
    | nil => exact absurd hh hne
    | cons a b =>
      rw [hh] at hd hp
      have ha : a ≠ '-' := by intro e; subst e; have := hd '-' (by simp); revert this; decide
      unfold readInt
      split
      · rename_i h; simp at h
        have := hd 'x' (by rw [h.2]; simp); exact absurd this (by decide)
      · rename_i h; simp at h
        have := hd 'x' (by rw [h.2]; simp); exact absurd this (by decide)
      · rename_i h; simp at h; exact absurd h.1 ha
      · rw [hp]; simp; omega

theorem expandItem_attrs (hex : Bool) (it : RItem) : expandItem (rleAttrs hex it) =
    some ((List.range (it.repeat_ + 1)).map (fun (i : Nat) => it.datum + it.stride * (i : Int))) := by
  have l1 : (rleAttrs hex it).lookup "datum".toList = some (if hex then showHexInt it.datum else showInt it.datum) := by
    simp [rleAttrs]
  have l2 : (rleAttrs hex it).lookup "stride".toList = some (if hex then showHexInt it.stride else showInt it.stride) := by
    simp [rleAttrs, List.lookup]
  have l3 : (rleAttrs hex it).lookup "repeat".toList = some (decimal it.repeat_) := by
    simp [rleAttrs, List.lookup]
  unfold expandItem
  rw [l1, l2, l3]
  cases hex
  · simp only [Bool.false_eq_true, if_false, readInt_showInt, parseDec_decimal]
  · simp only [if_true, readInt_showHexInt, parseDec_decimal]

theorem mapM_expand (hex : Bool) (items : List RItem) :
    (items.map (rleAttrs hex)).mapM expandItem =
      some (items.map fun it => (List.range (it.repeat_ + 1)).map (fun (i : Nat) => it.datum + it.stride * (i : Int))) := by
  induction items with
  | nil => simp
  | cons it r ih => simp [List.mapM_cons, expandItem_attrs, ih]

end TD.C18
