import TD.C18.Model
/-! The recogniser on `_encode` output: every character is written as itself or as a reference that decodes back. -/
namespace TD.C18

theorem runM_append (s : PState) (a b : Str) :
    runM s (a ++ b) = (runM s a).bind (fun s' => runM s' b) := by
  induction a generalizing s with
  | nil => simp [runM]
  | cons c r ih =>
    simp only [List.cons_append, runM]
    cases h : step s c with
    | none => simp
    | some s' => simp [ih]

/-- running in two stages -/
theorem runM_append_of {s s' : PState} {a b : Str} (h : runM s a = some s') :
    runM s (a ++ b) = runM s' b := by
  rw [runM_append, h]; rfl

theorem runM_cons_of {s s' : PState} {c : Char} (h : step s c = some s') (r : Str) : runM s (c :: r) = runM s' r := by
  simp only [runM, h]

theorem toNat_digitChar {n : Nat} (h : n < 10) : (digitChar n).toNat = 48 + n := by
  have : ∀ n, n < 10 → (digitChar n).toNat = 48 + n := by decide
  exact this n h

theorem isDigit_digitChar {n : Nat} (h : n < 10) : isDigit (digitChar n) = true := by
  have : ∀ n, n < 10 → isDigit (digitChar n) = true := by decide
  exact this n h

theorem parseDecAux_snoc (l : Str) (c : Char) (acc : Nat) :
    parseDecAux (l ++ [c]) acc = (parseDecAux l acc).bind (fun a => if isDigit c then some (a * 10 + (c.toNat - 48)) else none) := by
  induction l generalizing acc with
  | nil => simp [parseDecAux]
  | cons d r ih =>
    simp only [List.cons_append, parseDecAux]
    split
    · exact ih _
    · simp

theorem decimalAux_ne_nil (f n : Nat) : decimalAux (f + 1) n ≠ [] := by
  unfold decimalAux; split <;> simp

theorem decimalAux_digits (f n : Nat) : ∀ c ∈ decimalAux f n, isDigit c = true := by
  induction f generalizing n with
  | zero => simp [decimalAux]
  | succ f ih =>
    unfold decimalAux
    split
    · intro c hc; simp at hc; subst hc; exact isDigit_digitChar (by omega)
    · intro c hc
      simp only [List.mem_append, List.mem_singleton] at hc
      rcases hc with hc | hc
      · exact ih _ c hc
      · subst hc; exact isDigit_digitChar (by omega)

theorem parseDecAux_decimalAux (f n : Nat) (h : n < f) : parseDecAux (decimalAux f n) 0 = some n := by
  induction f generalizing n with
  | zero => omega
  | succ f ih =>
    unfold decimalAux
    split
    · rename_i h10
      simp [parseDecAux, isDigit_digitChar h10, toNat_digitChar h10]
    · rename_i h10
      rw [parseDecAux_snoc, ih (n / 10) (by omega)]
      have hm : n % 10 < 10 := by omega
      simp [isDigit_digitChar hm, toNat_digitChar hm]
      omega

theorem parseDec_decimal (n : Nat) : parseDec (decimal n) = some n := by
  unfold parseDec decimal
  have := decimalAux_ne_nil n n
  cases h : decimalAux (n + 1) n with
  | nil => exact absurd h this
  | cons d r =>
    have := parseDecAux_decimalAux (n + 1) n (by omega)
    rw [h] at this
    simpa using this

theorem decimal_digits (n : Nat) : ∀ c ∈ decimal n, isDigit c = true := decimalAux_digits _ _

theorem decodeRef_hash_digits (l : Str) (hne : l ≠ []) (hd : ∀ c ∈ l, isDigit c = true) :
    decodeRef ('#' :: l) = (parseDec l).bind charOfCode := by
  cases l with
  | nil => exact absurd rfl hne
  | cons d r =>
    have hdx : d ≠ 'x' := by
      intro h; subst h; have := hd 'x' (by simp); revert this; decide
    unfold decodeRef
    split
    · rename_i h; simp at h; exact absurd h.1 hdx
    · rename_i h; simp at h; rw [h]
    -- the five entity names do not start with `#`
    case h_3 _ h => simp at h
    case h_4 _ h => simp at h
    case h_5 _ h => simp at h
    case h_6 _ h => simp at h
    case h_7 _ h => simp at h
    -- the catch-all is excluded by the case `'#' :: d` itself
    case h_8 _ _ hhash _ _ _ _ _ => exact (hhash _ rfl).elim

theorem decodeRef_decimal (n : Nat) : decodeRef ('#' :: decimal n) = charOfCode n := by
  rw [decodeRef_hash_digits _ _ (decimal_digits n), parseDec_decimal]; rfl
  unfold decimal; exact decimalAux_ne_nil _ _

theorem entityOf_none {c : Char} (h1 : c ≠ '<') (h2 : c ≠ '>') (h3 : c ≠ '&') (h4 : c ≠ '\'') (h5 : c ≠ '"') :
    entityOf c = none := by
  have e1 : (c == Char.ofNat 60) = false := by simpa using h1
  have e2 : (c == Char.ofNat 62) = false := by simpa using h2
  have e3 : (c == Char.ofNat 38) = false := by simpa using h3
  have e4 : (c == Char.ofNat 39) = false := by simpa using h4
  have e5 : (c == Char.ofNat 34) = false := by simpa using h5
  simp [entityOf, entityMap, List.lookup, e1, e2, e3, e4, e5]

theorem xmlChar_lt32 {c : Char} (hc : xmlChar c = true) (h : c.toNat < 32) : c = '\t' ∨ c = '\n' ∨ c = '\r' := by
  have : c.toNat = 9 ∨ c.toNat = 10 ∨ c.toNat = 13 := by
    simp [xmlChar, isXmlCharN] at hc; omega
  rcases this with h | h | h
  · left; exact Char.toNat_inj.1 h
  · right; left; exact Char.toNat_inj.1 h
  · right; right; exact Char.toNat_inj.1 h

/-- how tag names, attribute names, PI targets and reference bodies are read -/
theorem runM_accum (f : Str → Mode) (ok : Char → Prop)
    (hstep : ∀ (acc : Str) (c : Char) (stk : List Str) (rd : Bool) (evs : List Event), ok c →
      step ⟨f acc, stk, rd, evs⟩ c = some ⟨f (c :: acc), stk, rd, evs⟩)
    (l acc : Str) (stk : List Str) (rd : Bool) (evs : List Event) (hl : ∀ c ∈ l, ok c) :
    runM ⟨f acc, stk, rd, evs⟩ l = some ⟨f (l.reverse ++ acc), stk, rd, evs⟩ := by
  induction l generalizing acc with
  | nil => rfl
  | cons c r ih =>
    simp only [runM, hstep acc c stk rd evs (hl c (by simp))]
    rw [ih _ (fun x hx => hl x (by simp [hx]))]
    simp

abbrev AsIs (c : Char) : Prop :=
  32 ≤ c.toNat ∧ c.toNat < 128 ∧ c ≠ '<' ∧ c ≠ '>' ∧ c ≠ '&' ∧ c ≠ '\'' ∧ c ≠ '"'

/-- the body of a reference `_encode` writes (`#`, digits, lower-case letters), as the recogniser needs it -/
abbrev RefBody (x : Char) : Prop := refChar x = true ∧ x ≠ ';' ∧ xmlChar x = true ∧ x ≠ '>'

theorem refBody_digit {x : Char} (h : isDigit x = true) : RefBody x := by
  simp only [isDigit, Bool.and_eq_true, decide_eq_true_eq] at h
  refine ⟨?_, ?_, ?_, ?_⟩
  · simp [refChar, nameChar, nameCharN]; omega
  · rintro rfl; revert h; decide
  · simp [xmlChar, isXmlCharN]; omega
  · rintro rfl; revert h; decide

theorem encodeChar_form (c : Char) :
    AsIs c ∧ encodeChar c = [c] ∨
    ¬ AsIs c ∧ ∃ r, encodeChar c = '&' :: (r ++ [';']) ∧ (∀ x ∈ r, RefBody x) ∧ (xmlChar c = true → decodeRef r = some c) := by
  by_cases h1 : c = '<'; · subst h1; exact Or.inr ⟨by decide +kernel, "lt".toList, by decide +kernel, by decide +kernel, fun _ => by decide +kernel⟩
  by_cases h2 : c = '>'; · subst h2; exact Or.inr ⟨by decide +kernel, "gt".toList, by decide +kernel, by decide +kernel, fun _ => by decide +kernel⟩
  by_cases h3 : c = '&'; · subst h3; exact Or.inr ⟨by decide +kernel, "amp".toList, by decide +kernel, by decide +kernel, fun _ => by decide +kernel⟩
  by_cases h4 : c = '\''; · subst h4; exact Or.inr ⟨by decide +kernel, "apos".toList, by decide +kernel, by decide +kernel, fun _ => by decide +kernel⟩
  by_cases h5 : c = '"'; · subst h5; exact Or.inr ⟨by decide +kernel, "quot".toList, by decide +kernel, by decide +kernel, fun _ => by decide +kernel⟩
  unfold encodeChar; rw [entityOf_none h1 h2 h3 h4 h5]; simp only
  by_cases hlt : c.toNat < 32
  · rw [if_pos hlt]
    refine Or.inr ⟨fun h => by omega, '#' :: pad3 c.toNat, rfl, ?_, fun hc => ?_⟩
    · intro x hx
      simp only [pad3, List.mem_cons, List.not_mem_nil, or_false] at hx
      rcases hx with rfl | rfl | rfl | rfl
      · decide
      all_goals exact refBody_digit (isDigit_digitChar (by omega))
    · rcases xmlChar_lt32 hc hlt with rfl | rfl | rfl <;> decide
  · rw [if_neg hlt]
    by_cases h128 : c.toNat < 128
    · rw [if_pos h128]
      exact Or.inl ⟨⟨by omega, h128, h1, h2, h3, h4, h5⟩, rfl⟩
    · rw [if_neg h128]
      refine Or.inr ⟨fun h => h128 h.2.1, '#' :: decimal c.toNat, rfl, ?_, fun hc => ?_⟩
      · intro x hx
        simp only [List.mem_cons] at hx
        rcases hx with rfl | hx
        · decide
        · exact refBody_digit (decimal_digits _ x hx)
      · rw [decodeRef_decimal]
        simp [charOfCode, show isXmlCharN c.toNat = true from hc]

theorem run_encodeChar_content (c : Char) (hc : xmlChar c = true) (a : Str) (stk : List Str) (rd : Bool) (evs : List Event) :
    runM ⟨.content, a :: stk, rd, evs⟩ (encodeChar c) = some ⟨.content, a :: stk, rd, .chr c :: evs⟩ := by
  rcases encodeChar_form c with ⟨⟨h32, _, h1, h2, h3, _, _⟩, e⟩ | ⟨_, r, e, hr, hd⟩
  · have hcr : c ≠ '\r' := by rintro rfl; revert h32; decide
    rw [e]
    simp [runM, step, h1, h2, h3, hcr, hc]
  · have e1 : runM ⟨.content, a :: stk, rd, evs⟩ ['&'] = some ⟨.ref [], a :: stk, rd, evs⟩ := rfl
    rw [e, show '&' :: (r ++ [';']) = ['&'] ++ (r ++ [';']) from rfl, runM_append_of e1,
      runM_append_of (runM_accum .ref _ (fun _ _ _ _ _ h => by simp [step, h.1, h.2.1]) r [] _ _ _ hr)]
    simp [runM, step, hd hc]

theorem run_encodeChar_attr (c : Char) (hc : xmlChar c = true) (n : Str) (as : List (Str × Str)) (an : Str) (acc : Str)
    (stk : List Str) (rd : Bool) (evs : List Event) :
    runM ⟨.attrVal n as an '"' acc, stk, rd, evs⟩ (encodeChar c) = some ⟨.attrVal n as an '"' (c :: acc), stk, rd, evs⟩ := by
  rcases encodeChar_form c with ⟨⟨h32, _, h1, _, h3, _, h5⟩, e⟩ | ⟨_, r, e, hr, hd⟩
  · have hcr : c ≠ '\r' ∧ c ≠ '\t' ∧ c ≠ '\n' := by
      refine ⟨?_, ?_, ?_⟩ <;> (rintro rfl; revert h32; decide)
    rw [e]
    simp [runM, step, h1, h3, h5, hcr, hc]
  · have e1 : runM ⟨.attrVal n as an '"' acc, stk, rd, evs⟩ ['&'] = some ⟨.attrRef n as an '"' acc [], stk, rd, evs⟩ := rfl
    rw [e, show '&' :: (r ++ [';']) = ['&'] ++ (r ++ [';']) from rfl, runM_append_of e1,
      runM_append_of (runM_accum (.attrRef n as an '"' acc) _ (fun _ _ _ _ _ h => by simp [step, h.1, h.2.1]) r [] _ _ _ hr)]
    simp [runM, step, hd hc]

theorem run_encodeL_content (s : Str) (hs : ∀ c ∈ s, xmlChar c = true) (a : Str) (stk : List Str) (rd : Bool) (evs : List Event) :
    runM ⟨.content, a :: stk, rd, evs⟩ (encodeL s) = some ⟨.content, a :: stk, rd, (s.map Event.chr).reverse ++ evs⟩ := by
  induction s generalizing evs with
  | nil => simp [encodeL, runM]
  | cons c r ih =>
    simp only [encodeL, List.flatMap_cons]
    rw [runM_append_of (run_encodeChar_content c (hs c (by simp)) a stk rd evs)]
    have := ih (fun c hc => hs c (by simp [hc])) (.chr c :: evs)
    simp only [encodeL] at this
    rw [this]; simp

theorem run_encodeL_attr (s : Str) (hs : ∀ c ∈ s, xmlChar c = true) (n : Str) (as : List (Str × Str)) (an : Str) (acc : Str)
    (stk : List Str) (rd : Bool) (evs : List Event) :
    runM ⟨.attrVal n as an '"' acc, stk, rd, evs⟩ (encodeL s) = some ⟨.attrVal n as an '"' (s.reverse ++ acc), stk, rd, evs⟩ := by
  induction s generalizing acc with
  | nil => simp [encodeL, runM]
  | cons c r ih =>
    simp only [encodeL, List.flatMap_cons]
    rw [runM_append_of (run_encodeChar_attr c (hs c (by simp)) n as an acc stk rd evs)]
    have := ih (fun c hc => hs c (by simp [hc])) (c :: acc)
    simp only [encodeL] at this
    rw [this]; simp

theorem decodeText_encodeL (s : Str) (hs : ∀ c ∈ s, xmlChar c = true) : decodeText (encodeL s) = some s := by
  unfold decodeText
  have := run_encodeL_content s hs ['a'] [] false []
  simp only [List.append_nil] at this
  rw [show ({ stack := [['a']] } : PState) = ⟨.content, [['a']], false, []⟩ from rfl, this]
  simp
  clear this hs
  induction s with
  | nil => simp
  | cons c r ih => simp [List.mapM_cons, ih]

theorem decodeAttr_encodeL (s : Str) (hs : ∀ c ∈ s, xmlChar c = true) : decodeAttr (encodeL s) = some s := by
  unfold decodeAttr
  rw [show ({ mode := .attrVal ['a'] [] ['k'] '"' [] } : PState) = ⟨.attrVal ['a'] [] ['k'] '"' [], [], false, []⟩ from rfl,
    runM_append_of (run_encodeL_attr s hs _ _ _ _ _ _ _)]
  simp [runM, step]

end TD.C18
