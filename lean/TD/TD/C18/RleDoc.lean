import TD.C18.Stream
import TD.C18.Rle
/-! The calls of `IndexXML.xml_rle_write` meet the hypotheses of `stream_wellformed`. -/
namespace TD.C18

theorem decimal_xml (n : Nat) : ∀ c ∈ decimal n, xmlChar c = true :=
  fun c hc => (refBody_digit (decimal_digits n c hc)).2.2.1

theorem showAttr_xml (hex : Bool) (v : Int) : ∀ c ∈ (if hex then showHexInt v else showInt v), xmlChar c = true := by
  cases hex
  · simp only [Bool.false_eq_true, if_false, showInt]
    split
    · exact List.forall_mem_cons.2 ⟨by decide, decimal_xml _⟩
    · exact decimal_xml _
  · have h : ∀ c ∈ hexNat v.natAbs, xmlChar c = true := hexAux_all (xmlChar · = true) (by decide) _ _
    simp only [if_true, showHexInt]
    refine List.forall_mem_cons.2 ⟨by decide, List.forall_mem_cons.2 ⟨by decide, ?_⟩⟩
    split
    · exact List.forall_mem_cons.2 ⟨by decide, h⟩
    · exact h

theorem rleAttrs_ok (hex : Bool) (it : RItem) : OpOk (.start "RLE".toList (rleAttrs hex it)) := by
  refine ⟨by decide +kernel, ?_, by simp [rleAttrs]⟩
  intro kv hkv
  simp only [rleAttrs, List.mem_cons, List.not_mem_nil, or_false] at hkv
  rcases hkv with rfl | rfl | rfl
  · exact ⟨by show validName "datum".toList = true; decide +kernel, showAttr_xml hex _⟩
  · exact ⟨by show validName "stride".toList = true; decide +kernel, showAttr_xml hex _⟩
  · exact ⟨by show validName "repeat".toList = true; decide +kernel, decimal_xml _⟩

theorem rleOps_ok (hex : Bool) (elem : Str) (helem : validName elem = true) (items : List RItem) :
    ∀ op ∈ rleOps hex elem items, OpOk op := by
  intro op hop
  simp only [rleOps, List.mem_append, List.mem_cons, List.not_mem_nil, or_false, List.mem_flatMap] at hop
  rcases hop with (rfl | ⟨it, _, rfl | rfl⟩) | rfl
  · refine ⟨helem, ?_, by simp⟩
    intro kv hkv
    simp only [List.mem_cons, List.not_mem_nil, or_false] at hkv
    rcases hkv with rfl | rfl
    · exact ⟨by show validName "count".toList = true; decide +kernel, decimal_xml _⟩
    · exact ⟨by show validName "rle_len".toList = true; decide +kernel, decimal_xml _⟩
  · exact rleAttrs_ok hex it
  · trivial
  · trivial

theorem shape_items (hex : Bool) (items : List RItem) (d : Nat) (rd : Bool) (rest : List Op) :
    shape (d + 1) rd (items.flatMap (fun it => [.start "RLE".toList (rleAttrs hex it), .stop "RLE".toList]) ++ rest)
      = shape (d + 1) rd rest := by
  induction items with
  | nil => simp
  | cons it r ih =>
    simp only [List.flatMap_cons, List.cons_append, List.nil_append, shape]
    simp only [Nat.add_one_sub_one]
    have : (rd || d + 1 + 1 == 1) = rd := by simp
    rw [this]
    simpa using ih

theorem rleOps_shape (hex : Bool) (elem : Str) (items : List RItem) : shape 0 false (rleOps hex elem items) = true := by
  unfold rleOps
  simp only [List.cons_append, List.nil_append, shape]
  rw [shape_items]
  simp [shape]

end TD.C18
