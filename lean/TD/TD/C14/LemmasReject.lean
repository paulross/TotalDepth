/-
C14 — rejection: every failure of the model parser is a DAT error; undeclared channel, bad number.
-/
import TD.C14.LemmasLoop
namespace TD.C14
open TD.C14.Spec

/-! ### conversions only raise DAT errors -/

theorem convert_err (k : Conv) (tok : Str) (e : Err) (h : convert k tok = .error e) : e = .dat := by
  cases k <;> simp only [convert, convUtim, convDate, convTime] at h <;>
    (repeat' split at h) <;> (cases h; try rfl)

theorem convert_float_val (tok : Str) (v : Value) (h : convert .float tok = .ok v) : ∃ x, v = .float x := by
  simp only [convert] at h
  split at h
  · simp at h; exact ⟨_, h.symm⟩
  · simp at h

def Chan.typed (c : Chan) : Prop := convKind c.name c.units = .float ∨ c.obj = true

theorem convertCell_err (c : Chan) (hc : c.typed) (tok : Str) (e : Err) (h : convertCell c tok = .error e) : e = .dat := by
  unfold convertCell at h
  split at h
  · next e' he => simp at h; rw [← h]; exact convert_err _ _ _ he
  · next v hv =>
    split at h
    · simp at h
    · rcases hc with hk | ho
      · rw [hk] at hv
        obtain ⟨x, rfl⟩ := convert_float_val _ _ hv
        simp at *
      · simp [ho] at h

theorem convertColumn_err (c : Chan) (hc : c.typed) (col : List Str) (e : Err) (h : convertColumn c col = .error e) :
    e = .dat := by
  induction col generalizing e with
  | nil => simp [convertColumn] at h
  | cons t ts ih =>
    simp only [convertColumn] at h
    split at h
    · next e' he => simp at h; rw [← h]; exact convertCell_err c hc t e' he
    · split at h
      · next e' he => simp at h; rw [← h]; exact ih e' he
      · simp at h

theorem convertAll_err (cs : List Chan) (hc : ∀ c ∈ cs, c.typed) (cols : List (List Str)) (e : Err)
    (h : convertAll cs cols = .error e) : e = .dat := by
  induction cs generalizing cols e with
  | nil => simp [convertAll] at h
  | cons c cs ih =>
    cases cols with
    | nil => simp [convertAll] at h
    | cons col cols =>
      simp only [convertAll] at h
      split at h
      · next e' he => simp at h; rw [← h]; exact convertColumn_err c (hc c (by simp)) col e' he
      · split at h
        · next e' he => simp at h; rw [← h]; exact ih (fun x hx => hc x (by simp [hx])) cols e' he
        · simp at h

/-! ### the loop keeps its invariants -/

def Inv (st : St) : Prop :=
  st.defined.length = st.chans.length ∧ st.chans.length = st.table.length ∧
  (st.inDecl = true → st.chans = []) ∧ ∀ c ∈ st.chans, c.typed

theorem addChannels_res (D : List (Str × Str × Str)) (ns : List Str) (chans : List Chan) (table : List (List Str))
    (ht : ∀ c ∈ chans, c.typed) :
    (∀ e, addChannels D ns chans table = .error e → e = .dat) ∧
    (∀ cs tb, addChannels D ns chans table = .ok (cs, tb) →
      cs.length = chans.length + ns.length ∧ tb.length = table.length + ns.length ∧ ∀ c ∈ cs, c.typed) := by
  induction ns generalizing chans table with
  | nil =>
    refine ⟨by intro e h; simp [addChannels] at h, ?_⟩
    intro cs tb h
    simp only [addChannels, Except.ok.injEq, Prod.mk.injEq] at h
    obtain ⟨rfl, rfl⟩ := h
    exact ⟨by simp, by simp, ht⟩
  | cons n ns ih =>
    simp only [addChannels]
    split
    · exact ⟨by intro e h; simp at h; exact h.symm, by intro cs tb h; simp at h⟩
    · next desc units hl =>
      split
      · exact ⟨by intro e h; simp at h; exact h.symm, by intro cs tb h; simp at h⟩
      · have ht' : ∀ c ∈ chans ++ [⟨n, desc, units, isObjectDtype n units⟩], c.typed := by
          intro c hc
          rcases List.mem_append.mp hc with h | h
          · exact ht c h
          · simp only [List.mem_singleton] at h
            rw [h]; exact (key_tables n units).imp (·.1) (·.2)
        obtain ⟨h1, h2⟩ := ih (chans ++ [⟨n, desc, units, isObjectDtype n units⟩]) (table ++ [[]]) ht'
        refine ⟨h1, ?_⟩
        intro cs tb h
        obtain ⟨a, b, c⟩ := h2 cs tb h
        simp only [List.length_append, List.length_cons, List.length_nil] at a b ⊢
        exact ⟨by omega, by omega, c⟩

theorem loop_inv (brk : Bool) (lines : List Str) (st : St) (hi : Inv st) :
    (∀ e, loop brk st lines = .error e → e = .dat) ∧ (∀ st', loop brk st lines = .ok st' → Inv st') := by
  induction lines generalizing st with
  | nil =>
    refine ⟨by intro e h; simp [loop] at h, ?_⟩
    intro st' h
    simp only [loop, Except.ok.injEq] at h
    rw [← h]; exact hi
  | cons raw rest ih =>
    obtain ⟨h1, h2, h3, h4⟩ := hi
    rw [loop]
    rw [if_neg (by simpa using h1)]
    simp only []
    split
    · next hin =>
      have hc0 := h3 hin
      split
      · -- header line
        obtain ⟨ha1, ha2⟩ := addChannels_res st.declared (splitWs (prep raw)) st.chans st.table h4
        split
        · next e he => exact ⟨by intro e' h; simp at h; rw [← h]; exact ha1 e he, by intro st' h; simp at h⟩
        · next chans table hok =>
          obtain ⟨b1, b2, b3⟩ := ha2 chans table hok
          apply ih
          refine ⟨?_, ?_, by simp, b3⟩
          · simp only []; rw [b1, hc0]; simp
          · simp only []; rw [b1, b2, ← h2, hc0]
      · split
        · split
          · exact ⟨by intro e h; simp at h; exact h.symm, by intro st' h; simp at h⟩
          · apply ih
            exact ⟨h1, h2, fun _ => hc0, h4⟩
        · exact ⟨by intro e h; simp at h; exact h.symm, by intro st' h; simp at h⟩
    · next hin =>
      split
      · exact ⟨by intro e h; simp at h; exact h.symm, by intro st' h; simp at h⟩
      · next hlen =>
        have hlen' : (splitWs (prep raw)).length = st.table.length := by simpa using hlen
        have hnew : Inv { st with table := appendRow st.table (splitWs (prep raw)) } :=
          ⟨h1, by simp only []; rw [appendRow_length _ _ hlen']; exact h2, by simp only []; intro h; exact absurd h hin, h4⟩
        split
        · refine ⟨by intro e h; simp at h, ?_⟩
          intro st' h
          simp only [Except.ok.injEq] at h
          rw [← h]; exact hnew
        · exact ih _ hnew

/-- **Every failure of the model parser is a DAT error** (no assertion failure, no TypeError). -/
theorem parseLines_err (brk : Bool) (lines : List Str) (e : Err) (h : parseLines brk lines = .error e) : e = .dat := by
  have hinv : Inv {} := ⟨rfl, rfl, fun _ => rfl, by intro c hc; simp at hc⟩
  obtain ⟨h1, h2⟩ := loop_inv brk lines {} hinv
  unfold parseLines at h
  split at h
  · next e' he => simp at h; rw [← h]; exact h1 e' he
  · next st hst =>
    obtain ⟨_, i2, _, i4⟩ := h2 st hst
    split at h
    · simp at h; exact h.symm
    · split at h
      · next hne => exact absurd i2 hne
      · exact convertAll_err _ i4 _ e h

/-! ### a header naming an undeclared channel -/

theorem addChannels_undeclared (D : List (Str × Str × Str)) (ns : List Str) (chans : List Chan) (table : List (List Str))
    (h : ∃ n ∈ ns, lookup D n = none) : addChannels D ns chans table = .error .dat := by
  induction ns generalizing chans table with
  | nil => obtain ⟨n, hn, _⟩ := h; simp at hn
  | cons n0 ns ih =>
    simp only [addChannels]
    split
    · rfl
    · next desc units hl =>
      split
      · rfl
      · apply ih
        obtain ⟨n, hn, hnone⟩ := h
        rcases List.mem_cons.mp hn with rfl | hn'
        · rw [hl] at hnone; simp at hnone
        · exact ⟨n, hn', hnone⟩

theorem undeclared_lines (brk : Bool) (decls : List (Decl × LineLay)) (sel : List Str) (lay : LineLay) (tail : List Str)
    (hd : ∀ d ∈ decls, d.1.wf ∧ d.2.wf) (hnd : (decls.map (fun d => d.1.name)).Nodup)
    (hne : sel ≠ []) (ht : ∀ t ∈ sel, isTok t) (hl : lay.wf)
    (hun : ∃ n ∈ headerTokens sel, n ∉ decls.map (fun d => d.1.name)) :
    parseLines brk (decls.map (fun d => printLine (declTokens d.1) d.2) ++ printLine (headerTokens sel) lay :: tail)
      = .error .dat := by
  have h0 : ({} : St) = ⟨[], true, [], [], []⟩ := rfl
  obtain ⟨n, hn, hnot⟩ := hun
  have hnone : lookup ((decls.map (fun d => entry d.1)).reverse ++ []) n = none := by
    apply lookup_none
    intro e he
    rw [List.append_nil, List.mem_reverse] at he
    obtain ⟨d, hdm, rfl⟩ := List.mem_map.mp he
    intro heq
    exact hnot (List.mem_map.mpr ⟨d, hdm, heq⟩)
  unfold parseLines
  rw [h0, loop_decls brk decls [] _ hd hnd (by intro d _ e he; simp at he),
    loop_header brk _ sel lay _ hne ht hl, addChannels_undeclared _ _ _ _ ⟨n, hn, hnone⟩]

/-! ### a token that is not a number under a float channel -/

theorem convertColumn_ok_cells (c : Chan) (col : List Str) (vs : List Value) (h : convertColumn c col = .ok vs) :
    ∀ tok ∈ col, ∃ v, convertCell c tok = .ok v := by
  induction col generalizing vs with
  | nil => intro tok ht; simp at ht
  | cons t ts ih =>
    simp only [convertColumn] at h
    split at h
    · simp at h
    · next v hv =>
      split at h
      · simp at h
      · next vs' hvs =>
        intro tok ht
        rcases List.mem_cons.mp ht with rfl | ht'
        · exact ⟨v, hv⟩
        · exact ih vs' hvs tok ht'

theorem convertAll_ok_cells (cs : List Chan) (cols : List (List Str)) (res : List (Chan × List Value))
    (h : convertAll cs cols = .ok res) : ∀ p ∈ cs.zip cols, ∀ tok ∈ p.2, ∃ v, convertCell p.1 tok = .ok v := by
  induction cs generalizing cols res with
  | nil => intro p hp; simp at hp
  | cons c cs ih =>
    cases cols with
    | nil => intro p hp; simp at hp
    | cons col cols =>
      simp only [convertAll] at h
      split at h
      · simp at h
      · next vs hvs =>
        split at h
        · simp at h
        · next r hr =>
          intro p hp
          rw [List.zip_cons_cons] at hp
          rcases List.mem_cons.mp hp with rfl | hp'
          · exact convertColumn_ok_cells c col vs hvs
          · exact ih cols r hr p hp'

theorem bad_number_lines (brk : Bool) (lines : List Str) (st : St) (hloop : loop brk {} lines = .ok st)
    (c : Chan) (col : List Str) (tok : Str) (hmem : (c, col) ∈ st.chans.zip st.table)
    (hk : convKind c.name c.units = .float) (htok : tok ∈ col) (hbad : parseFloat tok = none) :
    parseLines brk lines = .error .dat := by
  cases hres : parseLines brk lines with
  | error e => rw [parseLines_err brk lines e hres]
  | ok res =>
    exfalso
    unfold parseLines at hres
    rw [hloop] at hres
    simp only [] at hres
    split at hres
    · simp at hres
    · split at hres
      · simp at hres
      · obtain ⟨v, hv⟩ := convertAll_ok_cells _ _ _ hres (c, col) hmem tok htok
        simp [convertCell, hk, convert, hbad] at hv

end TD.C14
