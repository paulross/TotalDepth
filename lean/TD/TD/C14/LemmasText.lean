/-
C14 — text lemmas: strip / translate / split and the two line scanners on printed lines.
-/
import TD.C14.LemmasList
namespace TD.C14
open TD.C14.Spec

/-! ### character facts -/

theorem tokChar_notSpace {c : Nat} (h : 33 ≤ c ∧ c ≤ 126) : isSpace c = false := by
  simp [isSpace]; omega

theorem blankChar_space {c : Nat} (h : c = 32 ∨ c = 9 ∨ c = 11 ∨ c = 12 ∨ c = 13) : isSpace c = true := by
  rcases h with h | h | h | h | h <;> subst h <;> decide

/-- named, because `simp` turns `c ∈ a ++ b` into a disjunction before a lemma about `∀ c ∈ a ++ b, …` can fire -/
def tokChars (l : Str) : Prop := ∀ c ∈ l, 33 ≤ c ∧ c ≤ 126

theorem isTok_iff {t : Str} : isTok t ↔ t ≠ [] ∧ tokChars t := Iff.rfl
theorem tokChars_nil : tokChars [] := nofun
theorem tokChars_cons {c : Nat} {r : Str} : tokChars (c :: r) ↔ (33 ≤ c ∧ c ≤ 126) ∧ tokChars r := List.forall_mem_cons
theorem tokChars_append {a b : Str} : tokChars (a ++ b) ↔ tokChars a ∧ tokChars b := List.forall_mem_append

theorem upperDigit_tokChar {c : Nat} (h : isUpperDigit c = true) : 33 ≤ c ∧ c ≤ 126 := by
  simp [isUpperDigit] at h; omega

theorem isName_isTok {n : Str} (h : isName n) : isTok n :=
  ⟨h.1, fun c hc => upperDigit_tokChar (h.2 c hc)⟩

/-! ### str.split() -/

theorem splitAux_tok (t r cur : Str) (ht : ∀ c ∈ t, isSpace c = false) :
    splitAux (t ++ r) cur = splitAux r (t.reverse ++ cur) := by
  induction t generalizing cur with
  | nil => rfl
  | cons a t ih =>
    have ha : isSpace a = false := ht a (by simp)
    rw [List.cons_append, splitAux]
    simp only [ha, Bool.false_eq_true, if_false]
    rw [ih (a :: cur) (fun c hc => ht c (by simp [hc]))]
    simp

theorem splitAux_spaces (s r : Str) (hs : ∀ c ∈ s, isSpace c = true) :
    splitAux (s ++ r) [] = splitAux r [] := by
  induction s with
  | nil => rfl
  | cons a s ih =>
    have ha : isSpace a = true := hs a (by simp)
    rw [List.cons_append, splitAux]
    simp only [ha, if_true]
    exact ih (fun c hc => hs c (by simp [hc]))

theorem splitAux_flush (s r cur : Str) (hs : ∀ c ∈ s, isSpace c = true) (hne : s ≠ []) (hcur : cur ≠ []) :
    splitAux (s ++ r) cur = cur.reverse :: splitAux r [] := by
  cases s with
  | nil => exact absurd rfl hne
  | cons a s =>
    have ha : isSpace a = true := hs a (by simp)
    rw [List.cons_append, splitAux]
    simp only [ha, if_true, if_neg hcur]
    rw [splitAux_spaces s r (fun c hc => hs c (by simp [hc]))]

theorem splitAux_end (cur : Str) (hcur : cur ≠ []) : splitAux [] cur = [cur.reverse] := by
  simp [splitAux, hcur]

/-! ### interleave -/

def sepAt (seps : List Str) : Str := seps.head?.getD [32]

theorem interleave_cons2 (t t2 : Str) (ts seps : List Str) :
    interleave (t :: t2 :: ts) seps = t ++ (sepAt seps ++ interleave (t2 :: ts) seps.tail) := by
  cases seps <;> simp [interleave, sepAt]

theorem interleave_single (t : Str) (seps : List Str) : interleave [t] seps = t := by
  cases seps <;> rfl

theorem sepAt_isSep (seps : List Str) (h : ∀ s ∈ seps, isSep s) : isSep (sepAt seps) := by
  cases seps with
  | nil => exact ⟨by simp [sepAt], by intro c hc; simp [sepAt] at hc; omega⟩
  | cons s r => simpa [sepAt] using h s (by simp)

theorem tail_isSep (seps : List Str) (h : ∀ s ∈ seps, isSep s) : ∀ s ∈ seps.tail, isSep s :=
  fun s hs => h s (List.mem_of_mem_tail hs)

theorem isSep_spaces {s : Str} (h : isSep s) : ∀ c ∈ s, isSpace c = true :=
  fun c hc => blankChar_space (h.2 c hc)

theorem isBlank_spaces {s : Str} (h : isBlank s) : ∀ c ∈ s, isSpace c = true :=
  fun c hc => blankChar_space (h c hc)

theorem isTok_notSpace {t : Str} (h : isTok t) : ∀ c ∈ t, isSpace c = false :=
  fun c hc => tokChar_notSpace (h.2 c hc)

/-- blanks after the line may be missing only at the end of the text -/
theorem splitAux_interleave_blank (toks : List Str) (seps : List Str) (pad r : Str)
    (ht : ∀ t ∈ toks, isTok t) (hs : ∀ s ∈ seps, isSep s) (hp : isBlank pad) (hr : pad = [] → r = []) :
    splitAux (interleave toks seps ++ (pad ++ r)) [] = toks ++ splitAux r [] := by
  induction toks generalizing seps with
  | nil =>
    simp only [interleave, List.nil_append]
    exact splitAux_spaces pad r (isBlank_spaces hp)
  | cons t ts ih =>
    have htt := ht t (by simp)
    cases ts with
    | nil =>
      rw [interleave_single, splitAux_tok t _ [] (isTok_notSpace htt), List.append_nil]
      cases pad with
      | nil => rw [hr rfl, List.append_nil, splitAux_end _ (by simpa using htt.1)]; simp [splitAux]
      | cons a p =>
        rw [splitAux_flush (a :: p) r _ (isBlank_spaces hp) (by simp) (by simpa using htt.1)]
        simp
    | cons t2 ts =>
      have hsep := sepAt_isSep seps hs
      rw [interleave_cons2, List.append_assoc, splitAux_tok t _ [] (isTok_notSpace htt), List.append_nil,
        List.append_assoc, splitAux_flush (sepAt seps) _ _ (isSep_spaces hsep) hsep.1 (by simpa using htt.1)]
      rw [ih seps.tail (fun x hx => ht x (by simp [hx])) (tail_isSep seps hs)]
      simp

/-- `split()` of a printed token line gives back the tokens -/
theorem splitAux_interleave (toks : List Str) (seps : List Str) (pad r : Str)
    (ht : ∀ t ∈ toks, isTok t) (hs : ∀ s ∈ seps, isSep s) (hp : isSep pad) :
    splitAux (interleave toks seps ++ (pad ++ r)) [] = toks ++ splitAux r [] :=
  splitAux_interleave_blank toks seps pad r ht hs hp.2 (fun h => absurd h hp.1)

/-- `line.split()` of a printed token line (with blank margins) gives back the tokens -/
theorem splitWs_line (toks : List Str) (seps : List Str) (lead pad : Str)
    (ht : ∀ t ∈ toks, isTok t) (hs : ∀ s ∈ seps, isSep s) (hl : isBlank lead) (hp : isBlank pad) :
    splitWs (lead ++ (interleave toks seps ++ pad)) = toks := by
  unfold splitWs
  rw [splitAux_spaces lead _ (isBlank_spaces hl)]
  simpa [splitAux] using splitAux_interleave_blank toks seps pad [] ht hs hp (fun _ => rfl)

/-! ### shape of a printed line body -/

theorem interleave_chars (toks seps : List Str) (ht : ∀ t ∈ toks, isTok t) (hs : ∀ s ∈ seps, isSep s) :
    ∀ c ∈ interleave toks seps, (33 ≤ c ∧ c ≤ 126) ∨ (c = 32 ∨ c = 9 ∨ c = 11 ∨ c = 12 ∨ c = 13) := by
  induction toks generalizing seps with
  | nil => simp [interleave]
  | cons t ts ih =>
    cases ts with
    | nil =>
      rw [interleave_single]
      exact fun c hc => Or.inl ((ht t (by simp)).2 c hc)
    | cons t2 ts =>
      rw [interleave_cons2]
      intro c hc
      simp only [List.mem_append] at hc
      rcases hc with hc | hc | hc
      · exact Or.inl ((ht t (by simp)).2 c hc)
      · exact Or.inr ((sepAt_isSep seps hs).2 c hc)
      · exact ih seps.tail (fun x hx => ht x (by simp [hx])) (tail_isSep seps hs) c hc

theorem interleave_head (t : Str) (ts seps : List Str) (ht : isTok t) :
    ∃ a X, interleave (t :: ts) seps = a :: X ∧ 33 ≤ a ∧ a ≤ 126 := by
  cases t with
  | nil => exact absurd rfl ht.1
  | cons a t' =>
    have ha := ht.2 a (by simp)
    cases ts with
    | nil => exact ⟨a, t', by rw [interleave_single], ha⟩
    | cons t2 ts => exact ⟨a, _, by rw [interleave_cons2]; rfl, ha⟩

theorem interleave_last (toks seps : List Str) (hne : toks ≠ []) (ht : ∀ t ∈ toks, isTok t) :
    ∃ Y z, interleave toks seps = Y ++ [z] ∧ 33 ≤ z ∧ z ≤ 126 := by
  induction toks generalizing seps with
  | nil => exact absurd rfl hne
  | cons t ts ih =>
    cases ts with
    | nil =>
      have htt := ht t (by simp)
      rw [interleave_single]
      refine ⟨t.dropLast, t.getLast htt.1, (List.dropLast_concat_getLast htt.1).symm, htt.2 _ (List.getLast_mem htt.1)⟩
    | cons t2 ts =>
      obtain ⟨Y, z, hY, hz⟩ := ih seps.tail (by simp) (fun x hx => ht x (by simp [hx]))
      refine ⟨t ++ (sepAt seps ++ Y), z, ?_, hz⟩
      rw [interleave_cons2, hY]; simp

/-! ### line preparation -/

theorem prep_printLine (toks : List Str) (lay : LineLay) (hne : toks ≠ []) (ht : ∀ t ∈ toks, isTok t) (hl : lay.wf) :
    prep (printLine toks lay) = interleave toks lay.seps := by
  obtain ⟨hlead, htrail, hseps⟩ := hl
  cases toks with
  | nil => exact absurd rfl hne
  | cons t ts =>
  obtain ⟨a, X, hB, ha⟩ := interleave_head t ts lay.seps (ht t (by simp))
  obtain ⟨Y, z, hB2, hz⟩ := interleave_last (t :: ts) lay.seps hne ht
  have hchars := interleave_chars (t :: ts) lay.seps ht hseps
  unfold prep printLine strip
  generalize interleave (t :: ts) lay.seps = B at *
  have h1 : (lay.lead ++ (B ++ lay.trail)).dropWhile isSpace = B ++ lay.trail := by
    refine (takeWhile_run (p := isSpace) lay.lead (B ++ lay.trail) (isBlank_spaces hlead) ?_).2
    intro a' ha'
    rw [hB] at ha'
    cases ha'
    exact tokChar_notSpace ha
  have h2 : (lay.trail.reverse ++ B.reverse).dropWhile isSpace = B.reverse := by
    refine (takeWhile_run (p := isSpace) lay.trail.reverse B.reverse ?_ ?_).2
    · intro c hc; exact isBlank_spaces htrail c (List.mem_reverse.mp hc)
    · intro a' ha'
      rw [hB2, List.reverse_append] at ha'
      cases ha'
      exact tokChar_notSpace hz
  have h3 : translate B = B := by
    unfold translate
    rw [List.filter_eq_self]
    intro c hc
    have h := hchars c hc
    simp [isPrintable]
    omega
  rw [List.append_assoc, h1, List.reverse_append, h2, List.reverse_reverse, h3]

/-! ### the header scanner -/

theorem stripPrefix_append (p r : Str) : stripPrefix p (p ++ r) = some r := by
  induction p with
  | nil => rfl
  | cons a p ih => simp [stripPrefix, ih]

theorem skipSpaces1_sep (s r : Str) (hs : isSep s) (hr : ∀ a ∈ r.head?, isSpace a = false) :
    skipSpaces1 (s ++ r) = some r := by
  obtain ⟨hne, hb⟩ := hs
  cases s with
  | nil => exact absurd rfl hne
  | cons c s' =>
    have hc : isSpace c = true := blankChar_space (hb c (by simp))
    simp only [List.cons_append, skipSpaces1, hc, if_true]
    congr 1
    exact (takeWhile_run (p := isSpace) s' r (fun x hx => blankChar_space (hb x (by simp [hx]))) hr).2

theorem head_notSpace_of_tok (t r : Str) (ht : isTok t) : ∀ a ∈ (t ++ r).head?, isSpace a = false := by
  intro a ha
  cases t with
  | nil => exact absurd rfl ht.1
  | cons b t' =>
    cases ha
    exact tokChar_notSpace (ht.2 _ (by simp))

theorem sUTIM_tok : isTok sUTIM := by decide
theorem sDATE_tok : isTok sDATE := by decide
theorem sTIME_tok : isTok sTIME := by decide

theorem scanHeader_print (sel seps : List Str) (hne : sel ≠ []) (ht : ∀ t ∈ sel, isTok t) (hs : ∀ s ∈ seps, isSep s) :
    scanHeader (interleave (headerTokens sel) seps) = true := by
  cases sel with
  | nil => exact absurd rfl hne
  | cons n ns =>
  obtain ⟨a, X, hB, ha⟩ := interleave_head n ns seps.tail.tail.tail (ht n (by simp))
  have e1 := sepAt_isSep seps hs
  have e2 := sepAt_isSep seps.tail (tail_isSep _ hs)
  have e3 := sepAt_isSep seps.tail.tail (tail_isSep _ (tail_isSep _ hs))
  unfold headerTokens
  rw [interleave_cons2, interleave_cons2, interleave_cons2, hB]
  unfold scanHeader
  rw [stripPrefix_append]
  simp only []
  rw [skipSpaces1_sep _ _ e1 (head_notSpace_of_tok sDATE _ sDATE_tok)]
  simp only []
  rw [stripPrefix_append]
  simp only []
  rw [skipSpaces1_sep _ _ e2 (head_notSpace_of_tok sTIME _ sTIME_tok)]
  simp only []
  rw [stripPrefix_append]
  obtain ⟨hne3, hb3⟩ := e3
  cases hsep : sepAt seps.tail.tail with
  | nil => exact absurd hsep hne3
  | cons c s' =>
    rw [hsep] at hb3
    have hc : isSpace c = true := blankChar_space (hb3 c (by simp))
    cases s' with
    | nil => simpa using hc
    | cons c2 s'' => simpa using hc

theorem stripPrefix_some (p l r : Str) (h : stripPrefix p l = some r) : l = p ++ r := by
  induction p generalizing l with
  | nil => simp [stripPrefix] at h; simp [h]
  | cons a p ih =>
    cases l with
    | nil => simp [stripPrefix] at h
    | cons c l' =>
      simp only [stripPrefix] at h
      split at h
      · next hac => rw [hac, ih l' h]; rfl
      · exact absurd h (by simp)

theorem skipSpaces1_some (l r : Str) (h : skipSpaces1 l = some r) :
    ∃ s, l = s ++ r ∧ s ≠ [] ∧ ∀ c ∈ s, isSpace c = true := by
  cases l with
  | nil => simp [skipSpaces1] at h
  | cons c l' =>
    simp only [skipSpaces1] at h
    split at h
    · next hc =>
      simp only [Option.some.injEq] at h
      refine ⟨c :: l'.takeWhile isSpace, ?_, by simp, ?_⟩
      · rw [← h]; simp [List.takeWhile_append_dropWhile]
      · intro x hx
        simp only [List.mem_cons] at hx
        rcases hx with rfl | hx
        · exact hc
        · exact (List.all_eq_true.mp (List.all_takeWhile (p := isSpace) (l := l'))) x hx
    · exact absurd h (by simp)

/-- a line that the header detector accepts has `UTIM DATE TIME` as its first three words -/
theorem scanHeader_tokens (l : Str) (h : scanHeader l = true) :
    ∃ rest, splitWs l = sUTIM :: sDATE :: sTIME :: rest := by
  unfold scanHeader at h
  split at h
  · exact absurd h (by simp)
  next r1 h1 =>
  split at h
  · exact absurd h (by simp)
  next r2 h2 =>
  split at h
  · exact absurd h (by simp)
  next r3 h3 =>
  split at h
  · exact absurd h (by simp)
  next r4 h4 =>
  split at h
  next c x y h5 =>
    obtain ⟨s1, e1, n1, sp1⟩ := skipSpaces1_some _ _ h2
    obtain ⟨s2, e2, n2, sp2⟩ := skipSpaces1_some _ _ h4
    have hl : l = sUTIM ++ (s1 ++ (sDATE ++ (s2 ++ (sTIME ++ ([c] ++ (x :: y)))))) := by
      rw [stripPrefix_some _ _ _ h1, e1, stripPrefix_some _ _ _ h3, e2, stripPrefix_some _ _ _ h5]; rfl
    refine ⟨splitAux (x :: y) [], ?_⟩
    unfold splitWs
    rw [hl, splitAux_tok _ _ [] (isTok_notSpace sUTIM_tok), List.append_nil, splitAux_flush s1 _ _ sp1 n1 (by decide),
      splitAux_tok _ _ [] (isTok_notSpace sDATE_tok), List.append_nil, splitAux_flush s2 _ _ sp2 n2 (by decide),
      splitAux_tok _ _ [] (isTok_notSpace sTIME_tok), List.append_nil,
      splitAux_flush [c] _ _ (by simpa using h) (by simp) (by decide)]
    rfl
  · exact absurd h (by simp)

/-! ### the declaration scanner -/

theorem interleave_snoc (ws : List Str) (u : Str) (seps : List Str) (hne : ws ≠ []) (hs : ∀ s ∈ seps, isSep s) :
    ∃ sK, isSep sK ∧ interleave (ws ++ [u]) seps = interleave ws seps ++ (sK ++ u) := by
  induction ws generalizing seps with
  | nil => exact absurd rfl hne
  | cons w ws ih =>
    cases ws with
    | nil =>
      refine ⟨sepAt seps, sepAt_isSep seps hs, ?_⟩
      rw [List.cons_append, List.nil_append, interleave_cons2, interleave_single, interleave_single]
    | cons w2 ws' =>
      obtain ⟨sK, hK, hEq⟩ := ih seps.tail (by simp) (tail_isSep seps hs)
      refine ⟨sK, hK, ?_⟩
      rw [List.cons_append, List.cons_append, interleave_cons2, ← List.cons_append, hEq, interleave_cons2]
      simp

theorem scanDecl_shape (name s0 R0 sK units : Str) (hn : isName name) (h0 : isSep s0) (hK : isSep sK)
    (hu : isTok units) (hR : R0 ≠ []) :
    scanDecl (name ++ (s0 ++ (R0 ++ (sK ++ units)))) = some (name, s0.tail ++ (R0 ++ sK.dropLast), units) := by
  obtain ⟨hn1, hn2⟩ := hn
  cases s0 with
  | nil => exact absurd rfl h0.1
  | cons c0 s0' =>
  have hc0 : isSpace c0 = true := blankChar_space (h0.2 c0 (by simp))
  have hc0u : isUpperDigit c0 = false := by
    rcases h0.2 c0 (by simp) with h | h | h | h | h <;> subst h <;> decide
  obtain ⟨ht, hd⟩ := takeWhile_run (p := isUpperDigit) name (c0 :: (s0' ++ (R0 ++ (sK ++ units)))) hn2
    (fun a ha => by cases ha; exact hc0u)
  have hKl := List.dropLast_concat_getLast hK.1
  have hcl : isSpace (sK.getLast hK.1) = true := blankChar_space (hK.2 _ (List.getLast_mem hK.1))
  have hrev : (s0' ++ (R0 ++ (sK ++ units))).reverse =
      units.reverse ++ (sK.getLast hK.1 :: (sK.dropLast.reverse ++ (R0.reverse ++ s0'.reverse))) := by
    conv => lhs; rw [← hKl]
    simp
  obtain ⟨ht2, hd2⟩ := takeWhile_run (p := fun c => !isSpace c) units.reverse
    (sK.getLast hK.1 :: (sK.dropLast.reverse ++ (R0.reverse ++ s0'.reverse)))
    (by intro a ha; simp [tokChar_notSpace (hu.2 a (List.mem_reverse.mp ha))])
    (fun a ha => by cases ha; simp [hcl])
  unfold scanDecl
  simp only [List.cons_append] at ht hd ⊢
  rw [ht, hd]
  simp only [if_neg hn1, hc0, Bool.not_true, Bool.false_eq_true, if_false, hrev, ht2, hd2, List.reverse_reverse]
  rw [if_neg hu.1]
  have hne : sK.dropLast.reverse ++ (R0.reverse ++ s0'.reverse) ≠ [] := by
    intro h
    simp at h
    exact hR h.2.1
  simp only [if_neg hne]
  simp

/-- the declaration scanner on a printed declaration: name, raw description (its words are the declared ones), units -/
theorem scanDecl_print (d : Decl) (seps : List Str) (hd : d.wf) (hs : ∀ s ∈ seps, isSep s) :
    ∃ g2, scanDecl (interleave (declTokens d) seps) = some (d.name, g2, d.units) ∧ splitWs g2 = d.words := by
  obtain ⟨hn, hw, hwt, hu, _⟩ := hd
  cases hws : d.words with
  | nil => exact absurd hws hw
  | cons w ws =>
  obtain ⟨sK, hK, hEq⟩ := interleave_snoc (w :: ws) d.units seps.tail (by simp) (tail_isSep seps hs)
  have h0 := sepAt_isSep seps hs
  have hwt' : ∀ t ∈ w :: ws, isTok t := by rw [← hws]; exact hwt
  obtain ⟨a, X, hB, _⟩ := interleave_head w ws seps.tail (hwt' w (by simp))
  have hR : interleave (w :: ws) seps.tail ≠ [] := by rw [hB]; simp
  refine ⟨(sepAt seps).tail ++ (interleave (w :: ws) seps.tail ++ sK.dropLast), ?_, ?_⟩
  · unfold declTokens
    rw [hws, List.cons_append, interleave_cons2, ← List.cons_append, hEq]
    exact scanDecl_shape d.name (sepAt seps) _ sK d.units hn h0 hK hu hR
  · apply splitWs_line (w :: ws) seps.tail _ _ hwt' (tail_isSep seps hs)
    · intro c hc; exact h0.2 c (List.mem_of_mem_tail hc)
    · intro c hc; exact hK.2 c (List.dropLast_subset _ hc)

end TD.C14
