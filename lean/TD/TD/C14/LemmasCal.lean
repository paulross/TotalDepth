/-
C14 — calendar lemmas: the model's ordinal → (y, m, d) inverts the textbook ordinal of the spec.
`monthDay` is a cascade over the prefix sums `daysBeforeMonth`; `civilOfOrdinal` reads the cycle digits that
`daysBeforeYear` writes.
-/
import TD.C14.Spec
namespace TD.C14
open TD.C14.Spec

theorem leap_iff (y : Nat) : leap y = true ↔ ((y % 4 = 0 ∧ y % 100 ≠ 0) ∨ y % 400 = 0) := by
  simp [leap]

theorem monthLen_congr {y y' : Nat} (h : leap y = leap y') (m : Nat) : monthLen y m = monthLen y' m := by
  unfold monthLen; rw [h]

theorem daysBeforeMonth_congr {y y' : Nat} (h : leap y = leap y') (m : Nat) :
    daysBeforeMonth y m = daysBeforeMonth y' m := by
  unfold daysBeforeMonth; simp only [monthLen_congr h]

theorem daysBeforeMonth_succ (y m : Nat) (hm : 1 ≤ m) :
    daysBeforeMonth y (m + 1) = daysBeforeMonth y m + monthLen y m := by
  obtain ⟨k, rfl⟩ := Nat.exists_eq_add_of_le' hm
  simp [daysBeforeMonth, List.range_succ]

theorem daysBeforeMonth_mono (y : Nat) {m m' : Nat} (hm : 1 ≤ m) (h : m ≤ m') :
    daysBeforeMonth y m ≤ daysBeforeMonth y m' := by
  induction h with
  | refl => exact Nat.le_refl _
  | @step k hk ih =>
    rw [daysBeforeMonth_succ y k (Nat.le_trans hm hk)]
    exact Nat.le_trans ih (Nat.le_add_right _ _)

/-- The year enters only through `leap`: evaluate year 1 (common) and year 4 (leap). -/
theorem daysBeforeMonth_table (y L : Nat) (hL : L = if leap y then 1 else 0) :
    (List.range' 1 12).map (daysBeforeMonth y) =
      [0, 31, 59 + L, 90 + L, 120 + L, 151 + L, 181 + L, 212 + L, 243 + L, 273 + L, 304 + L, 334 + L] ∧
    daysBeforeMonth y 13 = 365 + L := by
  subst hL
  cases h : leap y
  · rw [funext (daysBeforeMonth_congr (y' := 1) h)]; exact ⟨rfl, rfl⟩
  · rw [funext (daysBeforeMonth_congr (y' := 4) h)]; exact ⟨rfl, rfl⟩

/-- Over block starts `b₀, b₁, …`: the number (counting from `k`) of the block holding `n`, and `n`'s 1-based place in it. -/
def locate : List Nat → Nat → Nat → Nat × Nat
  | b :: c :: bs, k, n => if n < c then (k, n - b + 1) else locate (c :: bs) (k + 1) n
  | [b], k, n => (k, n - b + 1)
  | [], k, n => (k, n + 1)

theorem locate_map_range' (g : Nat → Nat) (a len k i n : Nat) (hi : i < len)
    (hlo : ∀ j ≤ i, g (a + j) ≤ n) (hhi : i + 1 < len → n < g (a + i + 1)) :
    locate ((List.range' a len).map g) k n = (k + i, n - g (a + i) + 1) := by
  induction i generalizing a len k with
  | zero =>
    obtain ⟨l, rfl⟩ : ∃ l, len = l + 1 := ⟨len - 1, by omega⟩
    cases l with
    | zero => rfl
    | succ l =>
      rw [List.range'_succ, List.range'_succ, List.map_cons, List.map_cons, locate, if_pos (hhi (by omega))]
      rfl
  | succ i ih =>
    obtain ⟨l, rfl⟩ : ∃ l, len = l + 2 := ⟨len - 2, by omega⟩
    have h1 : ¬ n < g (a + 1) := Nat.not_lt.mpr (hlo 1 (by omega))
    have e : ∀ j, a + 1 + j = a + (j + 1) := fun j => by omega
    rw [List.range'_succ, List.range'_succ, List.map_cons, List.map_cons, locate, if_neg h1, ← List.map_cons,
      ← List.range'_succ, ih (a + 1) (l + 1) (k + 1) (by omega) (fun j hj => e j ▸ hlo (j + 1) (by omega))
        (fun h => by rw [e i]; exact hhi (by omega)), e i, Nat.add_assoc k 1 i, Nat.add_comm 1 i]

theorem monthDay_eq_locate (Y L n : Nat) : monthDay Y L n =
    (Y, locate [0, 31, 59 + L, 90 + L, 120 + L, 151 + L, 181 + L, 212 + L, 243 + L, 273 + L, 304 + L, 334 + L] 1 n) := by
  simp only [monthDay, locate, apply_ite (Prod.mk Y), Nat.sub_zero, Nat.reduceAdd]

theorem monthDay_daysBeforeMonth (Y y m d : Nat) (hm1 : 1 ≤ m) (hm12 : m ≤ 12) (hd1 : 1 ≤ d) (hd : d ≤ monthLen y m) :
    monthDay Y (if leap y then 1 else 0) (daysBeforeMonth y m + d - 1) = (Y, m, d) := by
  obtain ⟨i, rfl⟩ := Nat.exists_eq_add_of_le' hm1
  have htab := (daysBeforeMonth_table y _ rfl).1
  have hnext := daysBeforeMonth_succ y (i + 1) hm1
  rw [monthDay_eq_locate, ← htab, locate_map_range' (daysBeforeMonth y) 1 12 1 i _ (by omega), Nat.add_comm 1 i]
  · congr 2; omega
  · intro j hj
    have := daysBeforeMonth_mono y (m := 1 + j) (m' := i + 1) (by omega) (by omega)
    omega
  · intro _
    rw [Nat.add_comm 1 i]
    omega

theorem daysBeforeMonth_add_le (y m : Nat) (hm1 : 1 ≤ m) (hm12 : m ≤ 12) :
    daysBeforeMonth y m + monthLen y m ≤ 365 + if leap y then 1 else 0 := by
  rw [← daysBeforeMonth_succ y m hm1, ← (daysBeforeMonth_table y _ rfl).2]
  exact daysBeforeMonth_mono y (Nat.le_add_left 1 m) (Nat.succ_le_succ hm12)

theorem mul_add_div_mod {k r : Nat} (q : Nat) (h : r < k) : (k * q + r) / k = q ∧ (k * q + r) % k = r := by
  rw [Nat.mul_add_div (Nat.zero_lt_of_lt h), Nat.div_eq_of_lt h, Nat.mul_add_mod, Nat.mod_eq_of_lt h]
  exact ⟨rfl, rfl⟩

/-- A digit 4 of the 100- or the 1-year cycle only arises for the last day of a leap year. -/
theorem civilOfOrdinal_digits (a b c e n : Nat) {N : Nat} (hn : n < 365) (he : 365 * e + n < 1461)
    (hc : 1461 * c + (365 * e + n) < 36524) (hb : 36524 * b + (1461 * c + (365 * e + n)) < 146097)
    (hN : N = 146097 * a + (36524 * b + (1461 * c + (365 * e + n))) + 1) :
    civilOfOrdinal N =
      if e = 4 ∨ b = 4 then (a * 400 + 1 + b * 100 + c * 4 + e - 1, 12, 31)
      else monthDay (a * 400 + 1 + b * 100 + c * 4 + e) (if e = 3 ∧ (c ≠ 24 ∨ b = 3) then 1 else 0) n := by
  subst hN
  simp only [civilOfOrdinal, Nat.add_sub_cancel, mul_add_div_mod a hb, mul_add_div_mod b hc, mul_add_div_mod c he,
    mul_add_div_mod e hn]

theorem exists_cycles (Y : Nat) : ∃ a b c e, b < 4 ∧ c < 25 ∧ e < 4 ∧ Y = 400 * a + 100 * b + 4 * c + e :=
  ⟨Y / 400, Y % 400 / 100, Y % 100 / 4, Y % 4, by omega, by omega, by omega, by omega⟩

theorem daysBeforeYear_cycles (a b c e : Nat) (hb : b < 4) (hc : c < 25) (he : e < 4) :
    daysBeforeYear (400 * a + 100 * b + 4 * c + e + 1) = 146097 * a + 36524 * b + 1461 * c + 365 * e := by
  unfold daysBeforeYear; omega

theorem leap_cycles (a b c e : Nat) (hb : b < 4) (hc : c < 25) (he : e < 4) :
    leap (400 * a + 100 * b + 4 * c + e + 1) = true ↔ e = 3 ∧ (c ≠ 24 ∨ b = 3) := by
  rw [leap_iff]; omega

theorem civilOfOrdinal_daysBeforeYear (y doy : Nat) (hy : 1 ≤ y) (hdoy : doy < 365 + if leap y then 1 else 0) :
    civilOfOrdinal (daysBeforeYear y + doy + 1) = monthDay y (if leap y then 1 else 0) doy := by
  obtain ⟨a, b, c, e, hb, hc, he, hY⟩ := exists_cycles (y - 1)
  obtain rfl : y = 400 * a + 100 * b + 4 * c + e + 1 := by omega
  clear hY hy
  have hleap := leap_cycles a b c e hb hc he
  rw [daysBeforeYear_cycles a b c e hb hc he]
  by_cases h365 : doy < 365
  · rw [civilOfOrdinal_digits a b c e doy h365 (by omega) (by omega) (by omega) (by omega), if_neg (by omega),
      show a * 400 + 1 + b * 100 + c * 4 + e = 400 * a + 100 * b + 4 * c + e + 1 by omega]
    simp only [hleap]
  · -- 31 December of a leap year: the division sees day 0 of a fifth year (or of a fifth century)
    have hl : leap (400 * a + 100 * b + 4 * c + e + 1) = true := by
      cases h : leap (400 * a + 100 * b + 4 * c + e + 1)
      · rw [h] at hdoy; exact absurd hdoy h365
      · rfl
    obtain ⟨rfl, hcb⟩ := hleap.mp hl
    clear hleap
    rw [hl] at hdoy ⊢
    obtain rfl : doy = 365 := by
      simp only [if_true] at hdoy; omega
    clear hl hdoy h365
    show _ = (400 * a + 100 * b + 4 * c + 3 + 1, 12, 31)
    by_cases hc24 : c = 24
    · rw [civilOfOrdinal_digits a 4 0 0 0 (by omega) (by omega) (by omega) (by omega) (by omega), if_pos (Or.inr rfl)]
      congr 1; omega
    · rw [civilOfOrdinal_digits a b c 4 0 (by omega) (by omega) (by omega) (by omega) (by omega), if_pos (Or.inl rfl)]
      congr 1; omega

theorem civil_ordinal (y m d : Nat) (h : validDate y m d) : civilOfOrdinal (ordinal y m d) = (y, m, d) := by
  obtain ⟨hy1, _, hm1, hm12, hd1, hd⟩ := h
  have hle := daysBeforeMonth_add_le y m hm1 hm12
  rw [show ordinal y m d = daysBeforeYear y + (daysBeforeMonth y m + d - 1) + 1 by unfold ordinal; omega,
    civilOfOrdinal_daysBeforeYear y _ hy1 (by omega)]
  exact monthDay_daysBeforeMonth y y m d hm1 hm12 hd1 hd

/-- 3652059 = `ordinal 9999 12 31`. -/
theorem ordinal_bounds (y m d : Nat) (h : validDate y m d) : 1 ≤ ordinal y m d ∧ ordinal y m d ≤ 3652059 := by
  obtain ⟨hy1, hy2, hm1, hm12, hd1, hd⟩ := h
  have hle := daysBeforeMonth_add_le y m hm1 hm12
  have hl := leap_iff y
  unfold ordinal daysBeforeYear
  by_cases hL : leap y = true
  · have := hl.mp hL
    rw [if_pos hL] at hle
    omega
  · rw [if_neg hL] at hle
    omega

end TD.C14
