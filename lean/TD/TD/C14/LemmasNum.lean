/-
C14 — number lemmas: printed integers / decimal literals are read back exactly by the model's `int()` / `float()`.
-/
import TD.C14.LemmasList
namespace TD.C14
open TD.C14.Spec

/-! ### digits -/

theorem ofDigits_snoc (l : List Nat) (d : Nat) : ofDigits (l ++ [d]) = 10 * ofDigits l + d := by
  simp [ofDigits, List.foldl_append]

theorem ofDigits_natDigits (n : Nat) : ofDigits (natDigits n) = n := by
  induction n using Nat.strongRecOn with
  | _ n ih =>
    unfold natDigits
    split
    · simp [ofDigits]
    · rw [ofDigits_snoc, ih (n / 10) (by omega)]; omega

theorem natDigits_lt (n : Nat) : ∀ d ∈ natDigits n, d < 10 := by
  induction n using Nat.strongRecOn with
  | _ n ih =>
    unfold natDigits
    split
    · simp; omega
    · intro d hd
      rw [List.mem_append] at hd
      rcases hd with hd | hd
      · exact ih (n / 10) (by omega) d hd
      · simp at hd; omega

theorem natDigits_ne_nil (n : Nat) : natDigits n ≠ [] := by
  unfold natDigits
  split <;> simp

theorem natDigits_length (k n : Nat) (h : n < 10 ^ (k + 1)) : (natDigits n).length ≤ k + 1 := by
  induction k generalizing n with
  | zero =>
    unfold natDigits
    have : n < 10 := by simpa using h
    simp [this]
  | succ k ih =>
    unfold natDigits
    split
    · simp
    · have : n / 10 < 10 ^ (k + 1) := by
        rw [Nat.div_lt_iff_lt_mul (by decide)]
        rw [Nat.pow_succ] at h; exact h
      have := ih (n / 10) this
      simp; omega

theorem ofDigits_replicate_zero (z : Nat) (l : List Nat) : ofDigits (List.replicate z 0 ++ l) = ofDigits l := by
  induction z with
  | zero => simp
  | succ z ih =>
    rw [List.replicate_succ, List.cons_append]
    unfold ofDigits at ih ⊢
    simpa using ih

theorem isDigit_iff (c : Nat) : isDigit c = true ↔ 48 ≤ c ∧ c ≤ 57 := by simp [isDigit]

theorem chars_isDigit (ds : List Nat) (h : isDigits ds) : ∀ c ∈ chars ds, isDigit c = true := by
  intro c hc
  simp [chars] at hc
  obtain ⟨d, hd, rfl⟩ := hc
  have := h d hd
  simp [isDigit]; omega

theorem chars_digitVal (ds : List Nat) : (chars ds).map digitVal = ds := by
  simp [chars, digitVal, Function.comp_def]

theorem chars_append (a b : List Nat) : chars (a ++ b) = chars a ++ chars b := by simp [chars]

theorem chars_range (ds : List Nat) (h : isDigits ds) : ∀ c ∈ chars ds, 48 ≤ c ∧ c ≤ 57 :=
  fun c hc => (isDigit_iff c).mp (chars_isDigit ds h c hc)

theorem chars_all (ds : List Nat) (h : isDigits ds) : (chars ds).all isDigit = true := by
  rw [List.all_eq_true]; exact chars_isDigit ds h

theorem chars_eq_nil (ds : List Nat) : chars ds = [] ↔ ds = [] := by simp [chars]

theorem replicate48 (z : Nat) : List.replicate z 48 = chars (List.replicate z 0) := by simp [chars]

theorem isDigits_zeros (z n : Nat) : isDigits (List.replicate z 0 ++ natDigits n) := by
  intro d hd
  rcases List.mem_append.mp hd with h | h
  · rw [List.eq_of_mem_replicate h]; decide
  · exact natDigits_lt n d h

/-! ### int() -/

theorem intScan_chars (ds : List Nat) (h : isDigits ds) (prev : Nat) (acc : List Nat)
    (hne : ds ≠ [] ∨ prev = 1) : intScan (chars ds) prev acc = some (acc.reverse ++ ds) := by
  induction ds generalizing prev acc with
  | nil =>
    have : prev = 1 := by simpa using hne
    simp [chars, intScan, this]
  | cons d r ih =>
    have hd : d < 10 := h d (by simp)
    have hr : isDigits r := fun x hx => h x (by simp [hx])
    have h1 : isDigit (d + 48) = true := by simp [isDigit]; omega
    have := ih hr 1 (digitVal (d + 48) :: acc) (Or.inr rfl)
    simp only [chars, List.map_cons] at this ⊢
    rw [intScan, if_pos h1, this]
    simp [digitVal]

theorem splitSign_digit (l : Str) (h : ∀ a ∈ l.head?, a ≠ 45 ∧ a ≠ 43) : splitSign l = (false, l) := by
  unfold splitSign
  split
  · exact absurd rfl (h _ rfl).1
  · exact absurd rfl (h _ rfl).2
  · rfl

theorem splitSign_signStr (sg : Option Bool) (b : Str) (hb : ∀ a ∈ b.head?, a ≠ 45 ∧ a ≠ 43) :
    splitSign (signStr sg ++ b) = (decide (sg = some true), b) := by
  cases sg with
  | none => simpa [signStr] using splitSign_digit b hb
  | some v => cases v <;> simp [signStr, splitSign]

theorem parseInt_chars (sg : Option Bool) (ds : List Nat) (hd : isDigits ds) (hne : ds ≠ []) (hlen : ds.length ≤ 4300) :
    parseInt (signStr sg ++ chars ds) =
      some (if sg = some true then -((ofDigits ds : Nat) : Int) else ((ofDigits ds : Nat) : Int)) := by
  have hs := splitSign_signStr sg (chars ds) fun a ha => by
    have := chars_range _ hd a (List.mem_of_mem_head? ha)
    omega
  have hscan := intScan_chars ds hd 0 [] (Or.inl hne)
  unfold parseInt
  rw [hs]
  simp only [hscan, List.reverse_nil, List.nil_append, decide_eq_true_eq]
  rw [if_neg (by omega)]

/-- 4300 = `sys.int_max_str_digits`. -/
theorem parseInt_printInt (n : Int) (hlen : (natDigits n.natAbs).length ≤ 4300) : parseInt (printInt n) = some n := by
  have hp := fun sg => parseInt_chars sg _ (natDigits_lt n.natAbs) (natDigits_ne_nil _) hlen
  rw [ofDigits_natDigits] at hp
  unfold printInt printNat
  by_cases hn : n < 0
  · rw [if_pos hn]
    exact (hp (some true)).trans (by simp only [if_true]; congr 1; omega)
  · rw [if_neg hn]
    exact (hp none).trans (by simp only [reduceCtorEq, if_false]; congr 1; omega)

/-! ### float() -/

def expPart (e : Option (Bool × Option Bool × List Nat)) : Str :=
  match e with
  | none => []
  | some (cap, sg, ds) => (if cap then 69 else 101) :: (signStr sg ++ chars ds)

def expVal (e : Option (Bool × Option Bool × List Nat)) : Int :=
  match e with
  | none => 0
  | some (_, sg, ds) => if sg = some true then -((ofDigits ds : Nat) : Int) else ((ofDigits ds : Nat) : Int)

theorem parseExp_expPart (e : Option (Bool × Option Bool × List Nat))
    (h : ∀ v, e = some v → v.2.2 ≠ [] ∧ isDigits v.2.2) : parseExp (expPart e) = some (expVal e) := by
  cases e with
  | none => rfl
  | some v =>
    obtain ⟨cap, sg, ds⟩ := v
    obtain ⟨hne, hd⟩ := h _ rfl
    simp only at hne hd
    have hs := splitSign_signStr sg (chars ds) fun a ha => by
      have := chars_range _ hd a (List.mem_of_mem_head? ha)
      omega
    have hc : (if cap then 69 else 101) = 101 ∨ (if cap then 69 else 101) = 69 := by cases cap <;> simp
    simp only [expPart, parseExp, expVal]
    rw [if_pos hc, hs]
    simp only []
    rw [if_neg (by rw [chars_eq_nil]; exact hne), if_pos (chars_all ds hd), chars_digitVal]
    by_cases hsg : sg = some true <;> simp [hsg]

theorem expPart_head (e : Option (Bool × Option Bool × List Nat)) : ∀ a ∈ (expPart e).head?, a = 69 ∨ a = 101 := by
  intro a h
  cases e with
  | none => cases h
  | some v =>
    obtain ⟨cap, sg, ds⟩ := v
    cases h
    cases cap <;> simp

def fracPart (f : Option (List Nat)) : Str :=
  match f with
  | none => []
  | some fp => 46 :: chars fp

theorem printNum_eq (x : Num) : printNum x = signStr x.sign ++ (chars x.ip ++ (fracPart x.frac ++ expPart x.exp)) := by
  unfold printNum fracPart expPart
  cases x.frac <;> cases x.exp <;> simp

theorem parseDecBody_print (neg : Bool) (x : Num) (h : x.wf) :
    parseDecBody neg (chars x.ip ++ (fracPart x.frac ++ expPart x.exp)) =
      some (.fin neg (ofDigits (x.ip ++ x.frac.getD [])) (expVal x.exp - ((x.frac.getD []).length : Int))) := by
  obtain ⟨hip, hfp, hne, hexp⟩ := h
  have hE : ∀ a ∈ (expPart x.exp).head?, isDigit a = false ∧ a ≠ 46 := by
    intro a ha
    have := expPart_head _ a ha
    constructor
    · simp [isDigit]; omega
    · omega
  have hfrac : (∀ a ∈ (fracPart x.frac ++ expPart x.exp).head?, isDigit a = false) ∧
      fracOf (fracPart x.frac ++ expPart x.exp) = chars (x.frac.getD []) ∧
      afterFrac (fracPart x.frac ++ expPart x.exp) = expPart x.exp := by
    revert hfp
    cases x.frac with
    | none =>
      have h46 : ∀ t, expPart x.exp ≠ 46 :: t := fun t heq => (hE 46 (by rw [heq]; rfl)).2 rfl
      refine fun _ => ⟨fun a ha => (hE a ha).1, ?_, ?_⟩
      · unfold fracOf; split
        · exact absurd ‹_› (h46 _)
        · rfl
      · unfold afterFrac; split
        · exact absurd ‹_› (h46 _)
        · rfl
    | some fp =>
      intro hfp
      obtain ⟨ht, hdw⟩ := takeWhile_run (p := isDigit) (chars fp) _ (chars_isDigit _ hfp) fun a ha => (hE a ha).1
      exact ⟨fun a ha => by cases ha; rfl, ht, hdw⟩
  obtain ⟨ht, hdw⟩ := takeWhile_run (p := isDigit) (chars x.ip) _ (chars_isDigit _ hip) hfrac.1
  have h3 : ¬ (chars x.ip = [] ∧ chars (x.frac.getD []) = []) := by
    rw [chars_eq_nil, chars_eq_nil]; exact fun h => hne.elim (· h.1) (· h.2)
  have hlen : (chars (x.frac.getD [])).length = (x.frac.getD []).length := by simp [chars]
  unfold parseDecBody
  simp only [ht, hdw, hfrac.2.1, hfrac.2.2, parseExp_expPart _ hexp, if_neg h3, ← chars_append, chars_digitVal, hlen]

theorem body_head (x : Num) (h : x.wf) : ∀ a ∈ (chars x.ip ++ (fracPart x.frac ++ expPart x.exp)).head?,
    a = 46 ∨ (48 ≤ a ∧ a ≤ 57) := by
  obtain ⟨hip, hfp, hne, _⟩ := h
  intro a heq
  cases hi : x.ip with
  | cons d t =>
    rw [hi] at heq hip
    have hd : d < 10 := hip d (by simp)
    simp [chars] at heq
    omega
  | nil =>
    rw [hi] at heq hne
    cases hf : x.frac with
    | none => rw [hf] at hne; simp at hne
    | some fp =>
      rw [hf] at heq
      simp [chars, fracPart] at heq
      omega

theorem printNum_chars (x : Num) (h : x.wf) : ∀ c ∈ printNum x,
    c = 43 ∨ c = 45 ∨ c = 46 ∨ c = 69 ∨ c = 101 ∨ (48 ≤ c ∧ c ≤ 57) := by
  obtain ⟨hip, hfp, _, hexp⟩ := h
  have hsign : ∀ s, ∀ c ∈ signStr s, c = 43 ∨ c = 45 := by
    intro s c hc
    cases s with
    | none => simp [signStr] at hc
    | some v => cases v <;> simp [signStr] at hc <;> omega
  intro c hc
  rw [printNum_eq] at hc
  simp only [List.mem_append] at hc
  rcases hc with hc | hc | hc | hc
  · have := hsign _ c hc; omega
  · have := chars_range _ hip c hc; omega
  · cases hf : x.frac with
    | none => rw [hf] at hc; simp [fracPart] at hc
    | some fp =>
      rw [hf] at hc hfp
      simp only [fracPart, List.mem_cons] at hc
      rcases hc with hc | hc
      · omega
      · have := chars_range _ hfp c hc; omega
  · cases he : x.exp with
    | none => rw [he] at hc; simp [expPart] at hc
    | some v =>
      obtain ⟨cap, sg, ds⟩ := v
      rw [he] at hc
      obtain ⟨_, hds⟩ := hexp _ he
      simp only [expPart, List.mem_cons, List.mem_append] at hc
      rcases hc with hc | hc | hc
      · cases cap <;> simp at hc <;> omega
      · have := hsign _ c hc; omega
      · have := chars_range _ hds c hc; omega

theorem parseFloat_printNum (x : Num) (h : x.wf) : parseFloat (printNum x) = some x.value := by
  have hh := body_head x h
  obtain ⟨hip, hfp, hne, hexp⟩ := h
  have hval : x.value = .fin (decide (x.sign = some true)) (ofDigits (x.ip ++ x.frac.getD []))
      (expVal x.exp - ((x.frac.getD []).length : Int)) := by
    unfold Num.value expVal
    cases x.exp <;> rfl
  rw [hval]
  have hnc : (printNum x).contains 95 = false :=
    not_contains _ _ fun c hc => by have := printNum_chars x ⟨hip, hfp, hne, hexp⟩ c hc; omega
  have hs : splitSign (signStr x.sign ++ (chars x.ip ++ (fracPart x.frac ++ expPart x.exp))) =
      (decide (x.sign = some true), chars x.ip ++ (fracPart x.frac ++ expPart x.exp)) := by
    apply splitSign_signStr
    intro a ha
    have := hh a ha
    omega
  unfold parseFloat
  rw [hnc, printNum_eq]
  simp only [Bool.false_eq_true, if_false, hs]
  -- not one of the special words: the body starts with a digit or '.'
  generalize hb : chars x.ip ++ (fracPart x.frac ++ expPart x.exp) = body at *
  have hlow : ¬ (body.map lower = sInf ∨ body.map lower = sInfinity) ∧ ¬ (body.map lower = sNan) := by
    cases body with
    | nil => simp [sInf, sInfinity, sNan]
    | cons a r =>
      have ha := hh a rfl
      have hl : lower a = a := by unfold lower; rw [if_neg (by omega)]
      simp only [List.map_cons, hl, sInf, sInfinity, sNan, List.cons.injEq]
      omega
  rw [if_neg hlow.1, if_neg hlow.2, ← hb]
  exact parseDecBody_print _ x ⟨hip, hfp, hne, hexp⟩

end TD.C14
