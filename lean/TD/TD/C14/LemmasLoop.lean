/-
C14 — readlines, the key tables, and the line loop on printed files: declaration phase, header line, data rows,
transposition.
-/
import TD.C14.LemmasText
namespace TD.C14
open TD.C14.Spec

/-! ### readlines -/

theorem splitLinesAux_line (l r cur : Str) (hl : ∀ c ∈ l, c ≠ 10) :
    splitLinesAux (l ++ 10 :: r) cur = (cur.reverse ++ l) :: splitLinesAux r [] := by
  induction l generalizing cur with
  | nil => simp [splitLinesAux]
  | cons a l ih =>
    have ha : a ≠ 10 := hl a (by simp)
    rw [List.cons_append, splitLinesAux, if_neg ha, ih (a :: cur) (fun c hc => hl c (by simp [hc]))]
    simp

theorem splitLinesAux_last (l cur : Str) (hl : ∀ c ∈ l, c ≠ 10) (hne : l ≠ []) :
    splitLinesAux l cur = [cur.reverse ++ l] := by
  induction l generalizing cur with
  | nil => exact absurd rfl hne
  | cons a l ih =>
    have ha : a ≠ 10 := hl a (by simp)
    rw [splitLinesAux, if_neg ha]
    cases l with
    | nil => simp [splitLinesAux]
    | cons b l' =>
      rw [ih (a :: cur) (fun c hc => hl c (by simp [hc])) (by simp)]
      simp

/-- An empty last line that no newline ends is not a line for `readlines`. -/
theorem splitLines_joinLines' (ls : List Str) (fin : Bool) (h10 : ∀ l ∈ ls, ∀ c ∈ l, c ≠ 10)
    (hlast : fin = true ∨ ∀ l, ls.getLast? = some l → l ≠ []) : splitLines (joinLines ls fin) = ls := by
  unfold splitLines
  induction ls with
  | nil => rfl
  | cons l r ih =>
    have hl := h10 l (by simp)
    cases r with
    | nil =>
      cases fin
      · have hne : l ≠ [] := by
          rcases hlast with h | h
          · simp at h
          · exact h l rfl
        simpa [joinLines] using splitLinesAux_last l [] hl hne
      · simp only [joinLines, if_true]
        rw [splitLinesAux_line l [] [] hl]
        simp [splitLinesAux]
    | cons l2 r' =>
      have hj : joinLines (l :: l2 :: r') fin = l ++ 10 :: joinLines (l2 :: r') fin := rfl
      rw [hj, splitLinesAux_line l _ [] hl, ih (fun x hx => h10 x (by simp [hx])) ?_]
      · simp
      · rcases hlast with h | h
        · exact Or.inl h
        · right; intro x hx; exact h x (by simpa [List.getLast?_cons_cons] using hx)

theorem splitLines_joinLines_append (A : List Str) (b : Str) (t : List Str) (fin : Bool) (hA : ∀ l ∈ A, ∀ c ∈ l, c ≠ 10)
    (hB : ∀ l ∈ b :: t, ∀ c ∈ l, c ≠ 10) (hlast : fin = true ∨ ∀ l, (b :: t).getLast? = some l → l ≠ []) :
    splitLines (joinLines (A ++ b :: t) fin) = A ++ b :: t := by
  refine splitLines_joinLines' _ fin (fun l hl => (List.mem_append.mp hl).elim (hA l) (hB l)) ?_
  rw [List.getLast?_cons] at hlast
  rwa [List.getLast?_append, List.getLast?_cons, Option.some_or]

theorem splitLines_joinLines (ls : List Str) (fin : Bool) (h : ∀ l ∈ ls, l ≠ [] ∧ ∀ c ∈ l, c ≠ 10) :
    splitLines (joinLines ls fin) = ls :=
  splitLines_joinLines' ls fin (fun l hl => (h l hl).2) (Or.inr fun l hl => (h l (List.mem_of_getLast? hl)).1)

/-! ### the declaration dictionary -/

def entry (d : Decl) : Str × Str × Str := (d.name, joinSp d.words, d.units)

theorem lookup_none (D : List (Str × Str × Str)) (n : Str) (h : ∀ e ∈ D, e.1 ≠ n) : lookup D n = none := by
  induction D with
  | nil => rfl
  | cons e D ih =>
    obtain ⟨k, v⟩ := e
    have hk : k ≠ n := h (k, v) (by simp)
    rw [lookup, if_neg hk]
    exact ih (fun e he => h e (by simp [he]))

theorem lookup_mem (D : List (Str × Str × Str)) (e : Str × Str × Str) (hnd : (D.map (·.1)).Nodup) (he : e ∈ D) :
    lookup D e.1 = some e.2 := by
  induction D with
  | nil => simp at he
  | cons e0 D ih =>
    obtain ⟨k, v⟩ := e0
    rw [List.map_cons, List.nodup_cons] at hnd
    rw [lookup]
    by_cases hk : k = e.1
    · rw [if_pos hk]
      rcases List.mem_cons.mp he with h | h
      · rw [h]
      · exact absurd (List.mem_map.mpr ⟨e, h, hk.symm⟩) hnd.1
    · rw [if_neg hk]
      rcases List.mem_cons.mp he with h | h
      · rw [h] at hk; exact absurd rfl hk
      · exact ih hnd.2 h

/-! ### declaration lines -/

theorem declTokens_tok (d : Decl) (hd : d.wf) : ∀ t ∈ declTokens d, isTok t := by
  obtain ⟨hn, _, hwt, hu, _⟩ := hd
  intro t ht
  simp only [declTokens, List.mem_cons, List.mem_append, List.mem_nil_iff, or_false] at ht
  rcases ht with rfl | ht | rfl
  · exact isName_isTok hn
  · exact hwt t ht
  · exact hu

theorem splitWs_interleave (toks seps : List Str) (ht : ∀ t ∈ toks, isTok t) (hs : ∀ s ∈ seps, isSep s) :
    splitWs (interleave toks seps) = toks := by
  have := splitWs_line toks seps [] [] ht hs (by intro c hc; simp at hc) (by intro c hc; simp at hc)
  simpa using this

theorem scanHeader_decl (d : Decl) (seps : List Str) (hd : d.wf) (hs : ∀ s ∈ seps, isSep s) :
    scanHeader (interleave (declTokens d) seps) = false := by
  cases h : scanHeader (interleave (declTokens d) seps) with
  | false => rfl
  | true =>
    obtain ⟨rest, hr⟩ := scanHeader_tokens _ h
    rw [splitWs_interleave _ _ (declTokens_tok d hd) hs] at hr
    exact absurd (show d.headerLike from ⟨rest, by rw [hr]; rfl⟩) hd.2.2.2.2

theorem loop_decls (brk : Bool) (ds : List (Decl × LineLay)) (D : List (Str × Str × Str)) (rest : List Str)
    (hwf : ∀ d ∈ ds, d.1.wf ∧ d.2.wf) (hnd : (ds.map (fun d => d.1.name)).Nodup)
    (hdis : ∀ d ∈ ds, ∀ e ∈ D, e.1 ≠ d.1.name) :
    loop brk ⟨D, true, [], [], []⟩ (ds.map (fun d => printLine (declTokens d.1) d.2) ++ rest) =
      loop brk ⟨(ds.map (fun d => entry d.1)).reverse ++ D, true, [], [], []⟩ rest := by
  induction ds generalizing D with
  | nil => rfl
  | cons d ds ih =>
    obtain ⟨hdw, hlw⟩ := hwf d (by simp)
    rw [List.map_cons, List.nodup_cons] at hnd
    obtain ⟨g2, hsd, hg2⟩ := scanDecl_print d.1 d.2.seps hdw hlw.2.2
    rw [List.map_cons, List.cons_append, loop]
    simp only [List.length_nil, ne_eq, not_true_eq_false, if_false, if_true,
      prep_printLine (declTokens d.1) d.2 (by simp [declTokens]) (declTokens_tok d.1 hdw) hlw,
      scanHeader_decl d.1 d.2.seps hdw hlw.2.2, Bool.false_eq_true, hsd,
      lookup_none D d.1.name (hdis d (by simp)), Option.isSome_none, hg2]
    rw [show (d.1.name, joinSp d.1.words, d.1.units) = entry d.1 from rfl,
      ih (entry d.1 :: D) (fun x hx => hwf x (by simp [hx])) hnd.2 ?_]
    · simp [entry]
    · intro x hx e he
      rcases List.mem_cons.mp he with h | h
      · rw [h]
        intro heq
        exact hnd.1 (List.mem_map.mpr ⟨x, hx, heq.symm⟩)
      · exact hdis x (by simp [hx]) e h

/-! ### the key tables -/

theorem key_tables (n u : Str) : (convKind n u = .float ∧ isObjectDtype n u = false) ∨
    ((n = sUTIM ∨ n = sDATE ∨ n = sTIME) ∧ isObjectDtype n u = true) := by
  by_cases h1 : sUTIM = n ∧ sSec = u
  · obtain ⟨rfl, rfl⟩ := h1; exact Or.inr ⟨Or.inl rfl, by decide⟩
  by_cases h2 : sDATE = n ∧ sDdmmyy = u
  · obtain ⟨rfl, rfl⟩ := h2; exact Or.inr ⟨Or.inr (Or.inl rfl), by decide⟩
  by_cases h3 : sTIME = n ∧ sHhmmss = u
  · obtain ⟨rfl, rfl⟩ := h3; exact Or.inr ⟨Or.inr (Or.inr rfl), by decide⟩
  -- the generated tables spell the keys out as code points
  simp only [sUTIM, sSec, sDATE, sDdmmyy, sTIME, sHhmmss] at h1 h2 h3
  have key : ∀ {a b : Str}, ¬ (a = n ∧ b = u) → (decide (a = n) && decide (b = u)) = false := fun h => by simpa using h
  exact Or.inl ⟨by simp [convKind, TD.Gen.C14.conversionMap, List.find?, key h1, key h2, key h3],
    by simp [isObjectDtype, TD.Gen.C14.typeMap, List.find?, key h1, key h2, key h3]⟩

theorem convKind_float (n u : Str) (h1 : n ≠ sUTIM) (h2 : n ≠ sDATE) (h3 : n ≠ sTIME) :
    convKind n u = .float ∧ isObjectDtype n u = false :=
  (key_tables n u).resolve_right fun h => h.1.elim h1 fun h => h.elim h2 h3

/-! ### header line -/

theorem headerTokens_tok (sel : List Str) (ht : ∀ t ∈ sel, isTok t) : ∀ t ∈ headerTokens sel, isTok t := by
  intro t h
  simp only [headerTokens, List.mem_cons] at h
  rcases h with rfl | rfl | rfl | h
  · exact sUTIM_tok
  · exact sDATE_tok
  · exact sTIME_tok
  · exact ht t h

theorem addChannels_ok (D : List (Str × Str × Str)) (mk : Str → Chan) (ns : List Str) (chans : List Chan)
    (table : List (List Str))
    (hmk : ∀ n ∈ ns, ∃ desc units, lookup D n = some (desc, units) ∧ mk n = ⟨n, desc, units, isObjectDtype n units⟩)
    (hnd : ns.Nodup) (hdis : ∀ n ∈ ns, ∀ c ∈ chans, c.name ≠ n) :
    addChannels D ns chans table = .ok (chans ++ ns.map mk, table ++ List.replicate ns.length []) := by
  induction ns generalizing chans table with
  | nil => simp [addChannels]
  | cons n ns ih =>
    obtain ⟨desc, units, hl, hm⟩ := hmk n (by simp)
    rw [List.nodup_cons] at hnd
    have hany : chans.any (fun c => decide (c.name = n)) = false := by
      rw [List.any_eq_false]
      intro c hc
      simpa using hdis n (by simp) c hc
    rw [addChannels, hl]
    simp only [hany, Bool.false_eq_true, if_false]
    rw [ih _ _ (fun x hx => hmk x (by simp [hx])) hnd.2 ?_]
    · simp [hm, List.replicate_succ]
    · intro x hx c hc
      rcases List.mem_append.mp hc with h | h
      · exact hdis x (by simp [hx]) c h
      · simp only [List.mem_singleton] at h
        rw [h]
        intro heq
        have hnx : n = x := heq
        exact hnd.1 (hnx ▸ hx)

theorem loop_header (brk : Bool) (D : List (Str × Str × Str)) (sel : List Str) (lay : LineLay) (rest : List Str)
    (hne : sel ≠ []) (ht : ∀ t ∈ sel, isTok t) (hl : lay.wf) :
    loop brk ⟨D, true, [], [], []⟩ (printLine (headerTokens sel) lay :: rest) =
      match addChannels D (headerTokens sel) [] [] with
      | .error e => .error e
      | .ok (chans, table) => loop brk ⟨D, false, headerTokens sel, chans, table⟩ rest := by
  rw [loop]
  simp only [List.length_nil, ne_eq, not_true_eq_false, if_false, if_true,
    prep_printLine (headerTokens sel) lay (by simp [headerTokens]) (headerTokens_tok sel ht) hl,
    scanHeader_print sel lay.seps hne ht hl.2.2, splitWs_interleave _ _ (headerTokens_tok sel ht) hl.2.2]
  rfl

/-! ### data rows -/

theorem appendRow_length (table : List (List Str)) (vals : List Str) (h : vals.length = table.length) :
    (appendRow table vals).length = table.length := by
  simp [appendRow, h]

theorem loop_data (D : List (Str × Str × Str)) (defined : List Str) (chans : List Chan) (hlen : defined.length = chans.length)
    (n : Nat) (lines : List Str) (table : List (List Str)) (rest : List Str) (hT : table.length = n)
    (h : ∀ l ∈ lines, (splitWs (prep l)).length = n) :
    loop false ⟨D, false, defined, chans, table⟩ (lines ++ rest) =
      loop false ⟨D, false, defined, chans, (lines.map (fun l => splitWs (prep l))).foldl appendRow table⟩ rest := by
  induction lines generalizing table with
  | nil => rfl
  | cons l ls ih =>
    have hl := h l (by simp)
    rw [List.cons_append, loop]
    simp only [hlen, ne_eq, not_true_eq_false, if_false, Bool.false_eq_true, hl, hT]
    exact ih _ (by rw [appendRow_length table _ (by omega)]; exact hT) (fun x hx => h x (by simp [hx]))

/-! ### transposition -/

theorem columns_length {α : Type} (d : α) (n : Nat) (rows : List (List α)) : (columns d n rows).length = n := by
  induction n generalizing rows with
  | zero => rfl
  | succ n ih => simp [columns, ih]

theorem columns_nil (n : Nat) : columns ([] : Str) n [] = List.replicate n [] := by
  induction n with
  | zero => rfl
  | succ n ih => simp only [columns, List.map_nil, ih, List.replicate_succ]

theorem columns_snoc (n : Nat) (rows : List (List Str)) (r : List Str) (hr : r.length = n) :
    columns [] n (rows ++ [r]) = appendRow (columns [] n rows) r := by
  induction n generalizing rows r with
  | zero => rfl
  | succ n ih =>
    cases r with
    | nil => simp at hr
    | cons a r =>
      simp only [columns, List.map_append, List.map_cons, List.map_nil, List.headD_cons, List.tail_cons, appendRow,
        List.zipWith_cons_cons]
      rw [ih _ r (by simpa using hr)]
      rfl

theorem foldl_appendRow (n : Nat) (pre rows : List (List Str)) (hr : ∀ r ∈ rows, r.length = n) :
    rows.foldl appendRow (columns [] n pre) = columns [] n (pre ++ rows) := by
  induction rows generalizing pre with
  | nil => rw [List.append_nil]; rfl
  | cons r rows ih =>
    rw [List.foldl_cons, ← columns_snoc n pre r (hr r (by simp)), ih _ (fun x hx => hr x (by simp [hx])),
      List.append_assoc]
    rfl

end TD.C14
