/-
C14 — property theorems: DAT mud-log files parse to their declared channels and values; mismatching files are
rejected with a DAT error.

Model: `TD.C14.parseFile` / `canParseFile` (Model.lean, a line-for-line model of `DAT_parser._parse_file`).
Specification: `TD.C14.Spec` — content (`File` minus its layout fields), printer `print`, required result `expected`.
-/
import TD.C14.LemmasFile
import TD.C14.LemmasReject
namespace TD.C14
open TD.C14.Spec

/-- The literals in `DAT_parser.py` (regenerated into `TD.Gen.C14` on every run) are the ones the hand-written
scanners and conversion functions of `Model.lean` were written for. A changed regular expression, month list,
strptime format, year pivot or key table makes this fail to check. -/
theorem gen_tables_as_modelled :
    TD.Gen.C14.reChannelDefinition = "^([A-Z0-9]+)\\s(.+?)\\s(\\S+)$" ∧
    TD.Gen.C14.reDataHeaderDefinition = "^UTIM\\s+DATE\\s+TIME\\s+.+$" ∧
    TD.Gen.C14.reDateStyleA = "^(\\d+)(Jan|Feb|Mar|Apr|May|Jun|Jul|Aug|Sep|Oct|Nov|Dec)(\\d+)$" ∧
    TD.Gen.C14.reDateStyleB = "^(\\d+)-(Jan|Feb|Mar|Apr|May|Jun|Jul|Aug|Sep|Oct|Nov|Dec)-(\\d+)$" ∧
    TD.Gen.C14.timeFormat = "%H-%M-%S" ∧
    TD.Gen.C14.yearPivotTest = "yr > 50" ∧
    TD.Gen.C14.monthNames = monthNames ∧
    TD.Gen.C14.conversionMap =
      [(sUTIM, sSec, "_unit_unix_time_to_datetime_datetime"), (sDATE, sDdmmyy, "_unit_ddmmyy_to_datetime_date"),
       (sTIME, sHhmmss, "_unit_hhmmyy_to_datetime_time")] ∧
    TD.Gen.C14.typeMap = [(sUTIM, sSec, "object"), (sDATE, sDdmmyy, "object"), (sTIME, sHhmmss, "object")] :=
  ⟨rfl, rfl, rfl, rfl, rfl, rfl, rfl, rfl, rfl⟩

/-! ### a concrete file used by the `example`s -/

def sp : Str := [32]
def exA : Str := [65, 49]                      -- "A1"

/-- declarations out of order with tabs, header `UTIM DATE TIME A1`, two rows in both date spellings -/
def exFile : File :=
  { decls := [(⟨exA, [[66, 105, 116], [68, 105, 97]], [105, 110]⟩, { seps := [[9], [32, 32]] }),
              (⟨sTIME, [[84]], sHhmmss⟩, { lead := [32], trail := [32, 13] }),
              (⟨sUTIM, [[85, 110, 105, 120], [84, 105, 109, 101]], sSec⟩, {}),
              (⟨sDATE, [[68]], sDdmmyy⟩, { seps := [[9, 9]] })],
    sel := [exA],
    hdrLay := { seps := [[9]], trail := [32] },
    rows := [(⟨⟨2006, 12, 9, 11, 50, 17⟩, ⟨2006, 12, 9⟩, ⟨11, 50, 17⟩, [⟨none, [8], some [5, 0], none⟩]⟩, {}, {}),
             (⟨⟨2000, 2, 29, 23, 59, 59⟩, ⟨1951, 1, 5⟩, ⟨0, 5, 9⟩, [⟨some true, [], some [2, 5], some (true, some false, [0, 3])⟩]⟩,
              { seps := [[9]] }, { dash := true, dayZeros := 1, hPad := false, sPad := false })],
    finalNewline := false }

theorem exFile_wf : exFile.wf := by
  refine ⟨?_, by decide, ⟨_, List.mem_cons_of_mem _ (List.mem_cons_of_mem _ (List.mem_cons_self)), rfl, rfl⟩,
    ⟨_, List.mem_cons_of_mem _ (List.mem_cons_of_mem _ (List.mem_cons_of_mem _ (List.mem_cons_self))), rfl, rfl⟩,
    ⟨_, List.mem_cons_of_mem _ (List.mem_cons_self), rfl, rfl⟩, by decide, by decide, by decide, by decide, ?_⟩
  · intro d hd
    simp only [exFile, List.mem_cons, List.mem_nil_iff, or_false] at hd
    rcases hd with rfl | rfl | rfl | rfl <;> exact ⟨⟨by decide, by decide, by decide, by decide, by decide⟩, by decide⟩
  · intro r hr
    simp only [exFile, List.mem_cons, List.mem_nil_iff, or_false] at hr
    rcases hr with rfl | rfl
    · refine ⟨⟨by decide, by decide, by decide, by decide, by decide, by decide, by decide, by decide, by decide, by decide,
        rfl, ?_⟩, by decide⟩
      intro x hx
      simp only [List.mem_cons, List.mem_nil_iff, or_false] at hx
      subst hx
      exact ⟨by decide, by decide, by decide, by intro e he; cases he⟩
    · refine ⟨⟨by decide, by decide, by decide, by decide, by decide, by decide, by decide, by decide, by decide, by decide,
        rfl, ?_⟩, by decide⟩
      intro x hx
      simp only [List.mem_cons, List.mem_nil_iff, or_false] at hx
      subst hx
      exact ⟨by decide, by decide, by decide, by intro e he; cases he; exact ⟨by decide, by decide⟩⟩

/-! ### parse ∘ print -/

/-- **DAT files parse to their declared channels and values.** For every content (declarations in any order, a header
`UTIM DATE TIME` + a non-empty list of distinct other declared channels, any number of rows with valid date/times in
either date spelling and decimal numbers) and every layout (any blank characters — space, tab, VT, FF, CR — around and
between the tokens of each line, optional final newline, 1- or 2-digit fields, leading zeros): the parser returns one
channel per header name, in header order, with the description (words joined by single spaces) and units of its
declaration, object dtype for the three leading columns, and the exact values, one frame per data line.
`expected f` is computed from the content parts of `f` only (`d.1`, `r.1`, `f.sel`), so the result does not depend on
the layout (`dat_layout_independent`). -/
theorem dat_parse_print (f : File) (h : f.wf) : parseFile (print f) = .ok (expected f) :=
  parse_print f h

example : parseFile (print exFile) = .ok (expected exFile) := dat_parse_print exFile exFile_wf

/-- the content of a file: everything but the layout -/
def content (f : File) : List Decl × List Str × List Row := (f.decls.map (·.1), f.sel, f.rows.map (·.1))

theorem chanOf_content (f g : File) (h : f.decls.map (·.1) = g.decls.map (·.1)) (n : Str) : chanOf f n = chanOf g n := by
  have hf : ∀ (ds : List (Decl × LineLay)),
      (ds.find? (fun d => decide (d.1.name = n))).map (·.1) = (ds.map (·.1)).find? (fun d => decide (d.name = n)) := by
    intro ds
    induction ds with
    | nil => rfl
    | cons d ds ih =>
      simp only [List.find?_cons, List.map_cons]
      split <;> simp_all
  have e := hf f.decls
  rw [h, ← hf g.decls] at e
  unfold chanOf
  cases h1 : f.decls.find? (fun d => decide (d.1.name = n)) <;>
    cases h2 : g.decls.find? (fun d => decide (d.1.name = n)) <;> rw [h1, h2] at e <;> simp at e
  all_goals first | rfl | (simp only []; rw [e])

/-- two well-formed files with the same content parse to the same result whatever their layouts -/
theorem dat_layout_independent (f g : File) (hf : f.wf) (hg : g.wf) (hc : content f = content g) :
    parseFile (print f) = parseFile (print g) := by
  rw [dat_parse_print f hf, dat_parse_print g hg]
  simp only [content, Prod.mk.injEq] at hc
  obtain ⟨h1, h2, h3⟩ := hc
  unfold expected
  have hr : f.rows.map (fun r => cellValues r.1) = g.rows.map (fun r => cellValues r.1) := by
    have := congrArg (List.map cellValues) h3
    simpa [List.map_map, Function.comp_def] using this
  have hch : chanOf f = chanOf g := funext (chanOf_content f g h1)
  rw [hr, h2, hch]

/-! ### rejection -/

/-- **Every failure is a DAT error**: whatever the text, the parser either returns channels or raises
`ExceptionDATRead` — never an assertion failure, a `TypeError` or anything else (in the model). -/
theorem errors_are_dat (text : Str) (e : Err) (h : parseFile text = .error e) : e = .dat :=
  parseLines_err false _ e h

/-- `can_parse_file` never lets an exception escape -/
theorem can_parse_never_raises (text : Str) : ∃ b, canParseFile text = .ok b := by
  unfold canParseFile
  cases h : parseLines true (splitLines text) with
  | ok r => exact ⟨_, rfl⟩
  | error e =>
    have := parseLines_err true _ e h
    subst this
    exact ⟨false, rfl⟩

example : parseFile [65, 10, 66] = .error .dat := by decide

/-- **A data line that does not match the header is rejected.** After any well-formed declaration section, header and
data lines, a line whose number of whitespace-separated words (after stripping and removal of non-printable
characters) differs from the number of header names makes the whole file a DAT error — whatever follows it
(`tail`), including when the offending line is empty. -/
theorem row_width_mismatch_rejected (f : File) (hf : f.wf) (bad : Str) (tail : List Str) (fin : Bool)
    (hbad : (splitWs (prep bad)).length ≠ 3 + f.sel.length)
    (h10 : ∀ l ∈ bad :: tail, ∀ c ∈ l, c ≠ 10)
    (hlast : fin = true ∨ ∀ l, (bad :: tail).getLast? = some l → l ≠ []) :
    parseFile (joinLines (f.lines ++ bad :: tail) fin) = .error .dat := by
  unfold parseFile
  rw [splitLines_joinLines_append _ _ _ fin (fun l h => (lines_ok f hf l h).2) h10 hlast]
  exact row_width_lines f hf bad tail hbad

/-- a row with a column dropped, and an empty line, after `exFile` -/
example : parseFile (joinLines (exFile.lines ++ [[49, 32, 57, 68, 101, 99, 48, 54, 32, 49, 45, 50, 45, 51]]) true) = .error .dat :=
  row_width_mismatch_rejected exFile exFile_wf _ [] true (by decide) (by decide) (Or.inl rfl)

example : parseFile (joinLines (exFile.lines ++ [[], [49]]) false) = .error .dat :=
  row_width_mismatch_rejected exFile exFile_wf [] [[49]] false (by decide) (by decide) (Or.inr (by decide))

/-- **A header that names an undeclared channel is rejected.** After any well-formed declaration section (distinct
names), a header line `UTIM DATE TIME …` in any layout one of whose names has no declaration makes the file a DAT
error, whatever follows. (This includes a missing declaration of UTIM, DATE or TIME themselves.) -/
theorem undeclared_channel_rejected (decls : List (Decl × LineLay)) (sel : List Str) (lay : LineLay) (tail : List Str)
    (fin : Bool)
    (hd : ∀ d ∈ decls, d.1.wf ∧ d.2.wf) (hnd : (decls.map (fun d => d.1.name)).Nodup)
    (hne : sel ≠ []) (ht : ∀ t ∈ sel, isTok t) (hl : lay.wf)
    (hun : ∃ n ∈ headerTokens sel, n ∉ decls.map (fun d => d.1.name))
    (h10 : ∀ l ∈ tail, ∀ c ∈ l, c ≠ 10)
    (hlast : fin = true ∨ ∀ l, tail.getLast? = some l → l ≠ []) :
    parseFile (joinLines (decls.map (fun d => printLine (declTokens d.1) d.2) ++
      printLine (headerTokens sel) lay :: tail) fin) = .error .dat := by
  have hhdr := printLine_ok (headerTokens sel) lay (by simp [headerTokens]) (headerTokens_tok sel ht) hl
  unfold parseFile
  rw [splitLines_joinLines_append _ _ tail fin ?_ ?_ ?_]
  · exact undeclared_lines false decls sel lay tail hd hnd hne ht hl hun
  · intro l h
    obtain ⟨d, hdm, rfl⟩ := List.mem_map.mp h
    exact (printLine_ok _ _ (by simp [declTokens]) (declTokens_tok d.1 (hd d hdm).1) (hd d hdm).2).2
  · intro l h
    rcases List.mem_cons.mp h with rfl | h'
    · exact hhdr.2
    · exact h10 l h'
  · refine hlast.imp id fun h l hl => ?_
    cases tail with
    | nil => cases hl; exact hhdr.1
    | cons t ts => exact h l (by rwa [List.getLast?_cons_cons] at hl)

/-- the header of `exFile` with `B2` (not declared) instead of `A1` -/
example : parseFile (joinLines (exFile.decls.map (fun d => printLine (declTokens d.1) d.2) ++
    [printLine (headerTokens [[66, 50]]) {}]) true) = .error .dat :=
  undeclared_channel_rejected exFile.decls [[66, 50]] {} [] true (fun d hd => exFile_wf.1 d hd) exFile_wf.2.1
    (by decide) (by decide) (by decide) ⟨[66, 50], by decide, by decide⟩ (by decide) (Or.inl rfl)

/-- **A token that is not a number under a numeric channel is rejected.** For every text: if the line scanner
completes and has put, in the column of a channel whose conversion is `float` (any channel other than
(UTIM, sec), (DATE, ddmmyy), (TIME, hhmmss)), a token that `float()` refuses, the result is a DAT error — never a
value. (Stated on the scanner's final state, so it covers every file and layout, not only printed ones; for printed
files `loop_file` says what that state is: the header's channels and the transposed token table.) -/
theorem bad_number_rejected (text : Str) (st : St) (hloop : loop false {} (splitLines text) = .ok st)
    (c : Chan) (col : List Str) (tok : Str) (hmem : (c, col) ∈ st.chans.zip st.table)
    (hk : convKind c.name c.units = .float) (htok : tok ∈ col) (hbad : parseFloat tok = none) :
    parseFile text = .error .dat :=
  bad_number_lines false _ st hloop c col tok hmem hk htok hbad

/-- `exFile` followed by the row `1 9Dec06 1-2-3 12x4` -/
example : parseFile (joinLines (exFile.lines ++ [[49, 32, 57, 68, 101, 99, 48, 54, 32, 49, 45, 50, 45, 51, 32, 49, 50, 120, 52]]) true)
    = .error .dat := by decide +kernel

end TD.C14
