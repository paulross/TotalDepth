/-
C14 — assembling the pieces: a printed file parses to `expected`.
-/
import TD.C14.LemmasLoop
import TD.C14.LemmasDT
namespace TD.C14
open TD.C14.Spec

/-! ### printed cells are tokens -/

theorem printNat_tok (n : Nat) : isTok (printNat n) :=
  ⟨by rw [printNat, Ne, chars_eq_nil]; exact natDigits_ne_nil n,
    fun c hc => by have := chars_range _ (natDigits_lt n) c hc; omega⟩

theorem printInt_tok (n : Int) : isTok (printInt n) := by
  unfold printInt
  split
  · simp [isTok_iff, tokChars_cons, (isTok_iff.mp (printNat_tok _)).2]
  · exact printNat_tok _

theorem printDate_tok (c : CellLay) (d : Date) (h1 : 1 ≤ d.mo) (h12 : d.mo ≤ 12) : isTok (printDate c d) := by
  refine ⟨?_, fun x hx => ?_⟩
  · rw [printDate_eq]
    intro hnil
    simp only [List.append_eq_nil_iff, chars_eq_nil] at hnil
    exact natDigits_ne_nil _ hnil.1.2
  · rcases printDate_chars c d h1 h12 x hx with h | h | h <;> omega

theorem two_tok (pad : Bool) (n : Nat) (h : n < 60) : isTok (two pad n) := by
  rcases two_cases pad n with ⟨q, r, hr, rfl, h2⟩ | ⟨hlt, h1⟩
  · rw [h2]; simp [isTok_iff, tokChars_cons, tokChars_nil]; omega
  · rw [h1]; simp [isTok_iff, tokChars_cons, tokChars_nil]; omega

theorem printTime_tok (c : CellLay) (t : Time) (hh : t.h < 24) (hm : t.mi < 60) (hs : t.s < 60) : isTok (printTime c t) := by
  have h1 := isTok_iff.mp (two_tok c.hPad t.h (by omega))
  have h2 := isTok_iff.mp (two_tok c.mPad t.mi hm)
  have h3 := isTok_iff.mp (two_tok c.sPad t.s hs)
  simp [isTok_iff, printTime, tokChars_append, tokChars_cons, h1, h2, h3]

theorem printNum_tok (x : Num) (h : x.wf) : isTok (printNum x) := by
  refine ⟨?_, fun c hc => by have := printNum_chars x h c hc; omega⟩
  obtain ⟨_, _, hne, _⟩ := h
  rw [printNum_eq]
  intro hnil
  simp only [List.append_eq_nil_iff, chars_eq_nil] at hnil
  rcases hne with h | h
  · exact h hnil.2.1
  · cases hf : x.frac with
    | none => rw [hf] at h; simp at h
    | some fp => rw [hf] at hnil; simp [fracPart] at hnil

theorem rowTokens_tok (k : Nat) (r : Row) (c : CellLay) (hr : r.wf k) : ∀ t ∈ rowTokens r c, isTok t := by
  obtain ⟨_, _, _, _, hvd, _, _, hh, hm, hs, _, hn⟩ := hr
  intro t ht
  simp only [rowTokens, List.mem_cons, List.mem_map] at ht
  rcases ht with rfl | rfl | rfl | ⟨x, hx, rfl⟩
  · exact printInt_tok _
  · exact printDate_tok c r.date hvd.2.2.1 hvd.2.2.2.1
  · exact printTime_tok c r.time hh hm hs
  · exact printNum_tok x (hn x hx)

/-! ### conversion of the transposed table -/

/-- every cell of a row converts, with its channel's conversion, to the given value -/
def rowOK : List Chan → List Str → List Value → Prop
  | [], [], [] => True
  | c :: cs, t :: ts, v :: vs => convertCell c t = .ok v ∧ rowOK cs ts vs
  | _, _, _ => False

theorem rowOK_cons {c : Chan} {cs : List Chan} {ts : List Str} {vs : List Value} (h : rowOK (c :: cs) ts vs) :
    convertCell c (ts.headD []) = .ok (vs.headD (.float .nan)) ∧ rowOK cs ts.tail vs.tail := by
  cases ts with
  | nil => simp [rowOK] at h
  | cons t ts =>
    cases vs with
    | nil => simp [rowOK] at h
    | cons v vs => exact h

theorem convertColumn_map {α : Type} (c : Chan) (rows : List α) (a : α → Str) (b : α → Value)
    (h : ∀ r ∈ rows, convertCell c (a r) = .ok (b r)) : convertColumn c (rows.map a) = .ok (rows.map b) := by
  induction rows with
  | nil => rfl
  | cons r rows ih => simp only [List.map_cons, convertColumn, h r (by simp), ih fun x hx => h x (by simp [hx])]

theorem convertAll_columns {α : Type} (chans : List Chan) (rows : List α) (g : α → List Str) (t : α → List Value)
    (h : ∀ r ∈ rows, rowOK chans (g r) (t r)) :
    convertAll chans (columns [] chans.length (rows.map g)) =
      .ok (chans.zip (columns (.float .nan) chans.length (rows.map t))) := by
  induction chans generalizing g t with
  | nil => simp [columns, convertAll]
  | cons c cs ih =>
    simp only [List.length_cons, columns, List.map_map, Function.comp_def, convertAll,
      convertColumn_map c rows _ _ fun r hr => (rowOK_cons (h r hr)).1,
      ih _ _ fun r hr => (rowOK_cons (h r hr)).2, List.zip_cons_cons]

/-! ### the channels of a well-formed file -/

theorem find_nodup (ds : List (Decl × LineLay)) (d : Decl × LineLay) (hnd : (ds.map (fun x => x.1.name)).Nodup)
    (hd : d ∈ ds) : ds.find? (fun x => decide (x.1.name = d.1.name)) = some d := by
  induction ds with
  | nil => simp at hd
  | cons e ds ih =>
    rw [List.map_cons, List.nodup_cons] at hnd
    rw [List.find?_cons]
    by_cases he : e.1.name = d.1.name
    · simp only [he, decide_true]
      rcases List.mem_cons.mp hd with h | h
      · rw [h]
      · exact absurd (List.mem_map.mpr ⟨d, h, he.symm⟩) hnd.1
    · simp only [he, decide_false]
      rcases List.mem_cons.mp hd with h | h
      · rw [h] at he; exact absurd rfl he
      · exact ih hnd.2 h

/-- numbers under float channels -/
theorem rowOK_nums (cs : List Chan) (nums : List Num) (hlen : nums.length = cs.length)
    (hc : ∀ c ∈ cs, c.name ≠ sUTIM ∧ c.name ≠ sDATE ∧ c.name ≠ sTIME) (hn : ∀ x ∈ nums, x.wf) :
    rowOK cs (nums.map printNum) (nums.map (fun x => .float x.value)) := by
  induction cs generalizing nums with
  | nil =>
    have : nums = [] := List.length_eq_zero_iff.mp hlen
    subst this; simp [rowOK]
  | cons c cs ih =>
    cases nums with
    | nil => simp at hlen
    | cons x xs =>
      simp only [List.length_cons, Nat.add_right_cancel_iff] at hlen
      obtain ⟨c1, c2, c3⟩ := hc c (by simp)
      refine ⟨?_, ih xs hlen (fun c' h => hc c' (by simp [h])) (fun y hy => hn y (by simp [hy]))⟩
      simp [convertCell, (convKind_float c.name c.units c1 c2 c3).1, convert, parseFloat_printNum x (hn x (by simp))]

theorem chanOf_name (f : File) (n : Str) : (chanOf f n).name = n := by
  unfold chanOf; split <;> rfl

/-- the dictionary after the declaration section; `++ []` as `loop_decls` leaves it (matched with `show`, also in C20) -/
def dictOf (f : File) : List (Str × Str × Str) := (f.decls.map (fun d => entry d.1)).reverse ++ []

theorem dict_lookup (f : File) (hnd : (names f).Nodup) (d : Decl × LineLay) (hd : d ∈ f.decls) :
    lookup (dictOf f) d.1.name = some (joinSp d.1.words, d.1.units) := by
  have hk : ((dictOf f).map (·.1)).Nodup := by
    unfold dictOf
    rw [List.append_nil, List.map_reverse, List.map_map, List.Nodup, List.pairwise_reverse]
    exact hnd.imp (fun h => fun e => h e.symm)
  have hm : entry d.1 ∈ dictOf f := by
    unfold dictOf
    rw [List.append_nil, List.mem_reverse]
    exact List.mem_map.mpr ⟨d, hd, rfl⟩
  exact lookup_mem (dictOf f) (entry d.1) hk hm

theorem chanOf_decl (f : File) (hnd : (names f).Nodup) (d : Decl × LineLay) (hd : d ∈ f.decls) :
    chanOf f d.1.name = ⟨d.1.name, joinSp d.1.words, d.1.units,
      decide (d.1.name = sUTIM ∨ d.1.name = sDATE ∨ d.1.name = sTIME)⟩ := by
  unfold chanOf
  rw [find_nodup f.decls d hnd hd]

/-- what the header loop needs to know about every header name -/
theorem hdr_mk (f : File) (hwf : f.wf) : ∀ n ∈ headerTokens f.sel, ∃ desc units,
    lookup (dictOf f) n = some (desc, units) ∧ chanOf f n = ⟨n, desc, units, isObjectDtype n units⟩ := by
  obtain ⟨_, hnd, ⟨dU, hdU, hUn, hUu⟩, ⟨dD, hdD, hDn, hDu⟩, ⟨dT, hdT, hTn, hTu⟩, _, _, hsel, _, _⟩ := hwf
  intro n hn
  simp only [headerTokens, List.mem_cons] at hn
  rcases hn with rfl | rfl | rfl | hn
  · refine ⟨joinSp dU.1.words, sSec, ?_, ?_⟩
    · rw [← hUn, ← hUu]; exact dict_lookup f hnd dU hdU
    · rw [← hUn, chanOf_decl f hnd dU hdU, hUn, hUu]; rfl
  · refine ⟨joinSp dD.1.words, sDdmmyy, ?_, ?_⟩
    · rw [← hDn, ← hDu]; exact dict_lookup f hnd dD hdD
    · rw [← hDn, chanOf_decl f hnd dD hdD, hDn, hDu]; rfl
  · refine ⟨joinSp dT.1.words, sHhmmss, ?_, ?_⟩
    · rw [← hTn, ← hTu]; exact dict_lookup f hnd dT hdT
    · rw [← hTn, chanOf_decl f hnd dT hdT, hTn, hTu]; rfl
  · obtain ⟨hin, h1, h2, h3⟩ := hsel n hn
    obtain ⟨d, hd, hdn⟩ := List.mem_map.mp hin
    refine ⟨joinSp d.1.words, d.1.units, ?_, ?_⟩
    · rw [← hdn]; exact dict_lookup f hnd d hd
    · rw [← hdn, chanOf_decl f hnd d hd, hdn, (convKind_float n _ h1 h2 h3).2]
      simp [h1, h2, h3]

theorem chanOf_special (f : File) (hwf : f.wf) :
    (∃ desc, chanOf f sUTIM = ⟨sUTIM, desc, sSec, true⟩) ∧ (∃ desc, chanOf f sDATE = ⟨sDATE, desc, sDdmmyy, true⟩) ∧
    (∃ desc, chanOf f sTIME = ⟨sTIME, desc, sHhmmss, true⟩) := by
  obtain ⟨_, hnd, ⟨dU, hdU, hUn, hUu⟩, ⟨dD, hdD, hDn, hDu⟩, ⟨dT, hdT, hTn, hTu⟩, _⟩ := hwf
  refine ⟨⟨joinSp dU.1.words, ?_⟩, ⟨joinSp dD.1.words, ?_⟩, ⟨joinSp dT.1.words, ?_⟩⟩
  · rw [← hUn, chanOf_decl f hnd dU hdU, hUn, hUu]; rfl
  · rw [← hDn, chanOf_decl f hnd dD hdD, hDn, hDu]; rfl
  · rw [← hTn, chanOf_decl f hnd dT hdT, hTn, hTu]; rfl

theorem hdr_nodup (f : File) (hwf : f.wf) : (headerTokens f.sel).Nodup := by
  obtain ⟨_, _, _, _, _, _, hnd, hsel, _⟩ := hwf
  have hU : sUTIM ∉ f.sel := fun h => (hsel _ h).2.1 rfl
  have hD : sDATE ∉ f.sel := fun h => (hsel _ h).2.2.1 rfl
  have hT : sTIME ∉ f.sel := fun h => (hsel _ h).2.2.2 rfl
  have e1 : sUTIM ≠ sDATE := by decide
  have e2 : sUTIM ≠ sTIME := by decide
  have e3 : sDATE ≠ sTIME := by decide
  simp [headerTokens, List.nodup_cons, hU, hD, hT, e1, e2, e3, hnd]

/-- every data row converts under the file's channels -/
theorem rowOK_print (f : File) (hwf : f.wf) (r : Row) (c : CellLay) (hr : r.wf f.sel.length) :
    rowOK ((headerTokens f.sel).map (chanOf f)) (rowTokens r c) (cellValues r) := by
  obtain ⟨⟨dU, hcU⟩, ⟨dD, hcD⟩, ⟨dT, hcT⟩⟩ := chanOf_special f hwf
  obtain ⟨_, _, _, _, _, _, _, hsel, _⟩ := hwf
  obtain ⟨hv1, hh1, hm1, hs1, hv2, hlo, hhi, hh3, hm3, hs3, hlen, hn⟩ := hr
  simp only [headerTokens, List.map_cons, rowTokens, cellValues, rowOK]
  refine ⟨?_, ?_, ?_, ?_⟩
  · rw [hcU]
    have : convKind sUTIM sSec = .utim := by decide
    simp only [convertCell, this, convert, convUtim_print r.utim hv1 hh1 hm1 hs1, if_true]
  · rw [hcD]
    have : convKind sDATE sDdmmyy = .date := by decide
    simp only [convertCell, this, convert, convDate_print c r.date hv2 hlo hhi, if_true]
  · rw [hcT]
    have : convKind sTIME sHhmmss = .time := by decide
    simp only [convertCell, this, convert, convTime_print c r.time hh3 hm3 hs3, if_true]
  · apply rowOK_nums _ _ (by simp [hlen]) _ hn
    intro ch hch
    obtain ⟨n, hn', rfl⟩ := List.mem_map.mp hch
    rw [chanOf_name]
    exact (hsel n hn').2

/-! ### the whole file -/

theorem printLine_ok (toks : List Str) (lay : LineLay) (hne : toks ≠ []) (ht : ∀ t ∈ toks, isTok t) (hl : lay.wf) :
    printLine toks lay ≠ [] ∧ ∀ c ∈ printLine toks lay, c ≠ 10 := by
  obtain ⟨hlead, htrail, hseps⟩ := hl
  cases toks with
  | nil => exact absurd rfl hne
  | cons t ts =>
    obtain ⟨a, X, hB, _⟩ := interleave_head t ts lay.seps (ht t (by simp))
    refine ⟨by simp [printLine, hB], ?_⟩
    intro c hc
    simp only [printLine, List.mem_append] at hc
    rcases hc with (hc | hc) | hc
    · rcases hlead c hc with h | h | h | h | h <;> omega
    · rcases interleave_chars (t :: ts) lay.seps ht hseps c hc with h | h
      · omega
      · rcases h with h | h | h | h | h <;> omega
    · rcases htrail c hc with h | h | h | h | h <;> omega

theorem sel_tok (f : File) (hwf : f.wf) : ∀ t ∈ f.sel, isTok t := by
  obtain ⟨hd, _, _, _, _, _, _, hsel, _⟩ := hwf
  intro t ht
  obtain ⟨d, hdm, hdn⟩ := List.mem_map.mp (hsel t ht).1
  rw [← hdn]
  exact isName_isTok (hd d hdm).1.1

theorem lines_ok (f : File) (hwf : f.wf) : ∀ l ∈ f.lines, l ≠ [] ∧ ∀ c ∈ l, c ≠ 10 := by
  have hst := sel_tok f hwf
  obtain ⟨hd, _, _, _, _, hne, _, _, hhl, hrows⟩ := hwf
  intro l hl
  simp only [File.lines, List.mem_append, List.mem_cons, List.mem_map] at hl
  rcases hl with ⟨d, hdm, rfl⟩ | rfl | ⟨r, hrm, rfl⟩
  · exact printLine_ok _ _ (by simp [declTokens]) (declTokens_tok d.1 (hd d hdm).1) (hd d hdm).2
  · exact printLine_ok _ _ (by simp [headerTokens]) (headerTokens_tok f.sel hst) hhl
  · exact printLine_ok _ _ (by simp [rowTokens]) (rowTokens_tok _ r.1 r.2.2 (hrows r hrm).1) (hrows r hrm).2

theorem rowTokens_length (r : Row) (c : CellLay) : (rowTokens r c).length = 3 + r.nums.length := by
  simp [rowTokens]; omega

/-- the state after the last line of a printed file -/
def stateOf (f : File) : St :=
  ⟨dictOf f, false, headerTokens f.sel, (headerTokens f.sel).map (chanOf f),
    columns [] (headerTokens f.sel).length (f.rows.map (fun r => rowTokens r.1 r.2.2))⟩

/-- the scanner phase on a printed file followed by any further lines -/
theorem loop_file (f : File) (hwf : f.wf) (rest : List Str) :
    loop false {} (f.lines ++ rest) = loop false (stateOf f) rest := by
  have hst := sel_tok f hwf
  have hmk := hdr_mk f hwf
  have hnd' := hdr_nodup f hwf
  obtain ⟨hd, hnd, _, _, _, hne, _, _, hhl, hrows⟩ := hwf
  have h0 : ({} : St) = ⟨[], true, [], [], []⟩ := rfl
  have hrowsF : ∀ r ∈ f.rows, splitWs (prep (printLine (rowTokens r.1 r.2.2) r.2.1)) = rowTokens r.1 r.2.2 := by
    intro r hr
    obtain ⟨hrw, hlw⟩ := hrows r hr
    have htok := rowTokens_tok _ r.1 r.2.2 hrw
    rw [prep_printLine _ _ (by simp [rowTokens]) htok hlw, splitWs_interleave _ _ htok hlw.2.2]
  have hwidth : ∀ r ∈ f.rows, (rowTokens r.1 r.2.2).length = (headerTokens f.sel).length := by
    intro r hr
    rw [rowTokens_length, (hrows r hr).1.2.2.2.2.2.2.2.2.2.2.1]; simp [headerTokens]; omega
  have hadd := addChannels_ok (dictOf f) (chanOf f) (headerTokens f.sel) [] [] hmk hnd' (by intro n _ c hc; simp at hc)
  simp only [List.nil_append] at hadd
  have hlen : (headerTokens f.sel).length = ((headerTokens f.sel).map (chanOf f)).length := by simp
  have htab : (f.rows.map (fun r => rowTokens r.1 r.2.2)).foldl appendRow (List.replicate (headerTokens f.sel).length []) =
      columns [] (headerTokens f.sel).length (f.rows.map (fun r => rowTokens r.1 r.2.2)) := by
    rw [← columns_nil, foldl_appendRow _ [] _ fun t ht => ?_]
    · rfl
    · obtain ⟨r, hr, rfl⟩ := List.mem_map.mp ht
      exact hwidth r hr
  rw [File.lines, h0, List.append_assoc, loop_decls false f.decls [] _ hd hnd (by intro d _ e he; simp at he)]
  show loop false ⟨dictOf f, true, [], [], []⟩ _ = _
  rw [List.cons_append, loop_header false (dictOf f) f.sel f.hdrLay _ hne hst hhl, hadd]
  simp only []
  have hmap : (f.rows.map (fun r => printLine (rowTokens r.1 r.2.2) r.2.1)).map (fun l => splitWs (prep l)) =
      f.rows.map (fun r => rowTokens r.1 r.2.2) := by
    rw [List.map_map]; exact List.map_congr_left hrowsF
  rw [loop_data (dictOf f) _ _ hlen (headerTokens f.sel).length _ _ rest (by simp) ?_, hmap, htab]
  · rfl
  · intro l hl
    obtain ⟨r, hr, rfl⟩ := List.mem_map.mp hl
    rw [hrowsF r hr]; exact hwidth r hr

/-- a data line of the wrong width after a printed file (here because it rests on `loop_file`) -/
theorem row_width_lines (f : File) (hwf : f.wf) (bad : Str) (tail : List Str)
    (hbad : (splitWs (prep bad)).length ≠ 3 + f.sel.length) :
    parseLines false (f.lines ++ bad :: tail) = .error .dat := by
  have hbad' : (splitWs (prep bad)).length ≠ (columns ([] : Str) (headerTokens f.sel).length
      (f.rows.map (fun r => rowTokens r.1 r.2.2))).length := by
    rw [columns_length]; simp [headerTokens]; omega
  unfold parseLines
  rw [loop_file f hwf, loop]
  simp [stateOf, hbad']

/-- parsing a printed file gives the content -/
theorem parse_print (f : File) (hwf : f.wf) : parseFile (print f) = .ok (expected f) := by
  have hloop := loop_file f hwf []
  rw [List.append_nil] at hloop
  have hconv := convertAll_columns _ f.rows (fun r => rowTokens r.1 r.2.2) (fun r => cellValues r.1)
    fun r hr => rowOK_print f hwf r.1 r.2.2 (hwf.2.2.2.2.2.2.2.2.2 r hr).1
  rw [List.length_map] at hconv
  unfold parseFile print
  rw [splitLines_joinLines _ _ (lines_ok f hwf)]
  unfold parseLines
  rw [hloop]
  simp only [loop, stateOf, List.length_map, columns_length]
  rw [if_neg (by simp [headerTokens]), if_neg (by simp), hconv]
  rfl

end TD.C14
