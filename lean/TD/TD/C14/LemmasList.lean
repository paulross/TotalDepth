/-
C14 — list facts used by the scanners of every token class.
-/
import TD.C14.Spec
namespace TD.C14

theorem takeWhile_run {p : Nat → Bool} (run rest : Str) (h1 : ∀ a ∈ run, p a = true)
    (h2 : ∀ a ∈ rest.head?, p a = false) :
    (run ++ rest).takeWhile p = run ∧ (run ++ rest).dropWhile p = rest := by
  rw [List.takeWhile_append_of_pos h1, List.dropWhile_append_of_pos h1]
  cases rest with
  | nil => simp
  | cons a r => simp [h2 a rfl]

theorem not_contains (l : Str) (x : Nat) (h : ∀ c ∈ l, c ≠ x) : l.contains x = false := by
  induction l with
  | nil => rfl
  | cons a r ih =>
    have h1 : a ≠ x := h a (by simp)
    have h2 := ih (fun c hc => h c (by simp [hc]))
    rw [List.contains_cons, h2]
    simp
    exact fun h => h1 h.symm

end TD.C14
