/-
C14 — UTIM, DATE and TIME token lemmas: the printed spellings are read back by the model's conversions.
-/
import Mathlib.Tactic.IntervalCases
import TD.C14.LemmasCal
import TD.C14.LemmasNum
namespace TD.C14
open TD.C14.Spec

/-! ### UTIM -/

/-- 719163 = ordinal of 1970-01-01, 3652059 = of 9999-12-31, 62135596800 = 719162 · 86400 (0001-01-01 to 1970). -/
theorem convUtim_seconds (tok : Str) (o s : Nat) (ho1 : 1 ≤ o) (ho2 : o ≤ 3652059) (hs : s < 86400)
    (h : parseInt tok = some (((o : Nat) - 719163 : Int) * 86400 + (s : Int))) :
    convUtim tok = .ok (.datetime (civilOfOrdinal o).1 (civilOfOrdinal o).2.1 (civilOfOrdinal o).2.2
      (s / 3600) (s % 3600 / 60) (s % 60)) := by
  have ht : ((((o : Nat) - 719163 : Int) * 86400 + (s : Int)) + 62135596800).toNat = (o - 1) * 86400 + s := by omega
  have h1 : ((o - 1) * 86400 + s) / 86400 + 1 = o := by omega
  have h2 : ((o - 1) * 86400 + s) % 86400 = s := by omega
  unfold convUtim
  rw [h]
  simp only []
  rw [if_neg (by omega), ht, h1, h2]

theorem convUtim_print (t : DateTime) (hv : validDate t.y t.mo t.d) (hh : t.h < 24) (hm : t.mi < 60) (hs : t.s < 60) :
    convUtim (printInt (toUnix t)) = .ok (.datetime t.y t.mo t.d t.h t.mi t.s) := by
  obtain ⟨ho1, ho2⟩ := ordinal_bounds t.y t.mo t.d hv
  have hsec : t.h * 3600 + t.mi * 60 + t.s < 86400 := by omega
  unfold toUnix
  rw [convUtim_seconds _ _ _ ho1 ho2 hsec (parseInt_printInt _ (Nat.le_trans (natDigits_length 11 _ (by omega)) (by decide))), civil_ordinal _ _ _ hv]
  congr 2 <;> omega

/-! ### TIME -/

theorem two_cases (pad : Bool) (n : Nat) :
    (∃ q r, r < 10 ∧ n = 10 * q + r ∧ two pad n = [48 + q, 48 + r]) ∨ (n < 10 ∧ two pad n = [48 + n]) := by
  unfold two
  split
  · exact Or.inl ⟨n / 10, n % 10, Nat.mod_lt _ (by decide), (Nat.div_add_mod n 10).symm, rfl⟩
  · exact Or.inr ⟨by omega, rfl⟩

/-- what follows a one-digit field must not be a digit, or the two-digit alternative would take it -/
theorem reM_two (pad : Bool) (m : Nat) (hm : m < 60) (rest : Str) (hrest : ∀ a ∈ rest.head?, isDigit a = false) :
    ∃ tl, reM (two pad m ++ rest) = (m, rest) :: tl := by
  rcases two_cases pad m with ⟨q, r, hr, rfl, h2⟩ | ⟨hlt, h1⟩
  · apply Exists.intro
    rw [h2]
    simp only [List.cons_append, List.nil_append, reM]
    rw [if_pos ⟨by omega, by omega, (isDigit_iff _).mpr (by omega)⟩,
      show (48 + q - 48) * 10 + (48 + r - 48) = 10 * q + r by omega]
    rfl
  · have hd : isDigit (48 + m) = true := (isDigit_iff _).mpr (by omega)
    refine ⟨[], ?_⟩
    rw [h1]
    cases rest with
    | nil => simp only [List.cons_append, List.nil_append, reM, if_pos hd, Nat.add_sub_cancel_left]
    | cons b r =>
      simp only [List.cons_append, List.nil_append, reM, if_pos hd, Nat.add_sub_cancel_left, hrest b rfl,
        Bool.false_eq_true, and_false, if_false]

theorem reH_two (pad : Bool) (h : Nat) (hh : h < 24) (rest : Str) (hrest : ∀ a ∈ rest.head?, isDigit a = false) :
    ∃ tl, reH (two pad h ++ rest) = (h, rest) :: tl := by
  rcases two_cases pad h with ⟨q, r, hr, rfl, h2⟩ | ⟨hlt, h1⟩
  · rw [h2]
    simp only [List.cons_append, List.nil_append, reH]
    by_cases h20 : q = 2
    · apply Exists.intro
      rw [if_pos ⟨by omega, by omega, by omega⟩, show 20 + (48 + r - 48) = 10 * q + r by omega]
      rfl
    · apply Exists.intro
      rw [if_neg (by omega), if_pos ⟨by omega, (isDigit_iff _).mpr (by omega)⟩,
        show (48 + q - 48) * 10 + (48 + r - 48) = 10 * q + r by omega]
      rfl
  · have hd : isDigit (48 + h) = true := (isDigit_iff _).mpr (by omega)
    refine ⟨[], ?_⟩
    rw [h1]
    cases rest with
    | nil => simp only [List.cons_append, List.nil_append, reH, if_pos hd, Nat.add_sub_cancel_left]
    | cons b r =>
      have hb := hrest b rfl
      have hb' : ¬ (48 ≤ b ∧ b ≤ 51) := fun hc => by
        rw [(isDigit_iff b).mpr (by omega)] at hb; cases hb
      simp only [List.cons_append, List.nil_append, reH, if_pos hd, Nat.add_sub_cancel_left, hb, hb',
        Bool.false_eq_true, and_false, if_false]

theorem reS_two (pad : Bool) (s : Nat) (hs : s < 60) : (reS (two pad s)).head? = some (s, []) := by
  obtain ⟨tl, h⟩ := reM_two pad s hs [] nofun
  rw [List.append_nil] at h
  unfold reS
  rw [h]
  split
  · next a b r e =>
    have ha : a ≠ 54 := by
      rcases two_cases pad s with ⟨q, r', _, rfl, h2⟩ | ⟨_, h1⟩
      · rw [h2] at e; cases e; omega
      · rw [h1] at e; cases e
    rw [if_neg (fun hc => ha hc.1)]; rfl
  · rfl

theorem strptime_print (c : CellLay) (t : Time) (hh : t.h < 24) (hm : t.mi < 60) (hs : t.s < 60) :
    strptimeHMS (printTime c t) = some (t.h, t.mi, t.s) := by
  have h45 : ∀ (rest : Str), ∀ a ∈ (45 :: rest).head?, isDigit a = false := fun _ _ h => by cases h; rfl
  obtain ⟨tl1, h1⟩ := reH_two c.hPad t.h hh _ (h45 (two c.mPad t.mi ++ 45 :: two c.sPad t.s))
  obtain ⟨tl2, h2⟩ := reM_two c.mPad t.mi hm _ (h45 (two c.sPad t.s))
  have h3 := reS_two c.sPad t.s hs
  have hp : printTime c t = two c.hPad t.h ++ 45 :: (two c.mPad t.mi ++ 45 :: two c.sPad t.s) := by
    simp [printTime]
  unfold strptimeHMS
  rw [hp, h1]
  simp only [List.findSome?_cons, h2, h3, Option.map_some]
  simp [hh, hm, hs]

theorem convTime_print (c : CellLay) (t : Time) (hh : t.h < 24) (hm : t.mi < 60) (hs : t.s < 60) :
    convTime (printTime c t) = .ok (.time t.h t.mi t.s) := by
  unfold convTime
  rw [strptime_print c t hh hm hs]

/-! ### DATE -/

theorem scanMonth_monthName (mo : Nat) (h1 : 1 ≤ mo) (h12 : mo ≤ 12) (r : Str) :
    scanMonth (monthName mo ++ r) = some (mo, r) := by
  interval_cases mo <;> rfl

theorem monthName_head (mo : Nat) (h1 : 1 ≤ mo) (h12 : mo ≤ 12) (r : Str) :
    ∀ a ∈ (monthName mo ++ r).head?, 65 ≤ a := by
  interval_cases mo <;> exact fun a ha => by cases ha; decide

theorem monthName_chars (mo : Nat) (h1 : 1 ≤ mo) (h12 : mo ≤ 12) : ∀ c ∈ monthName mo, 65 ≤ c ∧ c ≤ 126 := by
  interval_cases mo <;> decide

theorem isLeap_eq (y : Nat) : isLeap y = leap y := by
  rw [Bool.eq_iff_iff]
  simp only [isLeap, leap, Bool.and_eq_true, Bool.or_eq_true, beq_iff_eq, bne_iff_ne, decide_eq_true_eq]
  omega

theorem daysInMonth_eq (y m : Nat) (hm1 : 1 ≤ m) (hm12 : m ≤ 12) : daysInMonth y m = monthLen y m := by
  unfold daysInMonth
  rw [isLeap_eq]
  interval_cases m <;> rfl

theorem dateOk_of_valid (y m d : Nat) (h : validDate y m d) : dateOk y m d = true := by
  obtain ⟨hy1, hy2, hm1, hm12, hd1, hd⟩ := h
  simp only [dateOk, daysInMonth_eq y m hm1 hm12, Bool.and_eq_true, decide_eq_true_eq]
  exact ⟨⟨⟨⟨⟨hy1, hy2⟩, hm1⟩, hm12⟩, hd1⟩, hd⟩

/-- `scanDate` takes a dash off exactly when `printDate` has put one -/
theorem stripDash (dash : Bool) (r : Str) :
    (if dash then stripPrefix [45] ((if dash then [45] else []) ++ r) else some ((if dash then [45] else []) ++ r)) = some r := by
  cases dash <;> simp [stripPrefix]

theorem printDate_eq (c : CellLay) (d : Date) : printDate c d = chars (List.replicate c.dayZeros 0 ++ natDigits d.d) ++
      ((if c.dash then [45] else []) ++ (monthName d.mo ++ ((if c.dash then [45] else []) ++
        chars (List.replicate c.yrZeros 0 ++ natDigits (d.y % 100))))) := by
  simp [printDate, printNat, chars_append, replicate48]

theorem scanDate_print (c : CellLay) (d : Date) (hm1 : 1 ≤ d.mo) (hm12 : d.mo ≤ 12) :
    scanDate c.dash (printDate c d) = some (d.d, d.mo, d.y % 100) := by
  have hrest : ∀ a ∈ ((if c.dash then [45] else []) ++ (monthName d.mo ++ ((if c.dash then [45] else []) ++
        chars (List.replicate c.yrZeros 0 ++ natDigits (d.y % 100))))).head?, isDigit a = false := by
    intro a ha
    cases hdash : c.dash <;> rw [hdash] at ha
    · have := monthName_head d.mo hm1 hm12 _ a ha
      simp [isDigit]; omega
    · cases ha; rfl
  obtain ⟨ht, hdw⟩ := takeWhile_run (p := isDigit) _ _ (chars_isDigit _ (isDigits_zeros c.dayZeros d.d)) hrest
  have hne1 : chars (List.replicate c.dayZeros 0 ++ natDigits d.d) ≠ [] := by
    rw [Ne, chars_eq_nil]; simp [natDigits_ne_nil]
  have hne2 : chars (List.replicate c.yrZeros 0 ++ natDigits (d.y % 100)) ≠ [] := by
    rw [Ne, chars_eq_nil]; simp [natDigits_ne_nil]
  unfold scanDate
  rw [printDate_eq]
  simp only [ht, hdw, if_neg hne1, stripDash, scanMonth_monthName d.mo hm1 hm12, if_neg hne2, chars_all _ (isDigits_zeros _ _), if_true,
    chars_digitVal, ofDigits_replicate_zero, ofDigits_natDigits]

theorem printDate_chars (c : CellLay) (d : Date) (hm1 : 1 ≤ d.mo) (hm12 : d.mo ≤ 12) :
    ∀ x ∈ printDate c d, (48 ≤ x ∧ x ≤ 57) ∨ (65 ≤ x ∧ x ≤ 126) ∨ (x = 45 ∧ c.dash = true) := by
  have hdash : ∀ x ∈ (if c.dash then [45] else ([] : Str)), x = 45 ∧ c.dash = true := by
    intro x hx
    cases hd : c.dash <;> rw [hd] at hx <;> simp at hx
    exact ⟨hx, rfl⟩
  intro x hx
  rw [printDate_eq] at hx
  simp only [List.mem_append] at hx
  rcases hx with hx | hx | hx | hx | hx
  · exact Or.inl (chars_range _ (isDigits_zeros _ _) x hx)
  · exact Or.inr (Or.inr (hdash x hx))
  · exact Or.inr (Or.inl (monthName_chars d.mo hm1 hm12 x hx))
  · exact Or.inr (Or.inr (hdash x hx))
  · exact Or.inl (chars_range _ (isDigits_zeros _ _) x hx)

theorem contains_dash (c : CellLay) (d : Date) (hm1 : 1 ≤ d.mo) (hm12 : d.mo ≤ 12) :
    (printDate c d).contains 45 = c.dash := by
  cases hdash : c.dash
  · refine not_contains _ _ fun x hx => ?_
    rcases printDate_chars c d hm1 hm12 x hx with h | h | ⟨_, h⟩
    · omega
    · omega
    · rw [hdash] at h; cases h
  · rw [printDate_eq, hdash]; simp

theorem convDate_print (c : CellLay) (d : Date) (hv : validDate d.y d.mo d.d) (hlo : 1951 ≤ d.y) (hhi : d.y ≤ 2050) :
    convDate (printDate c d) = .ok (.date d.y d.mo d.d) := by
  have hm1 := hv.2.2.1
  have hm12 := hv.2.2.2.1
  unfold convDate
  rw [contains_dash c d hm1 hm12, scanDate_print c d hm1 hm12]
  simp only []
  have hy : (if d.y % 100 > 50 then d.y % 100 + 1900 else d.y % 100 + 2000) = d.y := by
    split <;> omega
  rw [hy, dateOk_of_valid _ _ _ hv]
  rfl

end TD.C14
