import TD.C19.Lemmas
import Mathlib.Data.List.Sublists
import Mathlib.Tactic.Ring
import Mathlib.Tactic.Linarith

/-!
The general argument for `Plot._filterCrossLineList` (every `MAX ≥ 1`, every list): the loop visits the indices
`g k = ⌊k·s + 1/2⌋`, `s = n/MAX > 1`; they increase strictly, the loop leaves at `k ≤ MAX − 1` because
`g (MAX−1) = ⌊n − s + 1/2⌋ ≥ n − ⌊s + 1/2⌋`, and `g (MAX−1) ≤ n − 1`.
-/
namespace TD.C19

theorem pyInt_of_nonneg {q : ℚ} (h : 0 ≤ q) : pyInt q = ⌊q⌋ :=
  if_pos h

/-- the pair index visited at step `k` -/
def gsel (s : ℚ) (k : ℕ) : ℤ := ⌊(k : ℚ) * s + 1 / 2⌋

theorem gsel_zero (s : ℚ) : gsel s 0 = 0 := by
  rw [gsel, Nat.cast_zero, zero_mul, zero_add]
  exact Int.floor_eq_iff.2 ⟨by norm_num, by norm_num⟩

theorem gsel_nonneg {s : ℚ} (hs : 0 ≤ s) (k : ℕ) : 0 ≤ gsel s k :=
  Int.floor_nonneg.2 (by positivity)

theorem gsel_succ {s : ℚ} (hs : 1 ≤ s) (k : ℕ) : gsel s k + 1 ≤ gsel s (k + 1) := by
  unfold gsel
  rw [← Int.floor_add_one]
  apply Int.floor_le_floor
  push_cast; linarith

theorem gsel_strictMono {s : ℚ} (hs : 1 ≤ s) : StrictMono (gsel s) :=
  strictMono_nat_of_lt_succ fun k => Int.lt_iff_add_one_le.2 (gsel_succ hs k)

/-- where the loop must stop: if `m·s = n − s` (step `m = MAX − 1` for `s = n/MAX`) then
`⌊n − s + 1/2⌋ ≥ n − ⌊s + 1/2⌋`, the loop's bound, and that index is still below `n` -/
theorem gsel_last {s : ℚ} {m : ℕ} {n : ℤ} (h : (m : ℚ) * s = n - s) (hs : 1 ≤ s) :
    (n : ℚ) - (⌊s + 1 / 2⌋ : ℤ) ≤ (gsel s m : ℤ) ∧ gsel s m < n := by
  unfold gsel; rw [h]
  constructor
  · have := Int.sub_one_lt_floor (s + 1 / 2)
    have : n - ⌊s + 1 / 2⌋ ≤ ⌊(n : ℚ) - s + 1 / 2⌋ := Int.le_floor.2 (by push_cast; linarith)
    exact_mod_cast this
  · exact Int.floor_lt.2 (by linarith)

/-- loop specification: entered at step `k` the loop appends `g k, …, g (k+j−1)`, all below the bound, and hands back
`g (k+j)` -/
theorem filterLoop_spec (s thr : ℚ) (hs : 0 ≤ s) : ∀ (fuel k : ℕ) (i : ℤ) (f : ℚ) (acc : List ℤ),
    i = gsel s k → f = (k : ℚ) * s →
    ∃ j, filterLoop fuel s thr i f acc = (acc ++ (List.range' k j).map (gsel s), gsel s (k + j)) ∧
      ∀ t ∈ List.range' k j, ((gsel s t : ℤ) : ℚ) < thr := by
  intro fuel
  induction fuel with
  | zero => rintro k _ _ acc rfl rfl; exact ⟨0, by simp [filterLoop], by simp⟩
  | succ fuel ih =>
    rintro k _ _ acc rfl rfl
    unfold filterLoop
    by_cases h : ((gsel s k : ℤ) : ℚ) < thr
    · have e : (k : ℚ) * s + s = ((k + 1 : ℕ) : ℚ) * s := by push_cast; ring
      obtain ⟨j, heq, hlt⟩ := ih (k + 1) (pyInt ((k : ℚ) * s + s + 1 / 2)) _ (acc ++ [gsel s k])
        (by rw [e]; exact pyInt_of_nonneg (by positivity)) e
      refine ⟨j + 1, ?_, fun t ht => ?_⟩
      · rw [if_pos h, heq, List.range'_succ, Nat.add_right_comm, List.map_cons, List.append_assoc]; rfl
      rw [List.range'_succ, List.mem_cons] at ht
      rcases ht with rfl | ht
      exacts [h, hlt t ht]
    · exact ⟨0, by simp [h], by simp⟩

/-- **The indices `_filterCrossLineList` selects**, for every `MAX ≥ 1` and every number of pairs `n > MAX`:
`g 0 … g j` with `j ≤ MAX − 1`. -/
theorem filterIdx_eq (M n : ℕ) (hM : 1 ≤ M) (hn : M < n) :
    ∃ j, j + 1 ≤ M ∧ filterIdx M n = (List.range (j + 1)).map (gsel ((n : ℚ) / M)) ∧
      gsel ((n : ℚ) / M) j < n := by
  have hMq : (0 : ℚ) < M := Nat.cast_pos.2 hM
  have hs : 1 ≤ (n : ℚ) / M := (one_le_div hMq).2 (Nat.cast_le.2 hn.le)
  have hMs : ((M - 1 : ℕ) : ℚ) * ((n : ℚ) / M) = (n : ℤ) - (n : ℚ) / M := by
    rw [Nat.cast_pred hM, sub_one_mul, mul_div_cancel₀ _ hMq.ne', Int.cast_natCast]
  simp only [filterIdx]
  generalize (n : ℚ) / M = s at hs hMs ⊢
  have hs0 : 0 ≤ s := zero_le_one.trans hs
  obtain ⟨hexit, hlast⟩ := gsel_last hMs hs
  obtain ⟨j, heq, hlt⟩ := filterLoop_spec s ((n : ℚ) - (pyInt (s + 1 / 2) : ℤ)) hs0 (n + 1) 0 0 0 []
    (gsel_zero s).symm (by rw [Nat.cast_zero, zero_mul])
  have hjM : j ≤ M - 1 := by
    by_contra hc
    have := hlt (M - 1) (by rw [List.mem_range']; exact ⟨M - 1, by omega, by omega⟩)
    rw [pyInt_of_nonneg (by positivity)] at this
    exact absurd this (not_lt.2 (by exact_mod_cast hexit))
  refine ⟨j, by omega, ?_, lt_of_le_of_lt ((gsel_strictMono hs).monotone hjM) (by exact_mod_cast hlast)⟩
  rw [heq, List.range_succ, List.range_eq_range', Nat.zero_add]
  simp

/-! ### picking whole pairs out of a list -/

/-- the pair number `k` of a list (fewer than two elements when the list is too short) -/
def pairAt {α} (l : List α) (k : ℕ) : List α := (l.drop (2 * k)).take 2

theorem getPair_eq {α} (l : List α) (i : ℤ) (h0 : 0 ≤ i) (h : 2 * i.toNat + 1 < l.length) :
    getPair l i = .ok (pairAt l i.toNat) := by
  unfold getPair pairAt
  have h1 : ¬ i < 0 := by omega
  have ha : 2 * i.toNat < l.length := by omega
  have hd : l.drop (2 * i.toNat) = l[2 * i.toNat] :: l[2 * i.toNat + 1] :: l.drop (2 * i.toNat + 1 + 1) := by
    rw [List.drop_eq_getElem_cons ha, List.drop_eq_getElem_cons h]
  simp only [h1, if_false, List.getElem?_eq_getElem ha, List.getElem?_eq_getElem h]
  rw [hd]; rfl

theorem pairs_sublist {α} (l : List α) : ∀ (ks : List ℕ) (d : ℕ), (∀ k ∈ ks, d ≤ k) → ks.Pairwise (· < ·) →
    (ks.flatMap (pairAt l)).Sublist (l.drop (2 * d)) := by
  intro ks
  induction ks with
  | nil => intro d _ _; simp
  | cons k ks ih =>
    intro d hd hp
    rw [List.pairwise_cons] at hp
    have hk : d ≤ k := hd k (by simp)
    have ih' := ih (k + 1) (fun x hx => by have := hp.1 x hx; omega) hp.2
    simp only [List.flatMap_cons]
    have h1 : (pairAt l k ++ ks.flatMap (pairAt l)).Sublist (l.drop (2 * k)) := by
      have : l.drop (2 * k) = (l.drop (2 * k)).take 2 ++ (l.drop (2 * k)).drop 2 := (List.take_append_drop 2 _).symm
      rw [this]
      apply List.Sublist.append (List.Sublist.refl _)
      rw [List.drop_drop]
      rw [show 2 * k + 2 = 2 * (k + 1) by ring]
      exact ih'
    have h2 : (l.drop (2 * k)).Sublist (l.drop (2 * d)) := by
      have : l.drop (2 * k) = (l.drop (2 * d)).drop (2 * k - 2 * d) := by
        rw [List.drop_drop]; congr 1; omega
      rw [this]; exact List.drop_sublist _ _
    exact h1.trans h2

theorem length_pairs_le {α} (l : List α) (ks : List ℕ) : (ks.flatMap (pairAt l)).length ≤ 2 * ks.length := by
  induction ks with
  | nil => simp
  | cons k ks ih =>
    simp only [List.flatMap_cons, List.length_append, List.length_cons]
    have : (pairAt l k).length ≤ 2 := by unfold pairAt; simp
    omega

theorem foldlM_getPair {α} (l : List α) : ∀ (is : List ℤ) (acc : List α),
    (∀ i ∈ is, 0 ≤ i ∧ 2 * i.toNat + 1 < l.length) →
    is.foldlM (fun acc i => do let p ← getPair l i; pure (acc ++ p)) acc
      = (Except.ok (acc ++ (is.map Int.toNat).flatMap (pairAt l)) : Except Err (List α)) := by
  intro is
  induction is with
  | nil => intro acc _; simp [List.foldlM, pure, Except.pure]
  | cons i is ih =>
    intro acc h
    have hi := h i (by simp)
    rw [List.foldlM_cons, getPair_eq l i hi.1 hi.2]
    exact (ih _ fun x hx => h x (by simp [hx])).trans (by simp [List.append_assoc])

theorem filterCross_long {α} (M : ℕ) (hM : 1 ≤ M) (l : List α) (he : l.length % 2 = 0) (hn : M < l.length / 2) :
    ∃ ks : List ℕ, filterCross M l = .ok (ks.flatMap (pairAt l)) ∧ ks.Pairwise (· < ·) ∧ ks.length ≤ M ∧
      ks.head? = some 0 := by
  obtain ⟨j, hj, hidx, hlast⟩ := filterIdx_eq M (l.length / 2) hM hn
  have hs : 1 ≤ ((l.length / 2 : ℕ) : ℚ) / M := (one_le_div (Nat.cast_pos.2 hM)).2 (Nat.cast_le.2 hn.le)
  generalize ((l.length / 2 : ℕ) : ℚ) / M = s at hs hidx hlast
  have hs0 : 0 ≤ s := zero_le_one.trans hs
  refine ⟨(List.range (j + 1)).map fun t => (gsel s t).toNat, ?_, ?_, ?_, ?_⟩
  · rw [filterCross, if_neg (not_not.2 he), if_neg (by omega), hidx, foldlM_getPair l _ [], List.nil_append, List.map_map]
    · rfl
    intro i hi
    obtain ⟨t, ht, rfl⟩ := List.mem_map.1 hi
    have := gsel_nonneg hs0 t
    have := (gsel_strictMono hs).monotone (List.mem_range.1 ht |> Nat.le_of_lt_succ)
    exact ⟨‹_›, by omega⟩
  · refine List.pairwise_lt_range.map _ fun a b hab => ?_
    have := gsel_strictMono hs hab
    have := gsel_nonneg hs0 a
    omega
  · rw [List.length_map, List.length_range]; exact hj
  · rw [List.range_succ_eq_map, List.map_cons, List.head?_cons, gsel_zero, Int.toNat_zero]

end TD.C19
