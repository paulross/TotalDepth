import TD.C19.Lemmas
import TD.C19.FilterGen

/-!
# C19 — plotted curves stay inside their track and wrap consistently (scale mathematics)

Property theorems only.  The model (`TD.C19.Model`) transcribes `PRESCfg.LineTransLin/LineTransLog10` and
`Plot._retInterpolateWrapPoints/_filterCrossLineList` over exact rationals; it is tied to the Python source by the
error-bounded correspondence run of `./check C19`.  `lg` stands for `math.log10` and is completely abstract.
The last section is about which films of a log pass are plotted (`PlotLogs.PlotLogPasses`, `Plot.hasDataToPlotLIS/LAS`).

The SVG producer (`Plot.plotLogPassLIS/LAS`) is NOT covered by these theorems; it is exercised by the harness only.
-/
namespace TD.C19

/-! ## Linear scale -/

/-- **Linear scale, in track** — for any left ≠ right scale edge and `leftP < rightP` the constructor succeeds and every
value is mapped to a position with `leftP ≤ pos < rightP` (left edge inclusive, right edge exclusive: that is what
`lP + (p − ⌊p⌋)·W` gives). -/
theorem wrap_in_track (lP rP lL rL v : ℚ) (bu : Backup) (hL : lL ≠ rL) (hP : lP < rP) :
    ∃ t, mkLin lP rP lL rL bu = .ok t ∧ lP ≤ (wrapPosLin t v).2 ∧ (wrapPosLin t v).2 < rP := by
  have hW : 0 < rP - lP := sub_pos.2 hP
  have ht := (mkLin_eq_ok (bu := bu)).2 ⟨hP, sub_ne_zero.2 hL.symm, rfl⟩
  refine ⟨_, ht, ?_⟩
  rw [wrapPosLin_eq ht]
  exact ⟨gWrap_lower _ _ _ hW, (gWrap_upper _ _ _ hW).trans_eq (add_sub_cancel _ _)⟩

example : mkLin 0 (12/5) (-80) 20 BACKUP_ONCE = .ok ⟨0, 12/5, -80, 20, BACKUP_ONCE, 100, 12/5, 3/125, 48/25⟩ ∧
    wrapPosLin ⟨0, 12/5, -80, 20, BACKUP_ONCE, 100, 12/5, 3/125, 48/25⟩ 45 = (1, 3/5) := by decide +kernel

/-- **Linear scale, wrap identity** — position plus wrap count times track width is the unwrapped scale position `L2P v`. -/
theorem wrap_identity (lP rP lL rL v : ℚ) (bu : Backup) (t : LineTrans) (h : mkLin lP rP lL rL bu = .ok t) :
    (wrapPosLin t v).2 + ((wrapPosLin t v).1 : ℚ) * (rP - lP) = l2pLin t v := by
  rw [wrapPosLin_eq h, l2pLin_eq h]
  exact gWrap_identity _ _ _

/-- **Linear scale, uniqueness** — the pair computed by the code is the *only* `(wrap, pos)` with `pos` inside the track
that satisfies the identity: so the two statements above pin `wrapPos` down completely. -/
theorem wrap_unique (lP rP lL rL v : ℚ) (bu : Backup) (t : LineTrans) (h : mkLin lP rP lL rL bu = .ok t)
    (w : ℤ) (pos : ℚ) (hlo : lP ≤ pos) (hhi : pos < rP) (hid : pos + (w : ℚ) * (rP - lP) = l2pLin t v) :
    wrapPosLin t v = (w, pos) := by
  rw [l2pLin_eq h] at hid
  rw [wrapPosLin_eq h]
  exact (gWrap_unique lP (rP - lP) _ (sub_pos.2 (mkLin_eq_ok.1 h).1) w pos hlo
    (hhi.trans_eq (add_sub_cancel _ _).symm) hid).symm

example : mkLin 0 1 0 10 BACKUP_ALL = .ok ⟨0, 1, 0, 10, BACKUP_ALL, 10, 1, 1/10, 0⟩ := by decide +kernel

/-! ## Logarithmic scale (any function `lg` in place of `log10`) -/

/-- **Log scale, non-positive value** — a value `≤ 0` is refused with `ExceptionLineTransBaseMath` (which
`Plot._plotSingleOutput` catches: no point is produced). -/
theorem wrap_log_nonpositive (lg : ℚ → ℚ) (t : LineTrans) (v : ℚ) (hv : v ≤ 0) :
    wrapPosLog lg t v = .error .logMath :=
  if_pos hv

example : wrapPosLog (fun x => x) ⟨0, 1, 1, 10, BACKUP_ALL, 10, 1, 1/10, 0⟩ (-3) = .error .logMath := by decide +kernel

/-- **Log scale, in track + identity** — both edges positive, `lg (rL/lL) ≠ 0` (true for `log10` whenever `lL ≠ rL`), value
positive: the constructor and `wrapPos` succeed, `leftP ≤ pos < rightP`, and
`pos + w·W = lP + lg(v/lL)/lg(rL/lL)·W`.  No property of `lg` is used. -/
theorem wrap_log (lg : ℚ → ℚ) (lP rP lL rL v : ℚ) (bu : Backup) (hP : lP < rP) (hl : 0 < lL) (hr : 0 < rL)
    (hden : lg (rL / lL) ≠ 0) (hv : 0 < v) :
    ∃ t w pos, mkLog lg lP rP lL rL bu = .ok t ∧ wrapPosLog lg t v = .ok (w, pos) ∧
      lP ≤ pos ∧ pos < rP ∧ pos + (w : ℚ) * (rP - lP) = lP + lg (v / lL) / lg (rL / lL) * (rP - lP) := by
  have hW : 0 < rP - lP := sub_pos.2 hP
  have ht := (mkLog_eq_ok (bu := bu)).2 ⟨hP, hl, div_pos hr hl, hden, rfl⟩
  exact ⟨_, _, _, ht, wrapPosLog_eq ht hv, gWrap_lower _ _ _ hW,
    (gWrap_upper _ _ _ hW).trans_eq (add_sub_cancel _ _), gWrap_identity _ _ _⟩

-- `hden` of `wrap_log` can be met: a toy `lg` and one decade
example : (fun x : ℚ => x - 1) (10 / 1) ≠ 0 := by norm_num

/-- **Log scale, identity against `L2P`** — if in addition `lg` satisfies the one functional equation
`lg (v/lL) = lg v − lg lL` at the point in question (as `log10` does), the unwrapped position is `L2P v`. -/
theorem wrap_log_l2p (lg : ℚ → ℚ) (lP rP lL rL v : ℚ) (bu : Backup) (t : LineTrans) (w : ℤ) (pos : ℚ)
    (h : mkLog lg lP rP lL rL bu = .ok t) (hw : wrapPosLog lg t v = .ok (w, pos))
    (hlg : lg (v / lL) = lg v - lg lL) :
    l2pLog lg t v = .ok (pos + (w : ℚ) * (rP - lP)) := by
  have hv : 0 < v := by
    by_contra hv
    rw [wrap_log_nonpositive lg t v (not_lt.1 hv)] at hw
    cases hw
  rw [wrapPosLog_eq h hv] at hw
  rw [l2pLog_eq h hv, ← hlg, ← gWrap_identity, Except.ok.inj hw]

/-! ## Back-up modes -/

/-- `offScale` only returns −1, 0 or 1, and the sign follows the sign of the wrap count. -/
theorem offScale_range (bu : Backup) (w : ℤ) :
    (offScale bu w = -1 ∧ w < 0) ∨ offScale bu w = 0 ∨ (offScale bu w = 1 ∧ 0 < w) := by
  unfold offScale; split
  · left; exact ⟨rfl, by omega⟩
  · split
    · right; right; exact ⟨rfl, by omega⟩
    · right; left; rfl

/-- WRAP (`BACKUP_ALL`): never off scale. -/
theorem offScale_all (w : ℤ) : offScale BACKUP_ALL w = 0 :=
  (offScale_eq_zero_iff _ w).2 ⟨fun h => h.2.1 rfl, fun h => h.2.1 rfl⟩

/-- no back-up (`BACKUP_NONE`, modes `NB`/`GRAD`): on scale exactly when the wrap count is 0. -/
theorem offScale_none (w : ℤ) : offScale BACKUP_NONE w = 0 ↔ w = 0 :=
  (offScale_eq_zero_iff _ w).trans (by simp only [BACKUP_NONE]; omega)

/-- one back-up (`BACKUP_ONCE`, mode `SHIF`): on scale exactly when `−1 ≤ w ≤ 1`. -/
theorem offScale_once (w : ℤ) : offScale BACKUP_ONCE w = 0 ↔ (-1 ≤ w ∧ w ≤ 1) :=
  (offScale_eq_zero_iff _ w).trans (by simp only [BACKUP_ONCE]; omega)

example : offScale BACKUP_ONCE (-2) = -1 ∧ offScale BACKUP_ONCE 1 = 0 ∧ offScale BACKUP_NONE 1 = 1 := by decide

/-! ## Interpolated wrap points -/

/-- abscissa `xPrev + (2j+1)·xInc` with `2j+1 < 2|d|` lies strictly between the two frame positions -/
theorem between_of_odd (xPrev xNow : ℚ) (hx : xPrev ≠ xNow) (D : ℕ) (j : ℕ) (hj : 2 * j + 1 < 2 * D) :
    between xPrev xNow (xPrev + (xNow - xPrev) / ((2 * D : ℕ) : ℚ) + 2 * (j : ℚ) * ((xNow - xPrev) / ((2 * D : ℕ) : ℚ))) := by
  have hD : (0 : ℚ) < ((2 * D : ℕ) : ℚ) := Nat.cast_pos.2 (by omega)
  convert between_lerp hx (t := ((2 * j + 1 : ℕ) : ℚ) / ((2 * D : ℕ) : ℚ))
    (div_pos (Nat.cast_pos.2 (Nat.succ_pos _)) hD) ((div_lt_one hD).2 (Nat.cast_lt.2 hj)) using 1
  push_cast; ring

/-- **Interpolated crossing points** (`_retInterpolateWrapPoints` before the final filter, any
`MAX_BACKUP_TRACK_CROSSING_LINES ≥ 2`, any back-up mode, logging up or down): the call succeeds; every generated point
(the end of the old polyline, every crossing-line end, the start of the new polyline) has its abscissa STRICTLY between
the two frame positions and lies on a track edge (`Pt.e`); the crossing lines are exactly `n` full-width lines
`left→right` (wrap count increasing) or `right→left` (decreasing) with `n < |wrapDiff|`. -/
theorem interp_points_on_edges (M : ℕ) (hM : 2 ≤ M) (bu : Backup) (xPrev xNow : ℚ) (wp wn : ℤ)
    (hx : xPrev ≠ xNow) (hw : wp ≠ wn) :
    ∃ r, interpolate M bu xPrev xNow wp wn = .ok r ∧
      (∀ q, r.polyEnd = some q → between xPrev xNow q.x ∧ q.e = (if wn - wp > 0 then Edge.right else Edge.left)) ∧
      (∀ q, r.polyNew = some q → between xPrev xNow q.x ∧ q.e = (if wn - wp > 0 then Edge.left else Edge.right)) ∧
      (∀ q ∈ r.cross, between xPrev xNow q.x) ∧
      (∃ n : ℕ, n < (wn - wp).natAbs ∧
        r.cross = crossSpec (decide (0 < wn - wp))
          (xPrev + (xNow - xPrev) / ((2 * (wn - wp).natAbs : ℕ) : ℚ)) ((xNow - xPrev) / ((2 * (wn - wp).natAbs : ℕ) : ℚ)) n) := by
  obtain ⟨r, n, hr, hn, hc, hE, hN⟩ := interpolate_spec M hM bu xPrev xNow hw rfl
  have hnlt : n < (wn - wp).natAbs := by
    have := le_mul_of_one_le_right (Int.natCast_nonneg n) (wrapIncrement_pos M hM (wn - wp))
    omega
  have hbet : ∀ j : ℕ, j ≤ n → between xPrev xNow (_ + 2 * (j : ℚ) * _) :=
    fun j hj => between_of_odd xPrev xNow hx (wn - wp).natAbs j (by omega)
  refine ⟨r, hr, fun q hq => ?_, fun q hq => ?_, fun q hq => ?_, n, hnlt, hc⟩
  · rw [hE q hq]
    exact ⟨by simpa only [Nat.cast_zero, mul_zero, zero_mul, add_zero] using hbet 0 n.zero_le, rfl⟩
  · rw [hN q hq]
    exact ⟨hbet n le_rfl, rfl⟩
  · obtain ⟨j, hj, hxq⟩ := mem_crossSpec (hc ▸ hq)
    rw [hxq]
    exact hbet j hj

example : interpolate 4 BACKUP_ALL 100 99 0 3 =
    .ok ⟨some ⟨599/6, .right⟩, [⟨599/6, .left⟩, ⟨199/2, .right⟩, ⟨199/2, .left⟩, ⟨595/6, .right⟩], some ⟨595/6, .left⟩⟩ := by
  decide +kernel

/-- **Number of crossing lines, as coded (`MAX_BACKUP_TRACK_CROSSING_LINES = 4`)**: never more than 7 before filtering
(so `_filterCrossLineList` is only ever handed at most 7 pairs by this caller). -/
theorem interp_cross_count_M4 (bu : Backup) (xPrev xNow : ℚ) (wp wn : ℤ) (r : Interp)
    (h : interpolate 4 bu xPrev xNow wp wn = .ok r) : r.cross.length % 2 = 0 ∧ r.cross.length / 2 ≤ 7 := by
  by_cases hw : wp = wn
  · rw [interpolate, if_pos hw] at h
    cases h
  obtain ⟨r', n, hr, hn, hc, -⟩ := interpolate_spec 4 (by omega) bu xPrev xNow hw rfl
  obtain rfl : r' = r := Except.ok.inj (hr.symm.trans h)
  rw [hc, length_crossSpec]
  have : n ≤ 7 := by
    unfold wrapIncrement at hn
    split at hn
    · -- the increment `|d|/4·4` is at least `|d| − 3` and `|d| ≥ 9`: two increments already exceed `|d|`
      by_contra hc
      have := Int.mul_le_mul_of_nonneg_right (show (2 : ℤ) ≤ n by omega)
        (Int.natCast_nonneg ((wn - wp).natAbs / 4 * 4))
      omega
    · omega
  omega

/-! ## Filtering of the crossing lines -/

/-- Not more pairs than the maximum: returned unchanged. -/
theorem filter_short_id {α} (M : ℕ) (l : List α) (he : l.length % 2 = 0) (h : l.length / 2 ≤ M) :
    filterCross M l = .ok l := by
  simp [filterCross, he, h]

theorem filterIdx_4_5 : filterIdx 4 5 = [0, 1, 3, 4] := by decide +kernel
theorem filterIdx_4_6 : filterIdx 4 6 = [0, 2, 3, 5] := by decide +kernel
/-- With 7 crossing lines (a jump of 8 wraps, a reachable input) the LAST line is dropped. -/
theorem filterIdx_4_7 : filterIdx 4 7 = [0, 2, 4, 5] := by decide +kernel

/-- **`_filterCrossLineList`, general** — for EVERY `MAX_BACKUP_TRACK_CROSSING_LINES ≥ 1` and EVERY even-length list
(any contents): the call never raises (no `IndexError`), the result is a sub-list of the input with at most `2·MAX`
points, it begins with the first pair, and a list of at most `MAX` pairs is returned unchanged.
(The docstring's claim that the LAST pair is kept too is false, see `filterIdx_4_7`.) -/
theorem filter_keeps_first {α} (M : ℕ) (hM : 1 ≤ M) (l : List α) (he : l.length % 2 = 0) :
    ∃ r, filterCross M l = .ok r ∧ r.Sublist l ∧ r.length ≤ 2 * M ∧ r.take 2 = l.take 2 ∧
      (l.length / 2 ≤ M → r = l) := by
  by_cases hs : l.length / 2 ≤ M
  · exact ⟨l, filter_short_id M l he hs, List.Sublist.refl l, by omega, rfl, fun _ => rfl⟩
  · obtain ⟨ks, hr, hlt, hlen, h0⟩ := filterCross_long M hM l he (by omega)
    refine ⟨_, hr, ?_, (length_pairs_le l ks).trans (by omega), ?_, fun h => absurd h hs⟩
    · simpa using pairs_sublist l ks 0 (fun _ _ => Nat.zero_le _) hlt
    · obtain ⟨ks, rfl⟩ := List.head?_eq_some_iff.1 h0
      have h2 : (pairAt l 0).length = 2 := by simp [pairAt]; omega
      rw [List.flatMap_cons, List.take_left' h2]
      rfl

example : filterCross 3 (List.range 16) = .ok [0, 1, 6, 7, 10, 11] := by decide +kernel

/-- **`_filterCrossLineList` as coded (MAX = 4)**, every even-length list (any contents, any number of pairs): it never
raises, returns a sub-list of its input of at most `2·4 = 8` points, and keeps the first pair. -/
theorem filter_keeps_first_partial {α} (l : List α) (he : l.length % 2 = 0) :
    ∃ r, filterCross 4 l = .ok r ∧ r.Sublist l ∧ r.length ≤ 8 ∧ r.take 2 = l.take 2 :=
  let ⟨r, h, hsub, hlen, htake, _⟩ := filter_keeps_first 4 (by omega) l he
  ⟨r, h, hsub, hlen, htake⟩

example : filterCross 4 (List.range 14) = .ok [0, 1, 4, 5, 8, 9, 10, 11] := by decide +kernel

/-- any `MAX_BACKUP_TRACK_CROSSING_LINES ≥ 2`: the filter returns a sub-list, of at most `2·MAX` points, of what the
interpolation made -/
theorem ret_interpolate_points (M : ℕ) (hM : 2 ≤ M) (bu : Backup) (xPrev xNow : ℚ) (wp wn : ℤ)
    (hx : xPrev ≠ xNow) (hw : wp ≠ wn) :
    ∃ r, retInterpolateWrapPoints M bu xPrev xNow wp wn = .ok r ∧ r.cross.length ≤ 2 * M ∧
      (∀ q, r.polyEnd = some q → between xPrev xNow q.x) ∧
      (∀ q, r.polyNew = some q → between xPrev xNow q.x) ∧
      (∀ q ∈ r.cross, between xPrev xNow q.x) := by
  obtain ⟨r0, h0, hE, hN, hC, n, _, hc⟩ := interp_points_on_edges M hM bu xPrev xNow wp wn hx hw
  obtain ⟨c, hf, hsub, hlen, _⟩ := filter_keeps_first M (by omega) r0.cross
    (by rw [hc, length_crossSpec, Nat.mul_mod_right])
  refine ⟨{ r0 with cross := c }, ?_, hlen, fun q hq => (hE q hq).1, fun q hq => (hN q hq).1,
    fun q hq => hC q (hsub.subset hq)⟩
  simp only [retInterpolateWrapPoints, h0, hf, bind, Except.bind, pure, Except.pure]

/-- **`_retInterpolateWrapPoints` complete, as coded (MAX = 4)**: it never raises for distinct wrap counts and distinct
frame positions; at most 8 crossing-line points are returned and every returned point lies strictly between the two
frame positions. -/
theorem ret_interpolate_points_M4 (bu : Backup) (xPrev xNow : ℚ) (wp wn : ℤ) (hx : xPrev ≠ xNow) (hw : wp ≠ wn) :
    ∃ r, retInterpolateWrapPoints 4 bu xPrev xNow wp wn = .ok r ∧ r.cross.length ≤ 8 ∧
      (∀ q, r.polyEnd = some q → between xPrev xNow q.x) ∧
      (∀ q, r.polyNew = some q → between xPrev xNow q.x) ∧
      (∀ q ∈ r.cross, between xPrev xNow q.x) :=
  ret_interpolate_points 4 (by omega) bu xPrev xNow wp wn hx hw

/-! ## Which films are plotted -/

/-- the loop is a filter: nothing that happens for one film influences another -/
theorem plotLoop_eq_filter {α} (has : α → Bool) (films : List α) : plotLoop has films = films.filter has := by
  induction films with
  | nil => rfl
  | cons f fs ih => simp only [plotLoop, List.filter_cons, ih]

/-- **Exactly the films that have data are plotted**, whatever else is in the FILM table. -/
theorem plots_mem_iff {α} (has : α → Bool) (films : List α) (f : α) :
    f ∈ plotLoop has films ↔ f ∈ films ∧ has f = true := by
  rw [plotLoop_eq_filter, List.mem_filter]

/-- **Order independence**: permuting the FILM table permutes the plots; in particular a film without data in any
position (first, middle, last) never hides a later film. -/
theorem plots_order_independent {α} (has : α → Bool) {films₁ films₂ : List α} (h : films₁.Perm films₂) :
    (plotLoop has films₁).Perm (plotLoop has films₂) := by
  rw [plotLoop_eq_filter, plotLoop_eq_filter]; exact h.filter has

/-- the number of plots is the number of films with data -/
theorem plots_count {α} (has : α → Bool) (films : List α) :
    (plotLoop has films).length = films.countP has := by
  rw [plotLoop_eq_filter, List.countP_eq_length_filter]

/-- `hasDataToPlotLIS` says: the pass has frames and some PRES row sends a channel of the pass to this film. -/
theorem hasDataToPlot_iff (n : ℕ) (pres : List PresRow) (chans : List ℕ) (film : ℕ) :
    hasDataToPlot n pres chans film = true ↔ n ≠ 0 ∧ ∃ r ∈ pres, r.dest = film ∧ r.outp ∈ chans := by
  unfold hasDataToPlot outpChIDs
  by_cases hn : n = 0
  · rw [if_pos hn]; exact ⟨nofun, fun h => absurd hn h.1⟩
  · simp only [hn, if_false, ne_eq, not_false_eq_true, true_and]
    by_cases hany : pres.any (fun r => r.dest == film) = true
    · simp only [hany, Bool.not_true, Bool.false_eq_true, if_false, List.any_eq_true, List.mem_map, List.mem_filter,
        beq_iff_eq, List.contains_iff_mem]
      constructor
      · rintro ⟨o, ⟨r, ⟨hr, hd⟩, rfl⟩, ho⟩; exact ⟨r, hr, hd, ho⟩
      · rintro ⟨r, hr, hd, ho⟩; exact ⟨r.outp, ⟨r, ⟨hr, hd⟩, rfl⟩, ho⟩
    · simp only [hany, Bool.not_false, if_true, Bool.false_eq_true, false_iff]
      rintro ⟨r, hr, hd, _⟩
      apply hany
      simp only [List.any_eq_true, beq_iff_eq]
      exact ⟨r, hr, hd⟩

example : plotLoop (hasDataToPlot 81 [⟨1, 10⟩, ⟨2, 20⟩, ⟨2, 20⟩] [20]) [1, 2] = [2] := by decide

/-- a LAS file "has" a format channel iff it holds the mnemonic itself or one of its listed alternates -/
theorem hasOutpMnemLAS_iff (alts : ℕ → List ℕ) (curves : List ℕ) (m : ℕ) :
    hasOutpMnemLAS alts curves m = true ↔ m ∈ curves ∨ ∃ a ∈ alts m, a ∈ curves := by
  unfold hasOutpMnemLAS
  by_cases h : m ∈ curves
  · simp [h]
  · simp [h, List.any_eq_true]

/-- **`hasDataToPlotLAS`**: a LAS file is plotted with a format iff it has frames and SOME curve is an output name of the
format or a listed alternate (`LGFORMAT_LAS`) of one — alternates count even when no curve carries a literal name. -/
theorem hasDataToPlotLAS_iff (alts : ℕ → List ℕ) (frames : ℕ) (outs curves : List ℕ) :
    hasDataToPlotLAS alts frames outs curves = true ↔
      frames ≠ 0 ∧ ∃ o ∈ outs, o ∈ curves ∨ ∃ a ∈ alts o, a ∈ curves := by
  unfold hasDataToPlotLAS
  by_cases hn : frames = 0
  · rw [if_pos hn]; exact ⟨nofun, fun h => absurd hn h.1⟩
  · cases outs with
    | nil => rw [if_neg hn]; exact ⟨nofun, fun ⟨_, _, ho, _⟩ => nomatch ho⟩
    | cons o os =>
      simp only [hn, if_false, List.isEmpty_cons, Bool.false_eq_true, ne_eq, not_false_eq_true, true_and,
        List.any_eq_true, hasOutpMnemLAS_iff]

example : hasDataToPlotLAS (fun m => if m = 1 then [7] else []) 5 [1, 2] [7, 9] = true ∧
    hasDataToPlotLAS (fun m => if m = 1 then [7] else []) 5 [1, 2] [8, 9] = false := by decide

end TD.C19
