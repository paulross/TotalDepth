import TD.C16.Model
import TD.C16.Spec
import TD.C16.AddLast
import Mathlib.Tactic.Ring
import Mathlib.Tactic.Linarith

/-! Helper lemmas for C16 (closed form of a run, decode-after-add, index walks, bisect, the LIS frame walk). -/
namespace TD.C16

/-! ### one run -/

theorem valuesLoop_eq (s : Int) : ∀ (n : Nat) (v : Int),
    valuesLoop s n v = (List.range n).map (fun k : Nat => v + s * ((k : Int) + 1))
  | 0, _ => rfl
  | n + 1, v => by
    rw [valuesLoop, valuesLoop_eq s n, List.range_succ_eq_map, List.map_cons, List.map_map]
    congr 1
    · simp
    · exact List.map_congr_left fun k _ => by simp only [Function.comp_apply, Nat.succ_eq_add_one]; push_cast; ring

theorem valuesLoop_length (s : Int) (n : Nat) (v : Int) : (valuesLoop s n v).length = n := by
  rw [valuesLoop_eq, List.length_map, List.length_range]

theorem valuesLoop_succ (s : Int) (n : Nat) (v : Int) :
    valuesLoop s (n + 1) v = valuesLoop s n v ++ [v + s * ((n : Int) + 1)] := by
  rw [valuesLoop_eq, valuesLoop_eq, List.range_succ, List.map_append]; rfl

/-- closed form of a run: `datum + stride·k` for `k = 0 … repeat`. -/
theorem Item.values_eq (it : Item) :
    it.values = (List.range (it.rep + 1)).map (fun k : Nat => it.datum + it.stride * (k : Int)) := by
  rw [Item.values, valuesLoop_eq, List.range_succ_eq_map, List.map_cons, List.map_map]
  congr 1
  simp

theorem Item.values_length (it : Item) : it.values.length = it.rep + 1 := by
  rw [Item.values_eq, List.length_map, List.length_range]

theorem Item.values_ne_nil (it : Item) : it.values ≠ [] := by simp [Item.values]

theorem Item.values_getElem? (it : Item) (k : Nat) (h : k ≤ it.rep) :
    it.values[k]? = some (it.datum + it.stride * (k : Int)) := by
  rw [Item.values_eq, List.getElem?_map, List.getElem?_range (by omega)]; rfl

theorem Item.values_getElem?_none (it : Item) (k : Nat) (h : it.rep < k) : it.values[k]? = none := by
  rw [List.getElem?_eq_none_iff, Item.values_length]; omega

theorem Item.mem_values (it : Item) (x : Int) :
    x ∈ it.values ↔ ∃ k : Nat, k ≤ it.rep ∧ x = it.datum + it.stride * (k : Int) := by
  rw [Item.values_eq]; simp only [List.mem_map, List.mem_range]
  constructor <;> rintro ⟨k, hk, rfl⟩ <;> exact ⟨k, by omega, rfl⟩

theorem Item.datum_mem_values (it : Item) : it.datum ∈ it.values := by simp [Item.values]

theorem Item.new_values (v : Int) : (Item.new v).values = [v] := rfl

theorem Item.add_of_rep_zero {it : Item} (h : it.rep = 0) (v : Int) : it.add v = some ⟨it.datum, v - it.datum, 1⟩ :=
  if_pos h

theorem Item.add_of_rep_ne_zero {it : Item} (h : it.rep ≠ 0) (v : Int) :
    it.add v = if v = it.datum + it.stride * ((it.rep : Int) + 1) then some { it with rep := it.rep + 1 } else none :=
  if_neg h

theorem Item.rep_ne_zero_of_add {it : Item} {v : Int} (h : it.add v = none) : it.rep ≠ 0 :=
  fun h0 => nomatch (Item.add_of_rep_zero h0 v).symm.trans h

/-- `RLEItem.add` returning True appends exactly the added value to the run. -/
theorem Item.values_add {it it' : Item} {v : Int} (h : it.add v = some it') : it'.values = it.values ++ [v] := by
  by_cases h0 : it.rep = 0
  · cases (Item.add_of_rep_zero h0 v).symm.trans h
    simp [Item.values, valuesLoop, h0]
  · rw [Item.add_of_rep_ne_zero h0] at h
    split at h
    · rename_i hv
      cases h
      simp only [Item.values]
      rw [valuesLoop_succ, hv]; rfl
    · cases h

theorem Item.add_datum {it it' : Item} {v : Int} (h : it.add v = some it') : it'.datum = it.datum :=
  Option.some.inj (congrArg List.head? (Item.values_add h))

/-! ### the list of runs -/

theorem rleValues_nil : rleValues [] = [] := rfl
theorem rleValues_cons (it : Item) (rest : List Item) : rleValues (it :: rest) = it.values ++ rleValues rest := by
  simp [rleValues]

theorem rleAdd_eq_addLast : rleAdd = addLast Item.new Item.add :=
  eq_addLast (fun _ => rfl) (fun it v => by rw [rleAdd]; cases it.add v <;> rfl) (fun _ _ _ _ => rfl)

theorem rleAdd_snoc (l : List Item) (it : Item) (v : Int) :
    rleAdd (l ++ [it]) v = match it.add v with
      | some it' => l ++ [it']
      | none => l ++ [it, Item.new v] := by
  rw [rleAdd_eq_addLast, addLast_snoc]; cases it.add v <;> rfl

theorem rleValues_foldl (xs : List Int) (items : List Item) :
    rleValues (xs.foldl rleAdd items) = rleValues items ++ xs := by
  rw [rleAdd_eq_addLast]
  have := foldl_addLast_flatMap_map (step := Item.add) (g := id) Item.new_values (fun h => Item.values_add h) xs items
  rwa [List.map_id] at this

/-- `RLE.add(v)` appends `v` to the decoded sequence, whatever the runs were. -/
theorem rleValues_add (items : List Item) (v : Int) : rleValues (rleAdd items v) = rleValues items ++ [v] :=
  rleValues_foldl [v] items

theorem rleAdd_singleton_some {it it' : Item} {v : Int} (h : it.add v = some it') : rleAdd [it] v = [it'] := by
  rw [rleAdd, h]

theorem rleAdd_singleton_none {it : Item} {v : Int} (h : it.add v = none) : rleAdd [it] v = [it, Item.new v] := by
  rw [rleAdd, h]

theorem create_concat (xs : List Int) (v : Int) : create (xs ++ [v]) = rleAdd (create xs) v := by
  rw [create, List.foldl_append]; rfl

theorem numValues_eq (items : List Item) : numValues items = (rleValues items).length := by
  show (items.map fun it => it.rep + 1).sum = _
  simp only [rleValues, List.length_flatMap, Item.values_length]

theorem rleFirst_eq (items : List Item) : rleFirst items = (rleValues items).head? := by
  cases items with
  | nil => rfl
  | cons it rest => simp [rleFirst, rleValues_cons, Item.values]

theorem Item.last_def (it : Item) : it.last = it.datum + it.stride * (it.rep : Int) := by
  unfold Item.last
  split
  · rename_i h; rw [h, Int.natCast_zero, Int.mul_zero, Int.add_zero]
  · rfl

theorem Item.last_eq (it : Item) : some it.last = it.values.getLast? := by
  rw [List.getLast?_eq_getElem?, Item.values_length, Nat.add_sub_cancel, Item.values_getElem? it it.rep (Nat.le_refl _),
    Item.last_def]

theorem rleLast_eq (items : List Item) : rleLast items = (rleValues items).getLast? := by
  induction items with
  | nil => rfl
  | cons it rest ih =>
    rw [rleValues_cons]
    cases rest with
    | nil => simp [rleLast, rleValues, ← Item.last_eq]
    | cons r rs =>
      rw [List.getLast?_append, ← ih]
      simp only [rleLast, List.getLast?_cons_cons]
      rw [List.getLast?_eq_some_getLast (List.cons_ne_nil r rs)]
      rfl

/-! ### indexing -/

/-- result of looking up position `k` in a plain list, as an exception-or-value. -/
def getExc (xs : List Int) (k : Nat) : Except Err Int :=
  match xs[k]? with
  | some v => .ok v
  | none => .error .indexError

theorem Item.value_nat_le (it : Item) (k : Nat) (h : k ≤ it.rep) :
    it.value (k : Int) = ((k : Int), some (it.datum + it.stride * (k : Int))) := by
  rw [Item.value, if_pos (Int.natCast_nonneg k), if_neg (by omega)]
  split
  · rw [show k = 0 by omega]; simp
  · rw [Int.mul_comm]

theorem Item.value_nat_gt (it : Item) (k : Nat) (h : it.rep < k) :
    it.value (k : Int) = (((k - it.rep - 1 : Nat) : Int), none) := by
  rw [Item.value, if_pos (Int.natCast_nonneg k), if_pos (by omega)]
  congr 1; omega

theorem Item.value_neg_le (it : Item) (k : Nat) (h : k ≤ it.rep) :
    it.value (-(k : Int) - 1) = (-(k : Int) - 1, some (it.datum + it.stride * ((it.rep - k : Nat) : Int))) := by
  rw [Item.value, if_neg (by omega), if_neg (by omega), Int.mul_comm]
  congr 4; omega

theorem Item.value_neg_gt (it : Item) (k : Nat) (h : it.rep < k) :
    it.value (-(k : Int) - 1) = (-((k - it.rep - 1 : Nat) : Int) - 1, none) := by
  rw [Item.value, if_neg (by omega), if_pos (by omega)]
  congr 1; omega

theorem valueLoop_walk {dec : Item → List Int} {g : Nat → Int} (hlen : ∀ r : Item, (dec r).length = r.rep + 1)
    (hin : ∀ (r : Item) (k : Nat), k ≤ r.rep → ∃ y, (dec r)[k]? = some y ∧ r.value (g k) = (g k, some y))
    (hout : ∀ (r : Item) (k : Nat), r.rep < k → r.value (g k) = (g (k - r.rep - 1), none)) :
    ∀ (items : List Item) (k : Nat), valueLoop items (g k) = getExc (items.flatMap dec) k
  | [], _ => rfl
  | r :: rs, k => by
    rw [valueLoop, List.flatMap_cons, getExc]
    by_cases h : k ≤ r.rep
    · obtain ⟨y, hy, hv⟩ := hin r k h
      rw [hv, List.getElem?_append_left (by rw [hlen]; omega), hy]
    · rw [hout r k (by omega), List.getElem?_append_right (by rw [hlen]; omega), hlen, Nat.sub_add_eq]
      exact valueLoop_walk hlen hin hout rs _

theorem rleValue_nat (items : List Item) (k : Nat) : rleValue items (k : Int) = getExc (rleValues items) k := by
  rw [rleValue, if_pos (Int.natCast_nonneg k)]
  exact valueLoop_walk (g := Nat.cast) Item.values_length
    (fun r k h => ⟨_, Item.values_getElem? r k h, Item.value_nat_le r k h⟩) Item.value_nat_gt items k

theorem rleValue_neg (items : List Item) (k : Nat) :
    rleValue items (-(k : Int) - 1) = getExc (rleValues items).reverse k := by
  rw [rleValue, if_neg (by omega), rleValues, List.reverse_flatMap]
  exact valueLoop_walk (dec := fun r => r.values.reverse) (g := fun k => -(k : Int) - 1)
    (fun r => by rw [List.length_reverse, Item.values_length])
    (fun r k h => ⟨_, by rw [List.getElem?_reverse (by rw [Item.values_length]; omega), Item.values_length,
      Nat.add_sub_cancel, Item.values_getElem? r _ (Nat.sub_le _ _)], Item.value_neg_le r k h⟩)
    Item.value_neg_gt _ k

theorem pyIndex_nat (xs : List Int) (k : Nat) : pyIndex xs (k : Int) = getExc xs k := by
  unfold pyIndex
  simp only [if_neg (Int.not_lt.2 (Int.natCast_nonneg k)), Int.toNat_natCast]
  rfl

theorem pyIndex_neg (xs : List Int) (k : Nat) : pyIndex xs (-(k : Int) - 1) = getExc xs.reverse k := by
  unfold pyIndex getExc
  simp only [if_pos (show -(k : Int) - 1 < 0 by omega)]
  by_cases hk : k < xs.length
  · rw [if_neg (by omega), List.getElem?_reverse hk, show (-(k : Int) - 1 + xs.length).toNat = xs.length - 1 - k by omega]
    rfl
  · rw [if_pos (by omega), List.getElem?_eq_none (by rw [List.length_reverse]; omega)]

theorem rleValue_eq_pyIndex (items : List Item) (i : Int) : rleValue items i = pyIndex (rleValues items) i := by
  by_cases hi : 0 ≤ i
  · obtain ⟨k, rfl⟩ := Int.eq_ofNat_of_zero_le hi
    rw [rleValue_nat, pyIndex_nat]
  · obtain ⟨k, rfl⟩ : ∃ k : Nat, i = -(k : Int) - 1 := ⟨(-i - 1).toNat, by omega⟩
    rw [rleValue_neg, pyIndex_neg]

/-! ### largest_le -/

theorem Item.largestLe_err (it : Item) (q : Int) (h : q < it.datum) : it.largestLe q = .error .valueError := by
  unfold Item.largestLe; simp [h]

theorem Item.datum_le_of_sorted (it : Item) (hs : it.values.Pairwise (· ≤ ·)) : ∀ x ∈ it.values, it.datum ≤ x :=
  fun x hx => (List.mem_cons.1 hx).elim (fun h => h ▸ Int.le_refl _) ((List.pairwise_cons.1 hs).1 x)

theorem Item.stride_nonneg_of_sorted (it : Item) (hs : it.values.Pairwise (· ≤ ·)) (hr : 1 ≤ it.rep) : 0 ≤ it.stride := by
  have h1 : it.datum + it.stride * ((1 : Nat) : Int) ∈ it.values := (Item.mem_values it _).2 ⟨1, hr, rfl⟩
  have := Item.datum_le_of_sorted it hs _ h1
  omega

theorem prog_le_of_lt {a s q j k : Int} (hs : 0 ≤ s) (hk : a + s * k ≤ q) (hj : q < a + s * (j + 1)) :
    a + s * k ≤ a + s * j := by
  by_cases h : k ≤ j
  · have := Int.mul_le_mul_of_nonneg_left h hs; omega
  · have := Int.mul_le_mul_of_nonneg_left (show j + 1 ≤ k by omega) hs; omega

/-- one run, ascending: `RLEItem.largest_le(q)` is the greatest value of the run that is ≤ q. -/
theorem Item.largestLe_spec (it : Item) (q : Int) (hs : it.values.Pairwise (· ≤ ·)) (hq : it.datum ≤ q) :
    ∃ m, it.largestLe q = .ok m ∧ m ∈ it.values ∧ m ≤ q ∧ ∀ x ∈ it.values, x ≤ q → x ≤ m := by
  have hmem := Item.mem_values it
  have hmax : ∀ m, (∀ k : Nat, k ≤ it.rep → it.datum + it.stride * k ≤ q → it.datum + it.stride * k ≤ m) →
      ∀ x ∈ it.values, x ≤ q → x ≤ m :=
    fun m h x hx hxq => by obtain ⟨k, hk, rfl⟩ := (hmem x).1 hx; exact h k hk hxq
  simp only [Item.largestLe, if_neg (Int.not_lt.2 hq), Item.last_def]
  by_cases hr : it.rep = 0
  · -- a single value
    refine ⟨it.datum, ?_, Item.datum_mem_values it, hq, hmax _ fun k hk _ => ?_⟩
    · rw [hr, Int.natCast_zero, Int.mul_zero, Int.add_zero]
      split
      · rfl
      · split
        · rfl
        · rw [show q - it.datum = 0 by omega, Int.zero_fdiv, Int.mul_zero, Int.add_zero]
    · rw [show k = 0 by omega, Int.natCast_zero, Int.mul_zero, Int.add_zero]
  · have hst := Item.stride_nonneg_of_sorted it hs (by omega)
    split
    · -- beyond the last value of the run
      exact ⟨_, rfl, (hmem _).2 ⟨it.rep, Nat.le_refl _, rfl⟩, by omega, hmax _ fun k hk _ => by
        have := Int.mul_le_mul_of_nonneg_left (Int.ofNat_le.2 hk) hst; omega⟩
    · split
      · -- run of equal values
        rename_i hz
        exact ⟨_, rfl, Item.datum_mem_values it, hq, hmax _ fun k _ _ => by rw [hz, Int.zero_mul]; omega⟩
      · have hpos : 0 < it.stride := by omega
        have hlo := Int.mul_ediv_self_le (x := q - it.datum) (Int.ne_of_gt hpos)
        have hhi := Int.lt_mul_ediv_self_add (x := q - it.datum) hpos
        have hi0 := Int.ediv_nonneg (show 0 ≤ q - it.datum by omega) hst
        have hidx : (q - it.datum) / it.stride ≤ it.rep := Int.ediv_le_of_le_mul hpos (by rw [Int.mul_comm]; omega)
        rw [Int.fdiv_eq_ediv_of_nonneg _ hst]
        exact ⟨_, rfl, (hmem _).2 ⟨((q - it.datum) / it.stride).toNat, by omega, by rw [Int.toNat_of_nonneg hi0]⟩,
          by omega, hmax _ fun k _ hk => prog_le_of_lt hst hk (by rw [Int.mul_add, Int.mul_one]; omega)⟩

/-- the bisect loop: with ascending datums it returns the number of runs whose datum is ≤ q. -/
theorem bisect_spec (items : List Item) (q : Int)
    (hs : ∀ i j (hi : i < items.length) (hj : j < items.length), i ≤ j → items[i].datum ≤ items[j].datum) :
    ∀ lo hi, lo ≤ hi → hi ≤ items.length →
      (∀ j (hj : j < items.length), j < lo → items[j].datum ≤ q) →
      (∀ j (hj : j < items.length), hi ≤ j → q < items[j].datum) →
      bisect items q lo hi ≤ items.length ∧
      (∀ j (hj : j < items.length), j < bisect items q lo hi → items[j].datum ≤ q) ∧
      (∀ j (hj : j < items.length), bisect items q lo hi ≤ j → q < items[j].datum) := by
  intro lo hi
  fun_induction bisect items q lo hi with
  | case1 lo hi hlt mid it hget hq ih =>
    intro hle hlen hL hH
    obtain ⟨hm, rfl⟩ := List.getElem?_eq_some_iff.1 hget
    exact ih (by omega) (by omega) hL fun j hj hmj => by have := hs mid j hm hj hmj; omega
  | case2 lo hi hlt mid it hget hq ih =>
    intro hle hlen hL hH
    obtain ⟨hm, rfl⟩ := List.getElem?_eq_some_iff.1 hget
    exact ih (by omega) hlen (fun j hj hjm => by have := hs j mid hj hm (by omega); omega) hH
  | case3 lo hi hlt mid hget =>
    intro hle hlen hL hH
    have := List.getElem?_eq_none_iff.1 hget
    omega
  | case4 lo hi hnlt =>
    intro hle hlen hL hH
    obtain rfl : lo = hi := by omega
    exact ⟨hlen, hL, hH⟩

/-- `RLE.largest_le` on runs whose decoded sequence is (non-strictly) ascending. -/
theorem rleLargestLe_spec (items : List Item) (q : Int) (hs : (rleValues items).Pairwise (· ≤ ·)) :
    ((∀ x ∈ rleValues items, q < x) → rleLargestLe items q = .error .valueError) ∧
    ((∃ x ∈ rleValues items, x ≤ q) →
      ∃ m, rleLargestLe items q = .ok m ∧ m ∈ rleValues items ∧ m ≤ q ∧ ∀ x ∈ rleValues items, x ≤ q → x ≤ m) := by
  unfold rleValues at hs
  rw [List.pairwise_flatMap] at hs
  obtain ⟨hA, hB⟩ := hs
  rw [List.pairwise_iff_getElem] at hB
  have hC : ∀ it ∈ items, ∀ x ∈ it.values, it.datum ≤ x := fun it hit => Item.datum_le_of_sorted it (hA it hit)
  have hsd : ∀ i j (hi : i < items.length) (hj : j < items.length), i ≤ j → items[i].datum ≤ items[j].datum :=
    fun i j hi hj hij => (Nat.lt_or_eq_of_le hij).elim
      (fun h => hB i j hi hj h _ (Item.datum_mem_values _) _ (Item.datum_mem_values _))
      (fun h => by subst h; exact Int.le_refl _)
  obtain ⟨hk, hL, hH⟩ := bisect_spec items q hsd 0 items.length (Nat.zero_le _) (Nat.le_refl _)
    (fun j _ h => by omega) (fun j hj h => by omega)
  have hmem : ∀ x, x ∈ rleValues items ↔ ∃ j, ∃ hj : j < items.length, x ∈ items[j].values := fun x =>
    List.mem_flatMap.trans ⟨fun ⟨r, hr, hx⟩ => by obtain ⟨j, hj, rfl⟩ := List.getElem_of_mem hr; exact ⟨j, hj, hx⟩,
      fun ⟨j, hj, hx⟩ => ⟨_, List.getElem_mem hj, hx⟩⟩
  unfold rleLargestLe
  simp only
  generalize bisect items q 0 items.length = k at hk hL hH
  by_cases hk0 : k = 0
  · subst hk0
    simp only [ne_eq, not_true_eq_false, if_false, implies_true, true_and]
    rintro ⟨x, hx, hxq⟩
    obtain ⟨j, hj, hxj⟩ := (hmem x).1 hx
    have h1 := hH j hj (Nat.zero_le _)
    have h2 := hC _ (List.getElem_mem hj) x hxj
    omega
  · have hk1 : k - 1 < items.length := by omega
    simp only [ne_eq, hk0, not_false_eq_true, if_true, List.getElem?_eq_getElem hk1]
    have hdq : items[k - 1].datum ≤ q := hL (k - 1) hk1 (by omega)
    constructor
    · intro hall
      have := hall _ ((hmem _).2 ⟨k - 1, hk1, Item.datum_mem_values _⟩)
      omega
    · intro _
      obtain ⟨m, hm, hmv, hmq, hmax⟩ := Item.largestLe_spec items[k - 1] q (hA _ (List.getElem_mem hk1)) hdq
      refine ⟨m, hm, (hmem m).2 ⟨k - 1, hk1, hmv⟩, hmq, ?_⟩
      intro x hx hxq
      obtain ⟨j, hj, hxj⟩ := (hmem x).1 hx
      rcases Nat.lt_trichotomy j (k - 1) with h | h | h
      · have h1 := hB j (k - 1) hj hk1 h x hxj _ (Item.datum_mem_values _)
        have h2 := hC _ (List.getElem_mem hk1) m hmv
        omega
      · subst h; exact hmax x hxj hxq
      · have h1 := hH j hj (by omega)
        have h2 := hC _ (List.getElem_mem hj) x hxj
        omega

theorem sum_map_nonneg {α : Type} (f : α → Int) (l : List α) (h : ∀ x ∈ l, 0 ≤ f x) : 0 ≤ (l.map f).sum := by
  induction l with
  | nil => exact Int.le_refl 0
  | cons a l ih =>
    have := h a List.mem_cons_self
    have := ih fun x hx => h x (List.mem_cons_of_mem _ hx)
    rw [List.map_cons, List.sum_cons]; omega

/-! ### LIS `RLEType01` -/

/-- the `(position, frames)` pairs one `RLEItemType01` stands for. -/
def Item01.recs (it : Item01) : List (Int × Int) := it.base.values.map (fun p => (p, it.numFrames))

def recs01 (items : List Item01) : List (Int × Int) := items.flatMap Item01.recs

/-- invariant of an `RLEItemType01`: its X-axis RLE holds one value per record of the run. -/
def Item01.wf (it : Item01) : Prop := (rleValues it.xaxis).length = it.base.rep + 1

theorem Item.add_rep {it it' : Item} {v : Int} (h : it.add v = some it') : it'.rep = it.rep + 1 := by
  have := congrArg List.length (Item.values_add h)
  rw [List.length_append, Item.values_length, Item.values_length] at this
  simpa using this

theorem Item01.new_recs (p n x : Int) : (Item01.new p n x).recs = [(p, n)] := by
  simp [Item01.new, Item01.recs, Item.new, Item.values, valuesLoop]

theorem Item01.new_wf (p n x : Int) : (Item01.new p n x).wf := by
  simp [Item01.new, Item01.wf, rleAdd, rleValues, Item.new, Item.values, valuesLoop]

theorem Item01.add_recs {it it' : Item01} {p n x : Int} (h : it.add p n x = some it') :
    it'.recs = it.recs ++ [(p, n)] ∧ (it.wf → it'.wf) := by
  unfold Item01.add at h
  split at h
  · cases h
  · rename_i hn
    split at h
    · cases h
    · rename_i b hb
      cases h
      have hn' : n = it.numFrames := by simpa using hn
      refine ⟨?_, ?_⟩
      · simp [Item01.recs, Item.values_add hb, hn']
      · intro hw
        simp only [Item01.wf] at hw ⊢
        rw [rleValues_add, List.length_append, hw, Item.add_rep hb]; rfl

theorem add01_eq_addLast : (fun items (r : Int × Int × Int) => add01 items r.1 r.2.1 r.2.2) =
    addLast (fun r => Item01.new r.1 r.2.1 r.2.2) (fun it r => it.add r.1 r.2.1 r.2.2) :=
  eq_addLast (fun _ => rfl) (fun it r => by rw [add01]; cases it.add r.1 r.2.1 r.2.2 <;> rfl) (fun _ _ _ _ => rfl)

theorem recs01_foldl (recs : List (Int × Int × Int)) (items : List Item01) :
    recs01 (recs.foldl (fun items r => add01 items r.1 r.2.1 r.2.2) items) =
      recs01 items ++ recs.map (fun r => (r.1, r.2.1)) := by
  rw [add01_eq_addLast]
  exact foldl_addLast_flatMap_map (fun r => Item01.new_recs r.1 r.2.1 r.2.2) (fun h => (Item01.add_recs h).1) recs items

theorem wf_foldl (recs : List (Int × Int × Int)) {items : List Item01} (hw : ∀ it ∈ items, it.wf) :
    ∀ it ∈ recs.foldl (fun items r => add01 items r.1 r.2.1 r.2.2) items, it.wf := by
  rw [add01_eq_addLast]
  exact foldl_addLast_forall (fun r => Item01.new_wf r.1 r.2.1 r.2.2) (fun h => (Item01.add_recs h).2) recs hw

theorem Item01.div_le_rep (it : Item01) (hn : 0 < it.numFrames) (f : Int) :
    f / it.numFrames ≤ it.base.rep ↔ f < it.totalFrames := by
  rw [← Int.lt_add_one_iff, Int.ediv_lt_iff_lt_mul hn, Int.mul_comm]; rfl

/-- frames below the run's total: the record `f / nf` of the run, offset `f % nf`. -/
theorem Item01.tell_lt (it : Item01) (f : Int) (hw : it.wf) (hn : 1 ≤ it.numFrames) (h0 : 0 ≤ f)
    (hlt : f < it.totalFrames) :
    ∃ x, it.tell f = .ok (f % it.numFrames, some (it.base.datum + it.base.stride * (f / it.numFrames), it.numFrames, x)) := by
  have hnn : 0 ≤ it.numFrames := by omega
  obtain ⟨j, hj⟩ := Int.eq_ofNat_of_zero_le (Int.ediv_nonneg h0 hnn)
  have hjr : j ≤ it.base.rep := by have := (it.div_le_rep (by omega) f).2 hlt; omega
  obtain ⟨x, hx⟩ : ∃ x, (rleValues it.xaxis)[j]? = some x := ⟨_, List.getElem?_eq_getElem (by rw [hw]; omega)⟩
  refine ⟨x, ?_⟩
  simp only [Item01.tell, show ¬¬(f ≥ 0) by omega, show f ≤ it.totalFrames by omega, show ¬it.numFrames = 0 by omega,
    if_true, if_false, Int.fdiv_eq_ediv_of_nonneg _ hnn, Int.fmod_eq_emod_of_nonneg _ hnn, hj, Item01.value,
    Item.value_nat_le _ j hjr, rleValue_nat, getExc, hx]

/-- frames at or beyond the run's total are passed on, reduced by the total (also through the `<=` branch). -/
theorem Item01.tell_ge (it : Item01) (f : Int) (hn : 1 ≤ it.numFrames) (hge : it.totalFrames ≤ f) :
    it.tell f = .ok (f - it.totalFrames, none) := by
  have hnn : 0 ≤ it.numFrames := by omega
  have hT : 0 ≤ it.totalFrames := Int.mul_nonneg hnn (by omega)
  by_cases heq : f = it.totalFrames
  · have hm : f % it.numFrames = 0 := heq ▸ Int.mul_emod_right _ _
    have hd : f / it.numFrames = ((it.base.rep + 1 : Nat) : Int) := by
      rw [heq, Int.natCast_succ]; exact Int.mul_ediv_cancel_left _ (by omega)
    simp only [Item01.tell, show ¬¬(f ≥ 0) by omega, show f ≤ it.totalFrames by omega, show ¬it.numFrames = 0 by omega,
      if_true, if_false, Int.fdiv_eq_ediv_of_nonneg _ hnn, Int.fmod_eq_emod_of_nonneg _ hnn, hd, hm, Item01.value,
      Item.value_nat_gt _ _ (Nat.lt_succ_self _)]
    rw [heq, Int.sub_self]
  · simp only [Item01.tell, show ¬¬(f ≥ 0) by omega, show ¬f ≤ it.totalFrames by omega, if_false]

/-- Frames are written `nf·j + r` so that no division occurs in the induction; the caller divides once. -/
theorem locate_run (nf : Int) (hnf : 0 ≤ nf) (rest : List (Int × Int)) (r : Int) (hr0 : 0 ≤ r) (hr : r < nf) :
    ∀ (ps : List Int) (j : Nat), locate (ps.map (fun p => (p, nf)) ++ rest) (nf * (j : Int) + r) =
      match ps[j]? with
      | some p => .ok (p, r)
      | none => locate rest (nf * (j : Int) + r - nf * (ps.length : Int))
  | [], j => by
    simp only [List.map_nil, List.nil_append, List.getElem?_nil, List.length_nil, Int.natCast_zero, Int.mul_zero,
      Int.sub_zero]
  | p :: ps, 0 => by simp [locate, hr]
  | p :: ps, j + 1 => by
    have := Int.mul_nonneg hnf (Int.natCast_nonneg j)
    have e (n : Nat) : nf * ((n + 1 : Nat) : Int) = nf * (n : Int) + nf := by push_cast; rw [Int.mul_add, Int.mul_one]
    rw [List.map_cons, List.cons_append, locate, e, if_neg (by omega), List.getElem?_cons_succ, List.length_cons, e,
      show nf * (j : Int) + nf + r - nf = nf * (j : Int) + r by omega,
      show nf * (j : Int) + nf + r - (nf * (ps.length : Int) + nf) = nf * (j : Int) + r - nf * (ps.length : Int) by omega]
    exact locate_run nf hnf rest r hr0 hr ps j

/-- the frame walk over the runs equals the walk over the plain record list. -/
theorem tellLoop_eq_locate (items : List Item01) : ∀ f : Int, 0 ≤ f →
    (∀ it ∈ items, it.wf) → (∀ r ∈ recs01 items, 1 ≤ r.2) → tellLoop items f = locate (recs01 items) f := by
  induction items with
  | nil => intro f _ _ _; rfl
  | cons it rest ih =>
    intro f h0 hw hn
    rw [List.forall_mem_cons] at hw
    rw [show recs01 (it :: rest) = it.recs ++ recs01 rest from List.flatMap_cons, Item01.recs] at hn ⊢
    rw [List.forall_mem_append] at hn
    have hni : 1 ≤ it.numFrames := hn.1 _ (List.mem_map.2 ⟨_, Item.datum_mem_values _, rfl⟩)
    obtain ⟨j, hj⟩ := Int.eq_ofNat_of_zero_le (Int.ediv_nonneg h0 (show 0 ≤ it.numFrames by omega))
    have hf : it.numFrames * (j : Int) + f % it.numFrames = f := hj ▸ Int.mul_ediv_add_emod f it.numFrames
    have hloc := locate_run it.numFrames (by omega) (recs01 rest) (f % it.numFrames)
      (Int.emod_nonneg _ (by omega)) (Int.emod_lt_of_pos _ (by omega)) it.base.values j
    have hdiv := it.div_le_rep (by omega) f
    rw [tellLoop, ← hf, hloc, hf]
    by_cases hlt : f < it.totalFrames
    · obtain ⟨x, hx⟩ := Item01.tell_lt it f hw.1 hni h0 hlt
      rw [hx, Item.values_getElem? _ j (by have := hdiv.2 hlt; omega), hj]
    · rw [Item01.tell_ge it f hni (by omega), Item.values_getElem?_none _ j (by have := mt hdiv.1 hlt; omega),
        Item.values_length]
      exact ih _ (by omega) hw.2 hn.2

theorem Item01.totalFrames_eq (it : Item01) : it.totalFrames = (it.recs.map (·.2)).sum := by
  have : ∀ l : List Int, ((l.map (fun p => (p, it.numFrames))).map (·.2)).sum = it.numFrames * (l.length : Int) := by
    intro l
    induction l with
    | nil => simp
    | cons a l ih => simp only [List.map_cons, List.sum_cons, ih, List.length_cons]; push_cast; ring
  rw [Item01.recs, this, Item.values_length]; unfold Item01.totalFrames; push_cast; rfl

theorem totalFrames01_eq (items : List Item01) : totalFrames01 items = ((recs01 items).map (·.2)).sum := by
  induction items with
  | nil => rfl
  | cons it rest ih =>
    simp only [totalFrames01, List.map_cons, List.sum_cons, recs01, List.flatMap_cons, List.map_append, List.sum_append] at ih ⊢
    rw [ih, Item01.totalFrames_eq]

theorem frameSpec_closed (pre : List (Int × Int × Int)) (r : Int × Int × Int) (post : List (Int × Int × Int))
    (off : Int) (hpre : ∀ s ∈ pre, 0 ≤ s.2.1) (h0 : 0 ≤ off) (h1 : off < r.2.1) :
    frameSpec (pre ++ r :: post) ((pre.map (·.2.1)).sum + off) = .ok (r.1, off) := by
  have hs := sum_map_nonneg (·.2.1) pre hpre
  rw [frameSpec, if_neg (by omega)]
  clear hs
  induction pre with
  | nil => simp [locate, h1]
  | cons s pre ih =>
    have hs := sum_map_nonneg (·.2.1) pre fun t ht => hpre t (List.mem_cons_of_mem _ ht)
    simp only [List.cons_append, List.map_cons, List.sum_cons, locate]
    rw [if_neg (by omega), show s.2.1 + (pre.map (·.2.1)).sum + off - s.2.1 = (pre.map (·.2.1)).sum + off by omega]
    exact ih fun t ht => hpre t (List.mem_cons_of_mem _ ht)

theorem frameSpec_of_sum_le (recs : List (Int × Int × Int)) (hn : ∀ r ∈ recs, 0 ≤ r.2.1) (k : Int)
    (hk : k < 0 ∨ (recs.map (·.2.1)).sum ≤ k) : frameSpec recs k = .error .indexError := by
  rw [frameSpec]
  split
  · rfl
  · rename_i h0
    replace hk := hk.resolve_left h0
    clear h0
    induction recs generalizing k with
    | nil => rfl
    | cons r recs ih =>
      have hs := sum_map_nonneg (·.2.1) recs fun t ht => hn t (List.mem_cons_of_mem _ ht)
      rw [List.map_cons, List.sum_cons] at hk
      rw [List.map_cons, locate, if_neg (by omega)]
      exact ih (fun t ht => hn t (List.mem_cons_of_mem _ ht)) _ (by omega)

/-! ### float abstraction (`Rat`, `isclose` as a parameter) -/
namespace F

/-- "the decoded value `y` stands for the added value `x`": identical, or accepted by `isclose`. -/
def Rel (close : Rat → Rat → Bool) (x y : Rat) : Prop := x = y ∨ close x y = true

theorem valuesLoop_length (s : Rat) : ∀ (n : Nat) (v : Rat), (valuesLoop s n v).length = n
  | 0, _ => rfl
  | n + 1, v => by simp [valuesLoop, valuesLoop_length s n]

theorem valuesLoop_succ (s : Rat) : ∀ (n : Nat) (v : Rat),
    valuesLoop s (n + 1) v = valuesLoop s n v ++ [v + s * ((n + 1 : Nat) : Rat)]
  | 0, v => by simp [valuesLoop]
  | n + 1, v => by
    rw [valuesLoop, valuesLoop_succ s n (v + s)]
    conv => rhs; rw [valuesLoop]
    simp only [List.cons_append, List.cons.injEq, true_and, List.append_cancel_left_eq, and_true]
    push_cast; ring

theorem Item.values_length (it : Item) : it.values.length = it.rep + 1 := by
  simp [Item.values, valuesLoop_length]

theorem Item.values_add {close : Rat → Rat → Bool} {it it' : Item} {v : Rat} (h : it.add close v = some it') :
    ∃ y, it'.values = it.values ++ [y] ∧ Rel close v y := by
  unfold Item.add at h
  split at h
  · rename_i h0
    cases h
    refine ⟨v, ?_, Or.inl rfl⟩
    simp only [Item.values, valuesLoop, h0, List.cons_append, List.nil_append, List.cons.injEq, true_and, and_true]
    ring
  · simp only at h
    split at h
    · rename_i hv
      cases h
      refine ⟨_, ?_, Or.inr hv⟩
      simp only [Item.values]
      rw [valuesLoop_succ]; rfl
    · cases h

theorem rleAdd_eq_addLast (close : Rat → Rat → Bool) : rleAdd close = addLast Item.new (Item.add close) :=
  eq_addLast (fun _ => rfl) (fun it v => by rw [rleAdd]; cases it.add close v <;> rfl) (fun _ _ _ _ => rfl)

theorem numValues_eq (items : List Item) : numValues items = (rleValues items).length := by
  simp only [numValues, rleValues, List.length_flatMap, Item.values_length]

theorem rleValues_foldl (close : Rat → Rat → Bool) (xs : List Rat) (items : List Item) :
    ∃ ys, rleValues (xs.foldl (rleAdd close) items) = rleValues items ++ ys ∧ List.Forall₂ (Rel close) xs ys := by
  rw [rleAdd_eq_addLast]
  exact foldl_addLast_flatMap (fun v => ⟨v, rfl, .inl rfl⟩) (fun h => Item.values_add h) xs items

end F

end TD.C16
