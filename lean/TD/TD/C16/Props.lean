import TD.C16.Lemmas

/-!
# C16 — Run-length indexes reproduce the positions they encode

Property theorems, with the two definitions their statements need (`prog`, `FullButLast`).
The model (`TD.C16.Model`) transcribes `TotalDepth/common/Rle.py` and
`TotalDepth/LIS/core/Rle.py`; it is tied to the Python source by the correspondence run of `./check C16`.
The specifications (`pyIndex`, `locate`, `frameSpec`, plain lists) are in `TD.C16.Spec`.
All statements are for every list (no length bound).
-/
namespace TD.C16

/-- **Iteration**: `list(create_rle(xs).values()) == xs` for every integer list (repeats, negative strides,
irregular runs included). -/
theorem values_roundtrip (xs : List Int) : rleValues (create xs) = xs :=
  rleValues_foldl xs []

example : rleValues (create [1, 2, 3, 7, 7, 7, 5, 3, 1, 1]) = [1, 2, 3, 7, 7, 7, 5, 3, 1, 1] := by decide +kernel
example : create [1, 2, 3, 7, 7, 7, 5, 3, 1, 1] = [⟨1, 1, 2⟩, ⟨7, 0, 2⟩, ⟨5, -2, 2⟩, ⟨1, 0, 0⟩] := by decide +kernel

/-- **What is written to the RP66V1 XML index**: expanding every stored `(datum, stride, repeat)` triple as
`datum + k·stride, k = 0 … repeat` gives back the list. -/
theorem items_expand (xs : List Int) :
    (create xs).flatMap (fun it => (List.range (it.rep + 1)).map (fun k : Nat => it.datum + it.stride * (k : Int))) = xs := by
  exact (congrArg (List.flatMap · (create xs)) (funext fun it => (Item.values_eq it).symm)).trans (values_roundtrip xs)

/-- **Position**: `create_rle(xs).value(i)` is Python's `xs[i]` for every integer `i` — non-negative, negative
(from the end), and out of range (IndexError). -/
theorem value_index (xs : List Int) (i : Int) : rleValue (create xs) i = pyIndex xs i := by
  rw [rleValue_eq_pyIndex, values_roundtrip]

/-- `value_index` read for a valid non-negative index. -/
theorem value_at (xs : List Int) (i : Nat) (h : i < xs.length) : rleValue (create xs) (i : Int) = .ok xs[i] := by
  rw [value_index, pyIndex_nat, getExc, List.getElem?_eq_getElem h]

/-- `value_index` read for a valid negative index: `value(-1-i)` is the `i`-th value from the end. -/
theorem value_from_end (xs : List Int) (i : Nat) (h : i < xs.length) :
    rleValue (create xs) (-(i : Int) - 1) = .ok (xs[xs.length - 1 - i]'(by omega)) := by
  rw [value_index, pyIndex_neg, getExc, List.getElem?_reverse h, List.getElem?_eq_getElem]

example : rleValue (create [4, 4, 9, 8, 7]) (-2) = .ok 8 ∧ rleValue (create [4, 4, 9, 8, 7]) 5 = .error .indexError
    ∧ rleValue (create [4, 4, 9, 8, 7]) (-6) = .error .indexError := by decide +kernel

/-- **Count, first, last**: `num_values()`, `first()`, `last()` (None for the empty encoding). -/
theorem num_first_last (xs : List Int) :
    numValues (create xs) = xs.length ∧ rleFirst (create xs) = xs.head? ∧ rleLast (create xs) = xs.getLast? := by
  rw [numValues_eq, rleFirst_eq, rleLast_eq, values_roundtrip]
  exact ⟨rfl, rfl, rfl⟩

/-- **largest_le** for every non-strictly ascending integer list: ValueError exactly when no stored value is `≤ q`
(empty list, or `q` below the first element); otherwise the greatest stored value that is `≤ q`. -/
theorem largest_le_spec (xs : List Int) (hs : xs.Pairwise (· ≤ ·)) (q : Int) :
    ((∀ x ∈ xs, q < x) → rleLargestLe (create xs) q = .error .valueError) ∧
    ((∃ x ∈ xs, x ≤ q) →
      ∃ m, rleLargestLe (create xs) q = .ok m ∧ m ∈ xs ∧ m ≤ q ∧ ∀ x ∈ xs, x ≤ q → x ≤ m) := by
  have h := rleLargestLe_spec (create xs) q (by rw [values_roundtrip]; exact hs)
  rw [values_roundtrip] at h
  exact h

-- the hypothesis of `largest_le_spec` on a list with equal neighbours
example : [1, 2, 3, 7, 7, 12].Pairwise (· ≤ ·) := by decide +kernel

/-- the input classes of the repaired defects F2 / F3 (query equal to the datum of a single-value run; equal
neighbours) — the theorem applied to them. -/
example : ∃ m, rleLargestLe (create [1, 2, 3, 7]) 7 = .ok m ∧ m ∈ [1, 2, 3, 7] ∧ m ≤ 7 ∧ ∀ x ∈ [1, 2, 3, 7], x ≤ 7 → x ≤ m :=
  (largest_le_spec [1, 2, 3, 7] (by decide) 7).2 ⟨7, by decide, by decide⟩
example : rleValues (create [5, 5, 5]) = [5, 5, 5] := values_roundtrip _

/-! ### LIS frame index `RLEType01` -/

/-- **Frame → record**, against the plain record list: for record triples `(position, frames ≥ 1, x)` (positions need
not even be increasing) and every integer `k`, `tellLrForFrame(k)` is what walking the plain list gives: the position of
the record containing frame `k` and the offset inside it; IndexError for `k < 0` or `k ≥` total frames. -/
theorem tell_eq_locate (recs : List (Int × Int × Int)) (hn : ∀ r ∈ recs, 1 ≤ r.2.1) (k : Int) :
    tell01 (create01 recs) k = frameSpec recs k := by
  unfold tell01 frameSpec
  split
  · rfl
  · rename_i hk
    have hrecs : recs01 (create01 recs) = recs.map (fun r => (r.1, r.2.1)) := recs01_foldl recs []
    have hwf : ∀ it ∈ create01 recs, it.wf := wf_foldl recs (fun _ h => nomatch h)
    have hnf : ∀ r ∈ recs01 (create01 recs), 1 ≤ r.2 := by rw [hrecs, List.forall_mem_map]; exact hn
    rw [tellLoop_eq_locate _ k (by omega) hwf hnf, hrecs]

/-- **Frame → record, closed form**: with frame counts ≥ 1, the frame at offset `off` of record `r` — i.e. frame number
`(frames of all earlier records) + off` — maps to `(position of r, off)`. -/
theorem tell_for_frame (pre : List (Int × Int × Int)) (r : Int × Int × Int) (post : List (Int × Int × Int)) (off : Int)
    (hn : ∀ s ∈ pre ++ r :: post, 1 ≤ s.2.1) (h0 : 0 ≤ off) (h1 : off < r.2.1) :
    tell01 (create01 (pre ++ r :: post)) ((pre.map (·.2.1)).sum + off) = .ok (r.1, off) := by
  rw [tell_eq_locate _ hn]
  exact frameSpec_closed pre r post off (fun s hs => by have := hn s (List.mem_append_left _ hs); omega) h0 h1

/-- frame numbers outside `0 … total-1` raise IndexError. -/
theorem tell_out_of_range (recs : List (Int × Int × Int)) (hn : ∀ r ∈ recs, 1 ≤ r.2.1) (k : Int)
    (hk : k < 0 ∨ (recs.map (·.2.1)).sum ≤ k) : tell01 (create01 recs) k = .error .indexError := by
  rw [tell_eq_locate _ hn]
  exact frameSpec_of_sum_le recs (fun r hr => by have := hn r hr; omega) k hk

/-- **Total frames**: `totalFrames()` is the sum of the frame counts added (any records). -/
theorem total_frames (recs : List (Int × Int × Int)) : totalFrames01 (create01 recs) = (recs.map (·.2.1)).sum := by
  rw [totalFrames01_eq, show recs01 (create01 recs) = recs.map _ from recs01_foldl recs [], List.map_map]
  rfl

example : ∀ s ∈ [((10 : Int), (2 : Int), (0 : Int)), (20, 2, 5), (30, 2, 10), (50, 3, 11)], 1 ≤ s.2.1 := by decide +kernel
example : tell01 (create01 [(10, 2, 0), (20, 2, 5), (30, 2, 10), (50, 3, 11)]) 7 = .ok (50, 1) := by decide +kernel
example : create01 [(10, 2, 0), (20, 2, 5), (30, 2, 10), (50, 3, 11)]
    = [⟨⟨10, 10, 2⟩, 2, [⟨0, 5, 2⟩]⟩, ⟨⟨50, 0, 0⟩, 3, [⟨11, 0, 0⟩]⟩] := by decide +kernel

/-! ### floats (partial) -/

/-- **Floats — partial.**  Full statement wanted: for every list of finite floats, every value decoded by
`values()`/`value(i)` is within one stride-rounding of the value added, and the count is exact.
Proved here: over exact rationals, with `math.isclose(v, exp, rel_tol=eps)` abstracted as an arbitrary predicate
`close`, the decoded sequence has the same length as the input and each decoded value either *is* the value added or
is the expected value `datum + stride·k` that `close` accepted for it.  Missing: IEEE-754 rounding of
`v - datum`, `stride * k`, `datum + …` and of the repeated `v += stride` in `values()` (not modelled; the oracle
checks an explicit rounding bound on the real implementation). -/
theorem float_values_close_partial (close : Rat → Rat → Bool) (xs : List Rat) :
    List.Forall₂ (F.Rel close) xs (F.rleValues (F.create close xs)) ∧ F.numValues (F.create close xs) = xs.length := by
  obtain ⟨ys, h1, h2⟩ := F.rleValues_foldl close xs []
  rw [F.numValues_eq, show F.rleValues (F.create close xs) = ys from h1]
  exact ⟨h2, forall₂_length h2⟩

/-- with exact equality as the predicate the abstraction is an exact round trip (sanity of the abstraction). -/
theorem float_values_exact (xs : List Rat) : F.rleValues (F.create (fun a b => decide (a = b)) xs) = xs := by
  have h := (float_values_close_partial (fun a b => decide (a = b)) xs).1
  generalize F.rleValues (F.create _ xs) = ys at h ⊢
  induction h with
  | nil => rfl
  | cons h _ ih => rw [ih, h.elim Eq.symm fun h => (of_decide_eq_true h).symm]

example : F.numValues (F.create (fun a b => decide (a - b ≤ 1/1000 ∧ b - a ≤ 1/1000)) [0, 1/2, 1, 3/2 + 1/2000, 5]) = 5 :=
  (float_values_close_partial _ _).2

/-! ## Compression (what makes the index *run-length*) -/

/-- the arithmetic progression `a, a+d, …` of `n` terms -/
def prog (a d : Int) (n : Nat) : List Int := (List.range n).map (fun (k : Nat) => a + d * (k : Int))

/-- **A regular run is ONE item**: `create_rle` of an arithmetic progression of `n + 2` terms (any start, any stride —
zero and negative included — any length) is the single triple `(a, d, n + 1)`; so regularly spaced positions cost
O(1) index entries, and every later value that continues the run is absorbed (no spurious split). -/
theorem create_progression (a d : Int) (n : Nat) : create (prog a d (n + 2)) = [⟨a, d, n + 1⟩] := by
  induction n with
  | zero => simp [create, prog, List.range_succ, rleAdd, Item.new, Item.add]
  | succ n ih =>
    rw [prog, List.range_succ, List.map_append, ← prog, List.map_singleton, create_concat, ih]
    apply rleAdd_singleton_some
    rw [Item.add_of_rep_ne_zero (Nat.succ_ne_zero n), if_pos (by push_cast; ring)]

/-- **A value off the run starts a new item** (and only then): appending `v` to a progression of at least two terms
keeps one item iff `v` is the next term. -/
theorem create_progression_snoc (a d : Int) (n : Nat) (v : Int) :
    create (prog a d (n + 2) ++ [v]) =
      if v = a + d * ((n : Int) + 2) then [⟨a, d, n + 2⟩] else [⟨a, d, n + 1⟩, ⟨v, 0, 0⟩] := by
  have hadd := Item.add_of_rep_ne_zero (it := ⟨a, d, n + 1⟩) (Nat.succ_ne_zero n) v
  rw [show a + d * (((n + 1 : Nat) : Int) + 1) = a + d * ((n : Int) + 2) by push_cast; ring] at hadd
  rw [create_concat, create_progression]
  split
  · rename_i hv; rw [if_pos hv] at hadd; exact rleAdd_singleton_some hadd
  · rename_i hv; rw [if_neg hv] at hadd; exact rleAdd_singleton_none hadd

/-- **Never more items than values**: `len(rle) ≤ len(xs)` and `num_values` is the number of values. -/
theorem create_length_le (xs : List Int) : (create xs).length ≤ xs.length ∧ numValues (create xs) = xs.length := by
  have hn : numValues (create xs) = xs.length := by rw [numValues_eq, values_roundtrip]
  refine ⟨?_, hn⟩
  have : ∀ items : List Item, items.length ≤ numValues items := by
    intro items
    induction items with
    | nil => simp [numValues]
    | cons it rest ih =>
      simp only [numValues, List.map_cons, List.sum_cons, List.length_cons, Item.len] at ih ⊢
      omega
  exact hn ▸ this _

example : create (prog 1000 (-8) 5000) = [⟨1000, -8, 4999⟩] := create_progression 1000 (-8) 4998
example : create (prog 7 0 3 ++ [8]) = [⟨7, 0, 2⟩, ⟨8, 0, 0⟩] := by
  rw [create_progression_snoc 7 0 1 8]; decide

/-! ## Structural invariant of the index and the compression bound (for every list) -/

/-- **Invariant**: every run but the newest holds at least two values (`repeat ≥ 1`) — a single value always absorbs
the next one, so singleton items can only be last. -/
def FullButLast (items : List Item) : Prop := ∀ it ∈ items.dropLast, 1 ≤ it.rep

/-- the invariant is preserved by `RLE.add` (one step) -/
theorem rleAdd_fullButLast (items : List Item) (v : Int) (h : FullButLast items) : FullButLast (rleAdd items v) := by
  unfold FullButLast at *
  rcases items.eq_nil_or_concat with rfl | ⟨pre, l, rfl⟩
  · exact fun _ hit => nomatch hit
  · rw [List.concat_eq_append, List.dropLast_concat] at h
    rw [List.concat_eq_append, rleAdd_snoc]
    cases hl : l.add v with
    | some l' => rwa [List.dropLast_concat]
    | none =>
      -- the item that declined holds two values, or it would have accepted
      rw [List.dropLast_append_of_ne_nil (List.cons_ne_nil _ _), List.forall_mem_append]
      exact ⟨h, fun x hx => List.mem_singleton.1 hx ▸ Nat.pos_of_ne_zero (Item.rep_ne_zero_of_add hl)⟩

/-- … hence holds for every index `create_rle` builds (induction over the values added). -/
theorem create_fullButLast (xs : List Int) : FullButLast (create xs) := by
  have : ∀ items, FullButLast items → FullButLast (xs.foldl rleAdd items) := by
    induction xs with
    | nil => exact fun _ h => h
    | cons x xs ih => exact fun items h => ih _ (rleAdd_fullButLast items x h)
  exact this [] fun _ h => nomatch h

theorem fullButLast_bound (items : List Item) (h : FullButLast items) : 2 * items.length ≤ numValues items + 1 := by
  induction items with
  | nil => simp
  | cons it rest ih =>
    cases rest with
    | nil => simp [numValues, Item.len]
    | cons r rest =>
      have h1 := h it List.mem_cons_self
      have h2 := ih fun y hy => h y (List.mem_cons_of_mem _ hy)
      simp only [numValues, List.map_cons, List.sum_cons, List.length_cons, Item.len] at h2 ⊢
      omega

/-- **Compression bound**: `create_rle` never needs more than ⌈n/2⌉ items for `n` values, whatever the values. -/
theorem create_half_bound (xs : List Int) : 2 * (create xs).length ≤ xs.length + 1 := by
  have := fullButLast_bound _ (create_fullButLast xs)
  rw [(create_length_le xs).2] at this
  exact this

example : FullButLast (create [1, 2, 3, 7, 7, 7, 5, 3, 1, 1]) ∧ 2 * (create [5, 9, 1, 1, 4]).length = 5 + 1 := by
  refine ⟨create_fullButLast _, by decide⟩   -- the bound is attained: [5,9] [1,1] [4]

end TD.C16
