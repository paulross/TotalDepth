import Batteries.Data.List.Basic

/-! `RLE.add` in the abstract: offer the value to the last item, else append a new one. -/
namespace TD.C16

variable {ι ν α : Type} {new : ν → ι} {step : ι → ν → Option ι}

def addLast (new : ν → ι) (step : ι → ν → Option ι) : List ι → ν → List ι
  | [], v => [new v]
  | [last], v =>
    match step last v with
    | some it' => [it']
    | none => [last, new v]
  | it :: rest, v => it :: addLast new step rest v

theorem eq_addLast {f : List ι → ν → List ι} (h0 : ∀ v, f [] v = [new v])
    (h1 : ∀ l v, f [l] v = match step l v with | some l' => [l'] | none => [l, new v])
    (h2 : ∀ a b r v, f (a :: b :: r) v = a :: f (b :: r) v) : f = addLast new step := by
  funext items v
  induction items with
  | nil => exact h0 v
  | cons a rest ih =>
    cases rest with
    | nil => rw [h1, addLast]
    | cons b r => exact (h2 a b r v).trans (congrArg (a :: ·) ih)

theorem addLast_snoc (pre : List ι) (l : ι) (v : ν) :
    addLast new step (pre ++ [l]) v = match step l v with | some l' => pre ++ [l'] | none => pre ++ [l, new v] := by
  induction pre with
  | nil => rw [List.nil_append, addLast]; cases step l v <;> rfl
  | cons a pre ih => cases pre <;> exact (congrArg (a :: ·) ih).trans (by cases step l v <;> rfl)

theorem addLast_flatMap {dec : ι → List α} {R : ν → α → Prop} (hnew : ∀ v, ∃ y, dec (new v) = [y] ∧ R v y)
    (hstep : ∀ {l v l'}, step l v = some l' → ∃ y, dec l' = dec l ++ [y] ∧ R v y) (items : List ι) (v : ν) :
    ∃ y, (addLast new step items v).flatMap dec = items.flatMap dec ++ [y] ∧ R v y := by
  rcases items.eq_nil_or_concat with rfl | ⟨pre, l, rfl⟩
  · simpa only [addLast, List.flatMap_singleton, List.flatMap_nil, List.nil_append] using hnew v
  · rw [List.concat_eq_append, addLast_snoc]
    cases h : step l v with
    | some l' =>
      obtain ⟨y, hy, hr⟩ := hstep h
      exact ⟨y, by simp only [List.flatMap_append, List.flatMap_singleton, hy, List.append_assoc], hr⟩
    | none =>
      obtain ⟨y, hy, hr⟩ := hnew v
      exact ⟨y, by simp only [List.flatMap_append, List.flatMap_cons, List.flatMap_nil, List.append_nil, hy, List.append_assoc], hr⟩

theorem foldl_addLast_flatMap {dec : ι → List α} {R : ν → α → Prop} (hnew : ∀ v, ∃ y, dec (new v) = [y] ∧ R v y)
    (hstep : ∀ {l v l'}, step l v = some l' → ∃ y, dec l' = dec l ++ [y] ∧ R v y) (xs : List ν) :
    ∀ items : List ι, ∃ ys, (xs.foldl (addLast new step) items).flatMap dec = items.flatMap dec ++ ys ∧
      List.Forall₂ R xs ys := by
  induction xs with
  | nil => exact fun items => ⟨[], (List.append_nil _).symm, .nil⟩
  | cons x xs ih =>
    intro items
    obtain ⟨y, hy, hr⟩ := addLast_flatMap hnew hstep items x
    obtain ⟨ys, hys, hrs⟩ := ih (addLast new step items x)
    exact ⟨y :: ys, by rw [List.foldl_cons, hys, hy, List.append_assoc]; rfl, .cons hr hrs⟩

theorem forall₂_length {R : ν → α → Prop} {xs : List ν} {ys : List α} (h : List.Forall₂ R xs ys) :
    ys.length = xs.length := by
  induction h with
  | nil => rfl
  | cons _ _ ih => rw [List.length_cons, List.length_cons, ih]

theorem foldl_addLast_flatMap_map {dec : ι → List α} {g : ν → α} (hnew : ∀ v, dec (new v) = [g v])
    (hstep : ∀ {l v l'}, step l v = some l' → dec l' = dec l ++ [g v]) (xs : List ν) (items : List ι) :
    (xs.foldl (addLast new step) items).flatMap dec = items.flatMap dec ++ xs.map g := by
  induction xs generalizing items with
  | nil => exact (List.append_nil _).symm
  | cons x xs ih =>
    obtain ⟨y, hy, rfl⟩ := addLast_flatMap (R := fun v y => y = g v) (fun v => ⟨_, hnew v, rfl⟩)
      (fun h => ⟨_, hstep h, rfl⟩) items x
    rw [List.foldl_cons, ih, hy, List.append_assoc]; rfl

theorem foldl_addLast_forall {P : ι → Prop} (hnew : ∀ v, P (new v)) (hstep : ∀ {l v l'}, step l v = some l' → P l → P l')
    (xs : List ν) : ∀ {items : List ι}, (∀ it ∈ items, P it) → ∀ it ∈ xs.foldl (addLast new step) items, P it := by
  induction xs with
  | nil => exact fun h => h
  | cons x xs ih =>
    intro items h
    refine ih ?_
    rcases items.eq_nil_or_concat with rfl | ⟨pre, l, rfl⟩
    · exact fun it hit => List.mem_singleton.1 hit ▸ hnew x
    · rw [List.concat_eq_append, List.forall_mem_append, List.forall_mem_singleton] at h
      rw [List.concat_eq_append, addLast_snoc]
      cases hs : step l x with
      | some l' => rw [List.forall_mem_append, List.forall_mem_singleton]; exact ⟨h.1, hstep hs h.2⟩
      | none => rw [List.forall_mem_append, List.forall_mem_cons, List.forall_mem_singleton]; exact ⟨h.1, h.2, hnew x⟩

end TD.C16
