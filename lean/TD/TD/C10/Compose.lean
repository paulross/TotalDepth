import TD.C10.Lemmas
import TD.C09.LemmasLine

/-!
C10 ∘ C09 — the text the writer model prints is read back by the READER model of C09 (`TD.C09.splitWs`,
`TD.C09.convertValue`, i.e. the functions that are tied to `LASRead.py` by the C09 correspondence run), not merely by
C10's own specification-side tokeniser/numeral parser.
-/
namespace TD.C10

open TD.C09 (isSpace isDigit digitVal parseFloatStripped parseFloat? convertValue applySign takeSign)

theorem c09_digit {k : Nat} (hk : k < 10) : isDigit (digitChar k) = true ∧ digitVal (digitChar k) = k :=
  ⟨TD.C09.isDigit_digitChar hk, TD.C09.digitVal_digitChar hk⟩

theorem c09_all_digits (ds : List Nat) (h : AllDigits ds) : ∀ c ∈ ds.map digitChar, isDigit c = true := by
  intro c hc
  obtain ⟨k, hk, rfl⟩ := List.mem_map.1 hc
  exact (c09_digit (h k hk)).1

theorem foldl_digits_init (ds : List Nat) (a : Nat) :
    ds.foldl (fun a d => 10 * a + d) a = a * 10 ^ ds.length + ds.foldl (fun a d => 10 * a + d) 0 := by
  induction ds generalizing a with
  | nil => simp
  | cons d ds ih =>
    simp only [List.foldl_cons, List.length_cons]
    rw [ih (10 * a + d), ih (10 * 0 + d)]
    ring

theorem c09_digitsVal_map (ds : List Nat) (h : AllDigits ds) (a : Nat) :
    (ds.map digitChar).foldl (fun acc c => acc * 10 + digitVal c) a = ds.foldl (fun a d => 10 * a + d) a := by
  induction ds generalizing a with
  | nil => rfl
  | cons d ds ih =>
    have hd := (c09_digit (h d (by simp))).2
    simp only [List.map_cons, List.foldl_cons, hd]
    rw [ih (fun x hx => h x (by simp [hx]))]
    congr 1; ring

/-- value (as C09 computes it) of the digit strings of `fixedBody` -/
theorem c09_digitsVal_body (m d : Nat) :
    TD.C09.digitsVal ((natDigits (m / 10 ^ d)).map digitChar ++ (fixDigits d (m % 10 ^ d)).map digitChar) = m := by
  unfold TD.C09.digitsVal
  rw [List.foldl_append, c09_digitsVal_map _ (natDigits_all _), c09_digitsVal_map _ (fixDigits_all _ _),
    natDigits_val, foldl_digits_init, fixDigits_val, fixDigits_length]
  have h1 : m % 10 ^ d % 10 ^ d = m % 10 ^ d := Nat.mod_mod _ _
  rw [h1]
  exact Nat.div_add_mod' m (10 ^ d)

/-- `float()` of C09 on the unsigned body and on its negation -/
theorem c09_parse_fixedBody (m d : Nat) :
    parseFloatStripped (fixedBody m d) = some ((m : Int), -(d : Int)) ∧
    parseFloatStripped ('-' :: fixedBody m d) = some (-(m : Int), -(d : Int)) := by
  have hne := natDigits_ne_nil (m / 10 ^ d)
  have hall := natDigits_all (m / 10 ^ d)
  cases hnd : natDigits (m / 10 ^ d) with
  | nil => exact absurd hnd hne
  | cons k ks =>
    have hk : k < 10 := hall k (by simp [hnd])
    have hks : AllDigits ks := fun x hx => hall x (by simp [hnd, hx])
    have h0 := (c09_digit hk).1
    have hip := c09_all_digits ks hks
    have hval := c09_digitsVal_body m d
    rw [hnd] at hval
    by_cases hd : d = 0
    · -- no decimal point: `[-]digits`
      subst hd
      simp only [fixedBody, hnd, if_true, List.append_nil, List.map_cons]
      simp only [fixDigits, List.map_nil, List.append_nil, List.map_cons] at hval
      have hall' : ∀ c ∈ digitChar k :: ks.map digitChar, isDigit c = true := by
        intro c hc
        rcases List.mem_cons.1 hc with h | h
        · subst h; exact h0
        · exact hip c h
      have htd := TD.C09.takeWhile_append_stop (p := isDigit) (digitChar k :: ks.map digitChar) [] hall' (Or.inl rfl)
      simp only [List.append_nil] at htd
      constructor
      · unfold parseFloatStripped
        rw [TD.C09.takeSign_digit _ _ h0]
        simp only [htd.1, htd.2, List.isEmpty_cons, TD.C09.parseExp, applySign, hval]
        simp
      · unfold parseFloatStripped
        simp only [takeSign, htd.1, htd.2, List.isEmpty_cons, TD.C09.parseExp, applySign, hval]
        simp
    · have := TD.C09.parseFloat_shape (digitChar k) (ks.map digitChar) ((fixDigits d (m % 10 ^ d)).map digitChar) [] 0
        h0 hip (c09_all_digits _ (fixDigits_all _ _)) (Or.inl rfl) rfl
      simp only [List.append_nil, List.length_map, fixDigits_length] at this
      simp only [fixedBody, hnd, hd, if_false, List.map_cons, List.cons_append]
      rw [show (digitChar k :: List.map digitChar ks ++ List.map digitChar (fixDigits d (m % 10 ^ d))) =
        (k :: ks).map digitChar ++ (fixDigits d (m % 10 ^ d)).map digitChar from by simp] at this
      rw [hval] at this
      constructor
      · rw [this.1]; simp
      · rw [this.2]; simp

/-- a field text for the C09 tokeniser: non-empty, no white space in the sense of `str.split()` -/
def C09Text (t : List Char) : Prop := t ≠ [] ∧ ∀ c ∈ t, isSpace c = false

theorem c09Text_signed (neg : Bool) (m d : Nat) : C09Text (signed neg m d) := by
  refine ⟨(goodText_signed neg m d).1, fun c hc => ?_⟩
  rcases signed_chars neg m d c hc with rfl | rfl | ⟨k, hk, rfl⟩
  · decide
  · decide
  · exact (TD.C09.isDigit_facts (c09_digit hk).1).2.2.2.2.2.1

theorem c09_parseFloat_signed (neg : Bool) (m d : Nat) :
    parseFloat? (signed neg m d) = some (signedVal neg m, -(d : Int)) := by
  have hstrip : TD.C09.stripC (signed neg m d) = signed neg m d :=
    TD.C09.stripP_nospace _ _ fun c hc => by
      have := (c09Text_signed neg m d).2 c hc
      cases h : TD.C09.isSpaceC c with
      | false => rfl
      | true => rw [TD.C09.isSpace_of_isSpaceC h] at this; cases this
  unfold parseFloat?
  rw [hstrip]
  cases neg
  · exact (c09_parse_fixedBody m d).1
  · exact (c09_parse_fixedBody m d).2

theorem c09_convert_signed (neg : Bool) (m d : Nat) :
    convertValue (signed neg m d) = .num (signedVal neg m) (-(d : Int)) := by
  rw [convertValue, c09_parseFloat_signed]

/-- **the C09 reader reads a printed float field exactly**: `_convert_value` (model of C09) applied to the text the
writer prints for `v` with `d` decimals is the decimal `roundHalfEven(v·10^d) · 10^-d`. -/
theorem c09_convert_fmtFixed (negz : Bool) (v : Rat) (d : Nat) :
    convertValue (fmtFixed negz v d) = .num (roundHalfEven (v * (10 : Rat) ^ d)) (-(d : Int)) := by
  rw [fmtFixed_eq, c09_convert_signed, fmtFixed_val]

theorem c09Text_fmtFixed (negz : Bool) (v : Rat) (d : Nat) : C09Text (fmtFixed negz v d) :=
  fmtFixed_eq negz v d ▸ c09Text_signed _ _ _

/-- the reader keeps the token read so far reversed -/
theorem tokeniser_c09 : Tokeniser TD.C09.isSpace (fun cur rest => TD.C09.splitWsAux rest cur.reverse) where
  read c cur rest hc := by simp only [TD.C09.splitWsAux, hc, Bool.false_eq_true, if_false, List.reverse_append,
    List.reverse_cons, List.reverse_nil, List.nil_append, List.cons_append]
  stop c cur rest hc := by cases cur <;> simp [TD.C09.splitWsAux, hc]
  done cur := by cases cur <;> simp [TD.C09.splitWsAux]

end TD.C10
