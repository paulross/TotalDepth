import TD.C10.File
import TD.C10.Compose
import TD.C09.Props

/-! C10 — the writer's whole text is an instance of the C09 printer (`fileText_eq_print`). -/
namespace TD.C10

open TD.C09 (Str HLine DCell CSect LasContent LasLayout HPad SectLay RowLay JunkLine spaces oneLine blanks sep joinToks
  printJunk printJunkLine printHLine printHLines printHBody printHead printSect printSects printRows printRowUnwrapped
  printDataLine printCell printValue)

theorem spaces_add (a b : Nat) : spaces (a + b) = spaces a ++ spaces b := by
  unfold spaces; exact List.replicate_add _ _ _

theorem oneLine_id (t : Str) (h : ∀ c ∈ t, c ≠ '\n') : oneLine t = t := by
  unfold oneLine
  rw [List.filter_eq_self]
  intro c hc; simp [h c hc]

theorem blanks_false (n : Nat) : blanks (List.replicate n false) = List.replicate n ' ' := by
  simp [blanks, TD.C09.blankChar]

/-! ### the curve section -/

theorem curve_line (w0 w1 : Nat) (first : Bool) (c : ChanF) :
    printHLine (curveHLine c) (curvePad w0 w1 first c) =
      printJunk (curvePad w0 w1 first c).junk ++ tableLine w0 w1 (col0 c) (col1 c) := by
  simp only [printHLine, printHBody, curveHLine, curvePad, printValue, List.isEmpty_nil, if_true, tableLine, padR, col0,
    col1, spaces_add, List.append_assoc, List.cons_append]
  simp only [spaces, List.replicate_zero, List.replicate_one, List.reduceReplicate, List.cons_append, List.nil_append]

theorem curve_lines (w0 w1 : Nat) (cs : List ChanF) :
    printHLines (cs.map curveHLine) (curvePads w0 w1 false cs) =
      (cs.map (fun c => tableLine w0 w1 (col0 c) (col1 c))).flatten := by
  induction cs with
  | nil => rfl
  | cons c cs ih =>
    simp only [List.map_cons, printHLines, curvePads, List.headD_cons, List.tail_cons, List.flatten_cons, ih, curve_line]
    rfl

theorem padR_noLF (w : Nat) (s : Str) (h : ∀ c ∈ s, c ≠ '\n') : ∀ c ∈ padR w s, c ≠ '\n' := by
  intro c hc
  rcases List.mem_append.1 hc with h1 | h1
  · exact h c h1
  · have := List.eq_of_mem_replicate h1; subst this; decide

theorem hdr_comment (w0 w1 : Nat) (a b : Str) (ha : a.head? = some '#') (hna : ∀ c ∈ a, c ≠ '\n')
    (hnb : ∀ c ∈ b, c ≠ '\n') :
    printJunkLine (.comment 0 ((padR w0 a).drop 1 ++ ' ' :: ' ' :: padR w1 b)) = tableLine w0 w1 a b := by
  have hdrop : padR w0 a = '#' :: (padR w0 a).drop 1 := by
    cases a with
    | nil => cases ha
    | cons x r => cases ha; rfl
  have hnl : ∀ c ∈ (padR w0 a).drop 1 ++ ' ' :: ' ' :: padR w1 b, c ≠ '\n' := by
    intro c hc
    rcases List.mem_append.1 hc with h | h
    · exact padR_noLF w0 a hna c (List.mem_of_mem_drop h)
    · rcases List.mem_cons.1 h with h | h
      · subst h; decide
      · rcases List.mem_cons.1 h with h | h
        · subst h; decide
        · exact padR_noLF w1 b hnb c h
  simp only [printJunkLine, oneLine_id _ hnl, spaces, List.replicate_zero, List.nil_append, tableLine]
  rw [hdrop]
  simp [List.append_assoc]

theorem hdr_facts : (hdr0a.head? = some '#' ∧ hdr0b.head? = some '#') ∧
    (∀ c ∈ hdr0a, c ≠ '\n') ∧ (∀ c ∈ hdr1a, c ≠ '\n') ∧ (∀ c ∈ hdr0b, c ≠ '\n') ∧ (∀ c ∈ hdr1b, c ≠ '\n') := by
  unfold hdr0a hdr1a hdr0b hdr1b
  rw [String.toList_ofList, String.toList_ofList, String.toList_ofList, String.toList_ofList]
  decide +kernel

theorem curve_block (w0 w1 : Nat) (c : ChanF) (cs : List ChanF) :
    printHLines ((c :: cs).map curveHLine) (curvePads w0 w1 true (c :: cs)) =
      tableLine w0 w1 hdr0a hdr1a ++ (tableLine w0 w1 hdr0b hdr1b ++
        ((c :: cs).map (fun c => tableLine w0 w1 (col0 c) (col1 c))).flatten) := by
  obtain ⟨⟨a0, b0⟩, a1, a2, b1, b2⟩ := hdr_facts
  have hj : printJunk (curvePad w0 w1 true c).junk = tableLine w0 w1 hdr0a hdr1a ++ tableLine w0 w1 hdr0b hdr1b := by
    simp only [curvePad, if_true, printJunk, List.map_cons, List.map_nil, List.flatten_cons, List.flatten_nil,
      List.append_nil, hdr_comment w0 w1 hdr0a hdr1a a0 a1 a2, hdr_comment w0 w1 hdr0b hdr1b b0 b1 b2]
  simp only [List.map_cons, printHLines, curvePads, List.headD_cons, List.tail_cons, List.flatten_cons, curve_lines,
    curve_line, hj, List.append_assoc]

theorem curve_head (l : List HPad) :
    printHead 'C' { junk := [], lead := 0, title := "urve Information Section".toList, lines := l } =
      "~Curve Information Section\n".toList := by
  simp only [printHead, printJunk, List.map_nil, List.flatten_nil, spaces, List.replicate_zero, List.nil_append]
  rw [String.toList_ofList, String.toList_ofList]
  decide +kernel

/-- the `~Curve Information Section` block is the C09 printing of the curve lines under `curveLay` -/
theorem curveSection_eq (c : ChanF) (cs : List ChanF) :
    curveSection (c :: cs) = printSect (.hdr 'C' ((c :: cs).map curveHLine)) (curveLay (c :: cs)) := by
  have hb := curve_block (maxLen 10 ((c :: cs).map col0)) (maxLen 17 ((c :: cs).map col1)) c cs
  have hh := curve_head (curvePads (maxLen 10 ((c :: cs).map col0)) (maxLen 17 ((c :: cs).map col1)) true (c :: cs))
  have hs : printSect (.hdr 'C' ((c :: cs).map curveHLine)) (curveLay (c :: cs)) =
      printHead 'C' (curveLay (c :: cs)) ++ printHLines ((c :: cs).map curveHLine) (curveLay (c :: cs)).lines := rfl
  rw [hs]
  unfold curveLay
  simp only []
  rw [hh, hb]
  unfold curveSection
  simp only [List.append_assoc]

/-! ### comment lines and the `~A` line -/

theorem commentLines_eq (cmts : List Str) : printJunk (cmts.map (fun t => JunkLine.comment 0 t)) = commentLines cmts := by
  induction cmts with
  | nil => rfl
  | cons t ts ih =>
    simp only [printJunk, commentLines, List.map_cons, List.flatten_cons, List.map_map] at ih ⊢
    rw [ih]
    simp [printJunkLine, spaces]

theorem headLine_noLF (w : Nat) (cols : List Col) (h : ∀ p ∈ cols, ∀ c ∈ p.2, c ≠ '\n') :
    ∀ c ∈ headLine w cols, c ≠ '\n' := by
  intro c hc
  simp only [headLine, List.mem_cons, List.mem_flatMap] at hc
  rcases hc with hc | hc | ⟨p, hp, hc⟩
  · subst hc; decide
  · subst hc; decide
  · have hpad : ∀ k, ∀ x ∈ padLeft k p.2, x ≠ '\n' := by
      intro k x hx
      rcases List.mem_append.1 hx with h1 | h1
      · have := List.eq_of_mem_replicate h1; subst this; decide
      · exact h p hp x h1
    split at hc
    · exact hpad _ c hc
    · rcases List.mem_cons.1 hc with h1 | h1
      · subst h1; decide
      · exact hpad _ c h1

theorem head_eq (sel : List (ChanF × Nat)) (w : Nat) (cmts : List Str)
    (h : ∀ p ∈ sel, ∀ c ∈ p.1.ch.ident, c ≠ '\n') :
    printHead 'A' (headLay sel w cmts) =
      commentLines cmts ++ headLine w (sel.map (fun p => (p.2, p.1.ch.ident))) ++ ['\n'] := by
  have hn := headLine_noLF w (sel.map (fun p => (p.2, p.1.ch.ident)))
    (by intro p hp; obtain ⟨q, hq, rfl⟩ := List.mem_map.1 hp; exact h q hq)
  have hdrop : headLine w (sel.map (fun p => (p.2, p.1.ch.ident))) =
      '~' :: 'A' :: (headLine w (sel.map (fun p => (p.2, p.1.ch.ident)))).drop 2 := by
    simp [headLine]
  simp only [printHead, headLay, commentLines_eq, spaces, List.replicate_zero]
  rw [oneLine_id _ (fun c hc => hn c (List.mem_of_mem_drop hc))]
  conv_rhs => rw [hdrop]
  simp [List.append_assoc]

/-! ### data rows -/

theorem joinToks_tail (w : Nat) (t0 : Str) (rest : List Col) :
    joinToks (t0 :: rest.map (·.2)) (rest.map (fun p => List.replicate (w - p.2.length) false)) =
      t0 ++ tailLine w rest := by
  induction rest generalizing t0 with
  | nil => simp [joinToks, tailLine]
  | cons p ps ih =>
    simp only [List.map_cons, joinToks, List.headD_cons, List.tail_cons, ih, sep, blanks_false, tailLine,
      List.flatMap_cons, padLeft, List.append_assoc, List.cons_append]

theorem row_eq (w : Nat) (t0 : Str) (rest : List Col) (hpos : ∀ p ∈ rest, 0 < p.1) :
    rowLine w ((0, t0) :: rest) ++ ['\n'] =
      printDataLine (t0 :: rest.map (·.2)) (rowLayOf w ((0, t0) :: rest)) := by
  have h1 : rowLine w ((0, t0) :: rest) = padLeft w t0 ++ rowLine w rest := by simp [rowLine]
  rw [h1, rowLine_tail w rest hpos]
  have hb : blanks ([] : List Bool) = [] := rfl
  simp only [printDataLine, rowLayOf, List.headD_cons, List.tail_cons, joinToks_tail, blanks_false, hb,
    List.append_nil, padLeft, List.append_assoc]

theorem row_print (w d : Nat) (red : Reduction) (c0 : ChanF) (rest : List (ChanF × Nat)) (hpos : ∀ p ∈ rest, 0 < p.2)
    (f : Nat) :
    rowLine w (rowCols ((c0, 0) :: rest) red d f) ++ ['\n'] =
      printRowUnwrapped (rowCells ((c0, 0) :: rest) red d f) (rowLayOf w (rowCols ((c0, 0) :: rest) red d f)) := by
  have := row_eq w (cellText red c0.ch.isInt d (valAt red f c0.ch))
    (rest.map (fun p => (p.2, cellText red p.1.ch.isInt d (valAt red f p.1.ch))))
    (by intro p hp; obtain ⟨q, hq, rfl⟩ := List.mem_map.1 hp; exact hpos q hq)
  simp only [rowCols, List.map_cons, printRowUnwrapped, printJunk, rowLayOf, List.map_nil, List.flatten_nil,
    List.nil_append, rowCells, printCell, List.map_map, Function.comp_def] at this ⊢
  rw [this]

theorem printRows_map {α : Type} (l : List α) (F : α → List DCell) (G : α → RowLay) :
    printRows false (l.map F) (l.map G) = (l.map (fun f => printRowUnwrapped (F f) (G f))).flatten := by
  induction l with
  | nil => rfl
  | cons a l ih => simp [printRows, ih]

theorem printSects_append (pre : List CSect) (lpre : List SectLay) (s : CSect) (ls : SectLay)
    (hlen : lpre.length = pre.length) :
    printSects (pre ++ [s]) (lpre ++ [ls]) = printSects pre lpre ++ printSect s ls := by
  induction pre generalizing lpre with
  | nil =>
    have : lpre = [] := List.eq_nil_of_length_eq_zero hlen
    subst this; simp [printSects]
  | cons p ps ih =>
    cases lpre with
    | nil => simp at hlen
    | cons l ls' =>
      simp only [List.cons_append, printSects, List.headD_cons, List.tail_cons, List.append_assoc]
      rw [ih ls' (by simpa using hlen)]

/-- the selection starts with channel 0 and every other listed channel has a positive index -/
theorem selF_shape (c0 : ChanF) (cs : List ChanF) (S : List Str) :
    ∃ rest, selF (c0 :: cs) S = (c0, 0) :: rest ∧ ∀ p ∈ rest, 0 < p.2 := by
  refine ⟨(cs.zipIdx 1).filter (fun p => (addXAxis ((c0 :: cs).map (·.ch.ident)) S).isEmpty || p.2 == 0 ||
    (addXAxis ((c0 :: cs).map (·.ch.ident)) S).contains p.1.ch.ident), ?_, ?_⟩
  · simp [selF, List.zipIdx_cons]
  · intro p hp
    have := (List.mem_filter.1 hp).1
    have := List.le_snd_of_mem_zipIdx this
    omega

theorem fileText_eq_sections (c0 : ChanF) (cs : List ChanF) (S : List Str) (red : Reduction) (w d n : Nat)
    (cmts : List Str) (hidsel : ∀ p ∈ selF (c0 :: cs) S, ∀ x ∈ p.1.ch.ident, x ≠ '\n') :
    fileText (c0 :: cs) S red w d n cmts =
      printSect (.hdr 'C' ((selF (c0 :: cs) S).map (fun p => curveHLine p.1))) (curveLay ((selF (c0 :: cs) S).map (·.1))) ++
      (printHead 'A' (headLay (selF (c0 :: cs) S) w cmts) ++
        ((List.range n).map (fun f => printRowUnwrapped (rowCells (selF (c0 :: cs) S) red d f)
          (rowLayOf w (rowCols (selF (c0 :: cs) S) red d f)))).flatten) := by
  obtain ⟨rest, hsel, hpos⟩ := selF_shape c0 cs S
  rw [head_eq _ w cmts hidsel, fileText, hsel]
  have hcs := curveSection_eq c0 (rest.map (·.1))
  simp only [List.map_cons, List.map_map, Function.comp_def] at hcs ⊢
  simp only [← hcs, row_print w d red c0 rest hpos, List.append_assoc]

/-- **the writer's text is an instance of the C09 printer** (channel identities without line feeds) -/
theorem fileText_eq_print (v : List HLine) (lv : SectLay) (pre : List CSect) (lpre : List SectLay)
    (c0 : ChanF) (cs : List ChanF) (S : List Str) (red : Reduction) (w d n : Nat) (cmts : List Str)
    (hlen : lpre.length = pre.length) (hwrap : TD.C09.wrapOf ⟨v, [], []⟩ = false)
    (hidsel : ∀ p ∈ selF (c0 :: cs) S, ∀ x ∈ p.1.ch.ident, x ≠ '\n') :
    headerText v lv pre lpre ++ fileText (c0 :: cs) S red w d n cmts =
      TD.C09.print (contentOf v pre (c0 :: cs) S red d n) (layoutOf lv lpre (c0 :: cs) S red w d n cmts) := by
  have hwr : TD.C09.wrapOf (contentOf v pre (c0 :: cs) S red d n) = false := hwrap
  unfold TD.C09.print
  rw [hwr, fileText_eq_sections c0 cs S red w d n cmts hidsel]
  simp only [contentOf, layoutOf, headerText, printSects_append pre lpre _ _ hlen, printRows_map, printJunk,
    List.map_nil, List.flatten_nil, List.append_nil, List.append_assoc]

/-! ### what is read back -/

theorem curvesOf_contentOf (v : List HLine) (pre : List CSect) (chans : List ChanF) (S : List Str) (red : Reduction)
    (d n : Nat) (hpre : ∀ s ∈ pre, s.typ ≠ 'C') :
    TD.C09.curvesOf (contentOf v pre chans S red d n) = (selF chans S).map (fun p => curveHLine p.1) := by
  have hnone : pre.find? (fun s => s.typ == 'C') = none := by
    rw [List.find?_eq_none]; intro s hs; simp [hpre s hs]
  simp only [TD.C09.curvesOf, contentOf]
  rw [List.find?_append, hnone]
  simp [CSect.typ]

end TD.C10
