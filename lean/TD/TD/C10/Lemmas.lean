import TD.C10.Model
import TD.C10.Spec
import Mathlib.Tactic.Ring
import Mathlib.Tactic.Linarith
import Mathlib.Tactic.FieldSimp
import Mathlib.Algebra.Order.Field.Rat
import Mathlib.Algebra.Order.Ring.Abs

/-! Lemmas for C10 on the writer alone (nothing of the C09 reader). -/
namespace TD.C10

/-- For test vectors given as string literals: the kernel expands a literal into `String.ofList` of its characters at
once, whereas `String.toList` (UTF-8 decoding) run by the kernel is quadratic in the length. -/
theorem eq_toList_ofList {l l' : List Char} (h : l = l') : l = (String.ofList l').toList :=
  h.trans String.toList_ofList.symm

/-! ### selection -/
section Selection
variable {Obj : Type}

theorem positionsFrom_eq (p : Obj → Bool) (k : Nat) (xs : List Obj) :
    positionsFrom p k xs = ((xs.zipIdx k).filter (fun q => p q.1)).map (·.2) := by
  induction xs generalizing k with
  | nil => rfl
  | cons x xs ih =>
    simp only [positionsFrom, List.zipIdx_cons, List.filter_cons, ih]
    cases p x <;> rfl

theorem sel_cons_congr {q q' : Obj × Nat → Bool} {x : Obj} {rest : List Obj} (h0 : q (x, 0) = q' (x, 0))
    (ht : ∀ p ∈ rest.zipIdx 1, q p = q' p) :
    (((x :: rest).zipIdx).filter q).map (·.2) = (((x :: rest).zipIdx).filter q').map (·.2) := by
  rw [List.filter_congr]
  simpa only [List.zipIdx_cons, List.forall_mem_cons, Nat.zero_add] using ⟨h0, ht⟩

theorem snd_beq_zero {rest : List Obj} {p : Obj × Nat} (hp : p ∈ rest.zipIdx 1) : (p.2 == 0) = false :=
  beq_eq_false_iff_ne.2 (Nat.ne_of_gt (List.le_snd_of_mem_zipIdx hp))

variable [DecidableEq Obj]

theorem addXAxis_cons (x : Obj) (rest S : List Obj) :
    addXAxis (x :: rest) S = if S.isEmpty || S.contains x then S else x :: S := by
  unfold addXAxis
  cases S.isEmpty <;> rfl

theorem addXAxis_isEmpty (idents S : List Obj) : (addXAxis idents S).isEmpty = S.isEmpty := by
  cases idents with
  | nil => unfold addXAxis; split <;> rfl
  | cons x rest =>
    rw [addXAxis_cons]
    split
    · rfl
    · rename_i h; simp only [Bool.or_eq_true, not_or, Bool.not_eq_true] at h; rw [h.1]; rfl

theorem contains_addXAxis (x : Obj) (rest S : List Obj) (y : Obj) :
    (addXAxis (x :: rest) S).contains y = (S.contains y || (!S.isEmpty && y == x)) := by
  rw [addXAxis_cons]
  cases hE : S.isEmpty
  · cases hx : S.contains x
    · simp only [Bool.or_self, Bool.false_eq_true, if_false, List.contains_cons, Bool.not_false, Bool.true_and, Bool.or_comm]
    · simp only [Bool.or_true, if_true, Bool.not_false, Bool.true_and]
      by_cases h : y = x
      · subst h; rw [hx]; rfl
      · rw [beq_eq_false_iff_ne.2 h, Bool.or_false]
  · simp only [Bool.true_or, if_true, Bool.not_true, Bool.false_and, Bool.or_false]

theorem addXAxis_head (x : Obj) (rest S : List Obj) :
    ((addXAxis (x :: rest) S).isEmpty || (addXAxis (x :: rest) S).contains x) = true := by
  rw [addXAxis_isEmpty, contains_addXAxis, beq_self_eq_true, Bool.and_true]
  cases S.isEmpty <;> simp

theorem headSel_eq_specSel (idents S : List Obj) : headSel idents S = specSel idents S := by
  cases idents with
  | nil => rfl
  | cons x rest =>
    unfold headSel specSel
    cases hS : S.isEmpty
    · simp only [Bool.false_or, List.zipIdx_cons, List.filter_cons, beq_self_eq_true, Bool.true_or, if_true, List.map_cons,
        Bool.false_eq_true, if_false, positionsFrom_eq, Nat.zero_add]
      rw [List.filter_congr (fun p hp => by rw [snd_beq_zero hp, Bool.false_or])]
    · simp only [Bool.true_or, List.filter_true, List.zipIdx_map_snd, if_true, List.range_eq_range', List.length_cons]

theorem curveSel_eq_headSel (stringify : Obj → Obj) (idents S : List Obj) (hstr : ∀ i ∈ idents, stringify i = i) :
    curveSel stringify idents S = headSel idents S := by
  unfold curveSel headSel
  rw [List.filter_congr (fun p hp => by rw [hstr p.1 (List.fst_mem_of_mem_zipIdx hp)])]

theorem headSel_addXAxis (idents S : List Obj) (hnd : idents.Nodup) :
    headSel idents (addXAxis idents S) = headSel idents S := by
  cases idents with
  | nil => rfl
  | cons x rest =>
    refine sel_cons_congr (by simp only [beq_self_eq_true, Bool.or_true, Bool.true_or]) (fun p hp => ?_)
    have hpx : (p.1 == x) = false :=
      beq_eq_false_iff_ne.2 (fun h => (List.nodup_cons.1 hnd).1 (h ▸ List.fst_mem_of_mem_zipIdx hp))
    simp only [addXAxis_isEmpty, contains_addXAxis, hpx, Bool.and_false, Bool.or_false]

theorem rowSel_addXAxis (idents S : List Obj) (hnd : idents.Nodup) :
    rowSel idents (addXAxis idents S) = headSel idents S := by
  cases idents with
  | nil => rfl
  | cons x rest =>
    refine sel_cons_congr ?_ (fun p hp => ?_)
    · simp only [addXAxis_head, beq_self_eq_true, Bool.or_true, Bool.true_or]
    · have hpx : (p.1 == x) = false :=
        beq_eq_false_iff_ne.2 (fun h => (List.nodup_cons.1 hnd).1 (h ▸ List.fst_mem_of_mem_zipIdx hp))
      simp only [addXAxis_isEmpty, contains_addXAxis, hpx, Bool.and_false, Bool.or_false, snd_beq_zero hp]
end Selection

/-! ### tokenising -/

theorem splitWsAux_blank_cons (cur rest : List Char) :
    splitWsAux cur (' ' :: rest) = (if cur.isEmpty then [] else [cur]) ++ splitWsAux [] rest := by
  simp only [splitWsAux, if_true]
  split <;> simp

/-- the part of a line after its first field: every field preceded by one blank -/
def tailLine (w : Nat) (cols : List Col) : List Char := cols.flatMap (fun p => ' ' :: padLeft w p.2)

def GoodText (t : List Char) : Prop := t ≠ [] ∧ ∀ c ∈ t, c ≠ ' '

theorem rowLine_tail (w : Nat) (cols : List Col) (h : ∀ p ∈ cols, 0 < p.1) :
    rowLine w cols = tailLine w cols := by
  induction cols with
  | nil => rfl
  | cons p cols ih =>
    have hp : p.1 > 0 := h p (by simp)
    have := ih (fun q hq => h q (by simp [hq]))
    simp only [rowLine, tailLine, List.flatMap_cons, hp, if_true] at this ⊢
    rw [this]; simp

theorem tail_pos_of_pairwise (p : Col) (cols : List Col)
    (h : ((p :: cols).map (·.1)).Pairwise (· < ·)) : ∀ q ∈ cols, 0 < q.1 := by
  intro q hq
  simp only [List.map_cons, List.pairwise_cons, List.mem_map] at h
  have := h.1 q.1 ⟨q, hq, rfl⟩
  omega

/-- What the proofs use of a tokeniser on blanks `sp`: `T cur rest` continues with `cur` the token read so far.
C10's own `splitWsAux` and the reader's `TD.C09.splitWsAux` both are one. -/
structure Tokeniser (sp : Char → Bool) (T : List Char → List Char → List (List Char)) : Prop where
  read : ∀ c cur rest, sp c = false → T cur (c :: rest) = T (cur ++ [c]) rest
  stop : ∀ c cur rest, sp c = true → T cur (c :: rest) = (if cur.isEmpty then [] else [cur]) ++ T [] rest
  done : ∀ cur, T cur [] = if cur.isEmpty then [] else [cur]

theorem tokeniser_splitWsAux : Tokeniser (· == ' ') splitWsAux where
  read c cur rest hc := by rw [splitWsAux, if_neg (ne_of_beq_false hc)]
  stop c cur rest hc := by rw [eq_of_beq hc, splitWsAux_blank_cons]
  done cur := rfl

namespace Tokeniser
variable {sp : Char → Bool} {T : List Char → List Char → List (List Char)} (h : Tokeniser sp T)
include h

theorem blanks (ws rest : List Char) (hw : ∀ c ∈ ws, sp c = true) : T [] (ws ++ rest) = T [] rest := by
  induction ws with
  | nil => rfl
  | cons c ws ih =>
    rw [List.cons_append, h.stop c _ _ (hw c (by simp)), ih (fun x hx => hw x (by simp [hx]))]; rfl

theorem token (t cur rest : List Char) (ht : ∀ c ∈ t, sp c = false) : T cur (t ++ rest) = T (cur ++ t) rest := by
  induction t generalizing cur with
  | nil => rw [List.append_nil]; rfl
  | cons c t ih =>
    rw [List.cons_append, h.read c _ _ (ht c (by simp)), ih _ (fun x hx => ht x (by simp [hx])), List.append_assoc]; rfl

theorem trailing (trail cur : List Char) (ht : ∀ c ∈ trail, sp c = true) :
    T cur trail = if cur.isEmpty then [] else [cur] := by
  induction trail generalizing cur with
  | nil => exact h.done cur
  | cons c tr ih =>
    rw [h.stop c _ _ (ht c (by simp)), ih [] (fun x hx => ht x (by simp [hx]))]
    exact List.append_nil _

variable (hb : sp ' ' = true) {α : Type} (n : α → Nat) (txt : α → List Char)
include hb

theorem rest (xs : List α) (cur trail : List Char) (hn : ∀ y ∈ xs, 0 < n y)
    (htxt : ∀ y ∈ xs, txt y ≠ [] ∧ ∀ c ∈ txt y, sp c = false) (ht : ∀ c ∈ trail, sp c = true) :
    T cur (xs.flatMap (fun y => List.replicate (n y) ' ' ++ txt y) ++ trail) =
      (if cur.isEmpty then [] else [cur]) ++ xs.map txt := by
  induction xs generalizing cur with
  | nil => simpa using h.trailing trail cur ht
  | cons y ys ih =>
    obtain ⟨htn, htx⟩ := htxt y (by simp)
    obtain ⟨k, hk⟩ : ∃ k, n y = k + 1 := ⟨n y - 1, by have := hn y (by simp); omega⟩
    simp only [List.flatMap_cons, hk, List.replicate_succ, List.cons_append, List.append_assoc]
    rw [h.stop ' ' _ _ hb, h.blanks _ _ (fun x hx => List.eq_of_mem_replicate hx ▸ hb),
      h.token _ _ _ htx, List.nil_append,
      ih _ (fun z hz => hn z (by simp [hz])) (fun z hz => htxt z (by simp [hz])), List.isEmpty_eq_false_iff.2 htn]
    rfl

theorem fields (xs : List α) (trail : List Char) (hn : ∀ y ∈ xs.tail, 0 < n y)
    (htxt : ∀ y ∈ xs, txt y ≠ [] ∧ ∀ c ∈ txt y, sp c = false) (ht : ∀ c ∈ trail, sp c = true) :
    T [] (xs.flatMap (fun y => List.replicate (n y) ' ' ++ txt y) ++ trail) = xs.map txt := by
  cases xs with
  | nil => exact h.trailing trail [] ht
  | cons x xs =>
    obtain ⟨htn, htx⟩ := htxt x (by simp)
    simp only [List.flatMap_cons, List.append_assoc]
    rw [h.blanks _ _ (fun x hx => List.eq_of_mem_replicate hx ▸ hb), h.token _ _ _ htx, List.nil_append,
      h.rest hb n txt xs _ trail hn (fun z hz => htxt z (by simp [hz])) ht, List.isEmpty_eq_false_iff.2 htn]
    rfl


theorem of_rowLine (w : Nat) (cols : List Col) (trail : List Char) (hidx : (cols.map (·.1)).Pairwise (· < ·))
    (hg : ∀ p ∈ cols, p.2 ≠ [] ∧ ∀ c ∈ p.2, sp c = false) (ht : ∀ c ∈ trail, sp c = true) :
    T [] (rowLine w cols ++ trail) = cols.map (·.2) := by
  have e : rowLine w cols = cols.flatMap (fun q =>
      List.replicate (if q.1 > 0 then w - q.2.length + 1 else w - q.2.length) ' ' ++ q.2) :=
    congrArg (cols.flatMap ·) (funext fun q => by unfold padLeft; split <;> rfl)
  rw [e]
  refine h.fields hb _ _ cols trail (fun q hq => ?_) hg ht
  cases cols with
  | nil => cases hq
  | cons p ps => rw [if_pos (tail_pos_of_pairwise p ps hidx q hq)]; exact Nat.succ_pos _

end Tokeniser

/-! ### digit strings -/

theorem digitChar_table : ∀ k : Fin 10, charDigit? (digitChar k) = some k.1 ∧ digitChar k ≠ ' ' ∧
    (digitChar k != '.') = true ∧ digitChar k ≠ '-' := by decide +kernel

theorem charDigit_digitChar {k : Nat} (hk : k < 10) : charDigit? (digitChar k) = some k :=
  (digitChar_table ⟨k, hk⟩).1

theorem digitChar_ne_blank {k : Nat} (hk : k < 10) : digitChar k ≠ ' ' := (digitChar_table ⟨k, hk⟩).2.1

theorem digitChar_ne_dot {k : Nat} (hk : k < 10) : (digitChar k != '.') = true := (digitChar_table ⟨k, hk⟩).2.2.1

theorem digitChar_ne_minus {k : Nat} (hk : k < 10) : digitChar k ≠ '-' := (digitChar_table ⟨k, hk⟩).2.2.2

def AllDigits (ds : List Nat) : Prop := ∀ d ∈ ds, d < 10

theorem digitsVal_map (ds : List Nat) (acc : Nat) (h : AllDigits ds) :
    digitsVal acc (ds.map digitChar) = some (ds.foldl (fun a d => 10 * a + d) acc) := by
  induction ds generalizing acc with
  | nil => rfl
  | cons d ds ih =>
    have hd : d < 10 := h d (by simp)
    simp only [List.map_cons, digitsVal, charDigit_digitChar hd, List.foldl_cons]
    exact ih _ (fun x hx => h x (by simp [hx]))

theorem natDigits_all (n : Nat) : AllDigits (natDigits n) := by
  induction n using Nat.strong_induction_on with
  | _ n ih =>
    unfold natDigits
    split
    · intro d hd; simp at hd; omega
    · intro d hd
      simp only [List.mem_append, List.mem_singleton] at hd
      rcases hd with hd | hd
      · exact ih (n / 10) (by omega) d hd
      · omega

theorem natDigits_ne_nil (n : Nat) : natDigits n ≠ [] := by
  unfold natDigits; split <;> simp

theorem natDigits_val (n : Nat) : (natDigits n).foldl (fun a d => 10 * a + d) 0 = n := by
  induction n using Nat.strong_induction_on with
  | _ n ih =>
    unfold natDigits
    split
    · simp
    · rw [List.foldl_append, ih (n / 10) (by omega)]; simp; omega

theorem fixDigits_all (d m : Nat) : AllDigits (fixDigits d m) := by
  induction d generalizing m with
  | zero => intro x hx; simp [fixDigits] at hx
  | succ d ih =>
    intro x hx
    simp only [fixDigits, List.mem_append, List.mem_singleton] at hx
    rcases hx with hx | hx
    · exact ih _ x hx
    · omega

theorem fixDigits_length (d m : Nat) : (fixDigits d m).length = d := by
  induction d generalizing m with
  | zero => rfl
  | succ d ih => simp [fixDigits, ih]

theorem fixDigits_val (d m : Nat) : (fixDigits d m).foldl (fun a d => 10 * a + d) 0 = m % 10 ^ d := by
  induction d generalizing m with
  | zero => simp [fixDigits, Nat.mod_one]
  | succ d ih =>
    simp only [fixDigits, List.foldl_append, ih, List.foldl_cons, List.foldl_nil]
    rw [Nat.pow_succ, Nat.mul_comm (10 ^ d) 10, Nat.mod_mul]; omega

/-- unsigned body of a fixed-point numeral -/
def fixedBody (m d : Nat) : List Char :=
  (natDigits (m / 10 ^ d)).map digitChar ++
    (if d = 0 then [] else '.' :: (fixDigits d (m % 10 ^ d)).map digitChar)

theorem map_digitChar_nodot (ds : List Nat) (h : AllDigits ds) : ∀ c ∈ ds.map digitChar, (c != '.') = true := by
  intro c hc
  simp only [List.mem_map] at hc
  obtain ⟨k, hk, rfl⟩ := hc
  exact digitChar_ne_dot (h k hk)

theorem div_add_mod_div (m P : Nat) (hP : 0 < P) :
    ((m / P : Nat) : Rat) + ((m % P : Nat) : Rat) / P = (m : Rat) / P := by
  have hP' : (P : Rat) ≠ 0 := Nat.cast_ne_zero.2 hP.ne'
  rw [eq_div_iff hP', add_mul, div_mul_cancel₀ _ hP']
  exact_mod_cast Nat.div_add_mod' m P

theorem parseUnsigned_fixedBody (m d : Nat) :
    parseUnsigned (fixedBody m d) = some ((m : Rat) / (10 : Rat) ^ d) := by
  have hne : ((natDigits (m / 10 ^ d)).map digitChar).isEmpty = false := by
    rw [List.isEmpty_eq_false_iff, ne_eq, List.map_eq_nil_iff]; exact natDigits_ne_nil _
  have hnd := map_digitChar_nodot _ (natDigits_all (m / 10 ^ d))
  unfold fixedBody parseUnsigned
  simp only [List.takeWhile_append_of_pos hnd, List.dropWhile_append_of_pos hnd]
  by_cases hd : d = 0
  · subst hd
    simp only [if_true, List.takeWhile_nil, List.dropWhile_nil, List.append_nil, hne, Bool.false_eq_true, if_false,
      digitsVal_map _ 0 (natDigits_all _), natDigits_val]
    simp
  · simp only [hd, if_false, List.takeWhile_cons, List.dropWhile_cons, bne_self_eq_false, List.append_nil, hne,
      Bool.false_eq_true, digitsVal_map _ 0 (natDigits_all _), natDigits_val,
      digitsVal_map _ 0 (fixDigits_all _ _), fixDigits_val, List.length_map, fixDigits_length, Nat.mod_mod]
    have := div_add_mod_div m (10 ^ d) (Nat.pow_pos (by decide))
    rw [Nat.cast_pow] at this
    exact congrArg some (by exact_mod_cast this)

/-! ### rounding -/

theorem roundHalfEven_cases (x : Rat) :
    (roundHalfEven x = x.num / x.den ∧ 2 * (x.num % x.den) ≤ x.den) ∨
    (roundHalfEven x = x.num / x.den + 1 ∧ (x.den : Int) ≤ 2 * (x.num % x.den)) := by
  unfold roundHalfEven
  dsimp only
  split_ifs with h1 h2
  · exact .inl ⟨rfl, Int.le_of_lt h1⟩
  · exact .inr ⟨rfl, Int.le_of_lt h2⟩
  · exact .inl ⟨rfl, Int.not_lt.1 h2⟩
  · exact .inr ⟨rfl, Int.not_lt.1 h1⟩

theorem abs_le_of_abs_mul_le {y P c : Rat} (hP : 0 < P) (h : |y * P| ≤ c * P) : |y| ≤ c := by
  rw [abs_mul, abs_of_pos hP] at h
  exact le_of_mul_le_mul_right h hP

theorem roundHalfEven_err (x : Rat) : |(roundHalfEven x : Rat) - x| ≤ 1 / 2 := by
  have hD : (0 : Int) < x.den := Int.natCast_pos.2 x.den_pos
  have hdm := Int.ediv_mul_add_emod x.num x.den
  have hr0 := Int.emod_nonneg x.num hD.ne'
  have hr1 := Int.emod_lt_of_pos x.num hD
  -- the bound in integers, scaled by the denominator
  have key : |2 * (roundHalfEven x * x.den - x.num)| ≤ x.den := by
    rw [abs_le]
    rcases roundHalfEven_cases x with ⟨e, h⟩ | ⟨e, h⟩
    · rw [e]; omega
    · rw [e, Int.add_mul, Int.one_mul]; omega
  apply abs_le_of_abs_mul_le (P := x.den) (Int.cast_pos.2 hD)
  rw [sub_mul, Rat.mul_den_eq_num]
  have := Int.cast_le (R := Rat) |>.2 key
  push_cast [abs_mul, abs_two] at this
  linarith

theorem roundHalfEven_scaled_err (v : Rat) (d : Nat) :
    |(roundHalfEven (v * (10 : Rat) ^ d) : Rat) / (10 : Rat) ^ d - v| ≤ 1 / (2 * (10 : Rat) ^ d) := by
  have hP : (0 : Rat) < (10 : Rat) ^ d := by positivity
  apply abs_le_of_abs_mul_le hP
  rw [sub_mul, div_mul_cancel₀ _ hP.ne', show 1 / (2 * (10 : Rat) ^ d) * (10 : Rat) ^ d = 1 / 2 by field_simp]
  exact roundHalfEven_err _

theorem roundHalfEven_nonneg {x : Rat} (h : 0 ≤ x) : 0 ≤ roundHalfEven x := by
  have hq : 0 ≤ x.num / x.den := Int.ediv_nonneg (Rat.num_nonneg.2 h) (Int.natCast_nonneg _)
  rcases roundHalfEven_cases x with ⟨e, _⟩ | ⟨e, _⟩ <;> omega

theorem roundHalfEven_nonpos {x : Rat} (h : x < 0) : roundHalfEven x ≤ 0 := by
  have hq : x.num / x.den < 0 := Int.ediv_neg_of_neg_of_pos (Rat.num_neg.2 h) (Int.natCast_pos.2 x.den_pos)
  rcases roundHalfEven_cases x with ⟨e, _⟩ | ⟨e, _⟩ <;> omega

/-! ### numerals: a fixed-point body, with a sign -/

theorem parseDec_of_head_ne (c : Char) (cs : List Char) (h : c ≠ '-') :
    parseDec (c :: cs) = parseUnsigned (c :: cs) := by
  unfold parseDec
  split
  · rename_i heq; simp only [List.cons.injEq] at heq; exact absurd heq.1 h
  · rfl

theorem fixedBody_head (m d : Nat) : ∃ k cs, k < 10 ∧ fixedBody m d = digitChar k :: cs := by
  unfold fixedBody
  have hne := natDigits_ne_nil (m / 10 ^ d)
  have hall := natDigits_all (m / 10 ^ d)
  cases h : natDigits (m / 10 ^ d) with
  | nil => exact absurd h hne
  | cons k ks =>
    refine ⟨k, _, ?_, by simp only [List.map_cons, List.cons_append]; rfl⟩
    exact hall k (by simp [h])

theorem parseDec_fixedBody (m d : Nat) : parseDec (fixedBody m d) = some ((m : Rat) / (10 : Rat) ^ d) := by
  obtain ⟨k, cs, hk, h⟩ := fixedBody_head m d
  rw [h, parseDec_of_head_ne _ _ (digitChar_ne_minus hk), ← h, parseUnsigned_fixedBody]

theorem parseDec_neg_fixedBody (m d : Nat) :
    parseDec ('-' :: fixedBody m d) = some (-((m : Rat) / (10 : Rat) ^ d)) := by
  simp [parseDec, parseUnsigned_fixedBody]

/-- a printed numeral: an optional sign, then the fixed-point body of the absolute value -/
def signed (neg : Bool) (m d : Nat) : List Char := (if neg then ['-'] else []) ++ fixedBody m d

/-- the integer a numeral stands for, in units of `10^-d` -/
def signedVal (neg : Bool) (m : Nat) : Int := if neg then -(m : Int) else m

theorem fmtFixed_eq (negz : Bool) (v : Rat) (d : Nat) :
    fmtFixed negz v d = signed (v < 0 || (negz && v.num == 0)) (roundHalfEven (v * (10 : Rat) ^ d)).natAbs d := by
  simp [fmtFixed, fixedBody, signed]

/-- `-0.00` stands for 0 -/
theorem fmtFixed_val (negz : Bool) (v : Rat) (d : Nat) :
    signedVal (v < 0 || (negz && v.num == 0)) (roundHalfEven (v * (10 : Rat) ^ d)).natAbs =
      roundHalfEven (v * (10 : Rat) ^ d) := by
  have hP : (0 : Rat) < (10 : Rat) ^ d := by positivity
  unfold signedVal
  by_cases hv : v < 0
  · have := roundHalfEven_nonpos (mul_neg_of_neg_of_pos hv hP)
    simp only [hv, decide_true, Bool.true_or, if_true]; omega
  · have := roundHalfEven_nonneg (mul_nonneg (not_lt.1 hv) hP.le)
    simp only [hv, decide_false, Bool.false_or]
    split
    · rename_i hz
      simp only [Bool.and_eq_true, beq_iff_eq] at hz
      rw [Rat.zero_of_num_zero hz.2, zero_mul]; rfl
    · omega

theorem intText_eq (n : Int) : intText n = signed (decide (n < 0)) n.natAbs 0 := by
  simp [intText, fixedBody, signed]

theorem intText_val (n : Int) : signedVal (decide (n < 0)) n.natAbs = n := by
  unfold signedVal; split <;> rename_i h <;> simp only [decide_eq_true_eq] at h <;> omega

theorem signed_chars (neg : Bool) (m d : Nat) :
    ∀ c ∈ signed neg m d, c = '-' ∨ c = '.' ∨ ∃ k, k < 10 ∧ c = digitChar k := by
  intro c hc
  simp only [signed, fixedBody, List.mem_append, List.mem_map] at hc
  rcases hc with hc | ⟨k, hk, rfl⟩ | hc
  · split at hc
    · exact .inl (List.mem_singleton.1 hc)
    · cases hc
  · exact .inr (.inr ⟨k, natDigits_all _ k hk, rfl⟩)
  · split at hc
    · cases hc
    · rcases List.mem_cons.1 hc with rfl | hc
      · exact .inr (.inl rfl)
      · obtain ⟨k, hk, rfl⟩ := List.mem_map.1 hc
        exact .inr (.inr ⟨k, fixDigits_all _ _ k hk, rfl⟩)

theorem signed_head (neg : Bool) (m d : Nat) :
    ∃ k r, k < 10 ∧ (signed neg m d = digitChar k :: r ∨ signed neg m d = '-' :: r) := by
  obtain ⟨k, cs, hk, h⟩ := fixedBody_head m d
  cases neg
  · exact ⟨k, cs, hk, .inl h⟩
  · exact ⟨k, _, hk, .inr rfl⟩

theorem goodText_signed (neg : Bool) (m d : Nat) : GoodText (signed neg m d) := by
  obtain ⟨k, r, -, h | h⟩ := signed_head neg m d
  all_goals
    refine ⟨by rw [h]; exact List.cons_ne_nil _ _, fun c hc => ?_⟩
    rcases signed_chars neg m d c hc with rfl | rfl | ⟨k, hk, rfl⟩
    · decide
    · decide
    · exact digitChar_ne_blank hk

theorem parseDec_signed (neg : Bool) (m d : Nat) :
    parseDec (signed neg m d) = some ((signedVal neg m : Rat) / (10 : Rat) ^ d) := by
  cases neg
  · exact (parseDec_fixedBody m d).trans (by simp [signedVal])
  · exact (parseDec_neg_fixedBody m d).trans (by simp [signedVal, neg_div])

theorem parseDec_fmtFixed (negz : Bool) (v : Rat) (d : Nat) :
    parseDec (fmtFixed negz v d) = some ((roundHalfEven (v * (10 : Rat) ^ d) : Rat) / (10 : Rat) ^ d) := by
  rw [fmtFixed_eq, parseDec_signed, fmtFixed_val]

theorem goodText_fmtFixed (negz : Bool) (v : Rat) (d : Nat) : GoodText (fmtFixed negz v d) :=
  fmtFixed_eq negz v d ▸ goodText_signed _ _ _

theorem goodText_intText (n : Int) : GoodText (intText n) := intText_eq n ▸ goodText_signed _ _ _

/-! ### `mapE`, folds -/

theorem mapE_length {α β ε : Type} (f : α → Except ε β) (l : List α) (r : List β) (h : mapE f l = .ok r) :
    r.length = l.length := by
  induction l generalizing r with
  | nil => simp only [mapE, Except.ok.injEq] at h; subst h; rfl
  | cons a as ih =>
    unfold mapE at h
    split at h
    · exact absurd h (by simp)
    · split at h
      · exact absurd h (by simp)
      · rename_i bs hbs
        simp only [Except.ok.injEq] at h; subst h
        simp [ih _ hbs]

theorem mapE_cols {α : Type} (g : α → Except Err (List Char)) (idx : α → Nat) (l : List α) (r : List Col)
    (h : mapE (fun a => (g a).map (fun t => ((idx a, t) : Col))) l = .ok r) :
    r.map (·.1) = l.map idx ∧ ∀ p ∈ r, ∃ a ∈ l, g a = .ok p.2 := by
  induction l generalizing r with
  | nil => simp only [mapE, Except.ok.injEq] at h; subst h; simp
  | cons a as ih =>
    unfold mapE at h
    split at h
    · exact absurd h (by simp)
    · rename_i b hb
      split at h
      · exact absurd h (by simp)
      · rename_i bs hbs
        simp only [Except.ok.injEq] at h; subst h
        obtain ⟨h1, h2⟩ := ih _ hbs
        cases hg : g a with
        | error e => rw [hg] at hb; exact absurd hb (by simp [Except.map])
        | ok t =>
          rw [hg] at hb
          simp only [Except.map, Except.ok.injEq] at hb
          subst hb
          refine ⟨by simp [h1], ?_⟩
          intro p hp
          simp only [List.mem_cons] at hp
          rcases hp with rfl | hp
          · exact ⟨a, by simp, hg⟩
          · obtain ⟨a', ha', hga'⟩ := h2 p hp
            exact ⟨a', by simp [ha'], hga'⟩

theorem foldl_pick_mem (pick : Rat → Rat → Rat) (hp : ∀ a b, pick a b = a ∨ pick a b = b) (xs : List Rat) (a : Rat) :
    xs.foldl pick a = a ∨ xs.foldl pick a ∈ xs := by
  induction xs generalizing a with
  | nil => left; rfl
  | cons x xs ih =>
    simp only [List.foldl_cons, List.mem_cons]
    rcases ih (pick a x) with h | h
    · rcases hp a x with h' | h'
      · left; rw [h, h']
      · right; left; rw [h, h']
    · right; right; exact h

end TD.C10
