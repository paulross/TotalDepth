import TD.C10.FileLemmas

/-!
# C10 — LAS written by TotalDepth reads back as the same log

Property theorems only.  The model (`TD.C10.Model`) transcribes the frame-array writers of
`TotalDepth/LAS/core/WriteLAS.py`; `TD.C10.Spec` holds the independent side (`specSel`, `splitWs`, `parseDec`).
The model is tied to the Python source by the correspondence run of `./check C10`.
The last section composes the writer model with the READER model of C09 (`TD.C10.Compose`).

Not proved here (exercised by the harness only): the float64 rounding inside `np.mean`/`np.median`, and that
CPython's `format(float, '.nf')` is `fmtFixed` of the exact binary value.
-/
namespace TD.C10

/-! ## same_channels -/

/-- **same_channels**: for every frame array (non-empty, distinct identities, identities that `_stringify` leaves
alone, i.e. `str`) and EVERY requested set `S` (empty, any subset, names that are not present): the curve section, the
`~A` heading and every data row list the same channels — all of them when `S` is empty, otherwise channel 0 followed
by the requested channels that are present, in frame-array order (`specSel`). -/
theorem same_channels {Obj : Type} [DecidableEq Obj] (stringify : Obj → Obj) (idents S : List Obj)
    (hne : idents ≠ []) (hnd : idents.Nodup) (hstr : ∀ i ∈ idents, stringify i = i) :
    writeSel stringify idents S =
      { curve := specSel idents S, head := specSel idents S, rows := specSel idents S } := by
  simp only [writeSel, curveSel_eq_headSel stringify idents S hstr, rowSel_addXAxis idents _ hnd,
    headSel_addXAxis idents S hnd, headSel_eq_specSel]

example : writeSel (fun s : String => s) ["DEPT", "GR", "RHOB", "NPHI"] ["NPHI", "ZZZ", "GR"] =
    { curve := [0, 1, 3], head := [0, 1, 3], rows := [0, 1, 3] } := by decide
example : specSel ["DEPT", "GR", "RHOB", "NPHI"] ["NPHI", "ZZZ", "GR"] = [0, 1, 3] := by decide
example : specSel ["DEPT", "GR", "RHOB"] ([] : List String) = [0, 1, 2] := by decide
example : specSel ["DEPT", "GR", "RHOB"] ["ZZZ"] = [0] := by decide

/-- Names are compared EXACTLY (no stripping, no case folding): the LIS-style padded channel `"GR  "` is not selected by
the request `"GR"`, in none of the three places; a stripping curve section (`stringify` mapping `"GR  "` to `"GR"`) would list it alone. -/
example : writeSel (fun s : String => s) ["DEPT", "GR  ", "RHOB"] ["GR", "rhob"] = { curve := [0], head := [0], rows := [0] } ∧
    writeSel (fun s : String => s) ["DEPT", "GR  ", "RHOB"] ["GR  "] = { curve := [0, 1], head := [0, 1], rows := [0, 1] } ∧
    writeSel (fun s : String => if s = "GR  " then "GR" else s) ["DEPT", "GR  ", "RHOB"] ["GR"] = { curve := [0, 1], head := [0], rows := [0] } := by
  decide

/-- adding the X axis twice (header, then data writer on the same set) is the same as adding it once -/
theorem addXAxis_idem {Obj : Type} [DecidableEq Obj] (idents S : List Obj) :
    addXAxis idents (addXAxis idents S) = addXAxis idents S := by
  cases idents with
  | nil => simp [addXAxis]
  | cons x rest => rw [addXAxis_cons x rest (addXAxis _ S), addXAxis_head, if_pos rfl]

/-- **same_channels**, incremental use (`write_curve_section_to_las`, `write_array_section_header_to_las`,
`write_array_section_data_to_las` called one by one, each with its OWN copy of the requested set, as the docstring
of the data writer describes): the three lists are still the specified one, because the header and the data writer
each add the X axis themselves. -/
theorem same_channels_separate {Obj : Type} [DecidableEq Obj] (stringify : Obj → Obj) (idents S : List Obj)
    (hne : idents ≠ []) (hnd : idents.Nodup) (hstr : ∀ i ∈ idents, stringify i = i) :
    curveSel stringify idents S = specSel idents S ∧
    headSel idents (addXAxis idents S) = specSel idents S ∧
    rowSel idents (addXAxis idents S) = specSel idents S := by
  rw [curveSel_eq_headSel stringify idents S hstr, headSel_addXAxis idents S hnd, rowSel_addXAxis idents S hnd,
    headSel_eq_specSel]
  exact ⟨rfl, rfl, rfl⟩

example : rowSel ["DEPT", "GR", "RHOB"] (addXAxis ["DEPT", "GR", "RHOB"] ["RHOB"]) = [0, 2] := by decide

/-- The hypothesis `stringify i = i` matters: with integer identities (API use only) and a set holding the `str` form,
the curve section lists the channel while heading and rows do not (and the other way round for the raw integer). -/
example : writeSel (fun o : Nat ⊕ String => match o with | .inl n => .inr (toString n) | o => o)
    [.inr "DEPT", .inl 5] [.inr "5"] = { curve := [0, 1], head := [0], rows := [0] } := by decide
example : writeSel (fun o : Nat ⊕ String => match o with | .inl n => .inr (toString n) | o => o)
    [.inr "DEPT", .inl 5] [.inl 5] = { curve := [0], head := [0, 1], rows := [0, 1] } := by decide

/-- The specified list is exactly: position `c` of the frame array is listed iff nothing was requested, or `c = 0`,
or the identity at `c` was requested; and it is strictly increasing (frame-array order, no repeats). -/
theorem specSel_mem_iff {Obj : Type} [DecidableEq Obj] (idents S : List Obj) (c : Nat) :
    c ∈ specSel idents S ↔ ∃ x, idents[c]? = some x ∧ (S = [] ∨ c = 0 ∨ x ∈ S) := by
  rw [← headSel_eq_specSel]
  simp only [headSel, List.mem_map, List.mem_filter, List.mem_zipIdx_iff_getElem?, Bool.or_eq_true, List.isEmpty_iff,
    beq_iff_eq, List.contains_eq_mem, decide_eq_true_eq, or_assoc]
  constructor
  · rintro ⟨p, ⟨h1, h2⟩, rfl⟩
    exact ⟨p.1, h1, h2⟩
  · rintro ⟨x, h1, h2⟩
    exact ⟨(x, c), ⟨h1, h2⟩, rfl⟩

/-- the specified list starts with the X axis (channel 0): the first field of every row is the index value -/
theorem specSel_head {Obj : Type} [DecidableEq Obj] (idents S : List Obj) (hne : idents ≠ []) :
    (specSel idents S).head? = some 0 := by
  cases idents with
  | nil => exact absurd rfl hne
  | cons x rest =>
    simp only [specSel]
    split
    · simp [List.range_succ_eq_map]
    · rfl

example : (specSel ["DEPT", "GR"] ["GR"]).head? = some 0 := by decide

/-! ## fields_separated -/

/-- **fields_separated** (data rows): whatever the field width and however wide the value texts are, a printed row
tokenises on blanks into exactly the list of value texts — consecutive fields are always separated by at least one
blank.  Hypotheses: the columns are in frame-array order (so only the first can be channel 0) and every text is
non-empty and blank-free (`GoodText`; shown for the number formatters in `number_texts_good`). -/
theorem fields_separated (w : Nat) (cols : List Col) (hidx : (cols.map (·.1)).Pairwise (· < ·))
    (hg : ∀ p ∈ cols, GoodText p.2) :
    splitWs (rowLine w cols) = cols.map (·.2) := by
  have := tokeniser_splitWsAux.of_rowLine rfl w cols [] hidx
    (fun p hp => ⟨(hg p hp).1, fun c hc => beq_false_of_ne ((hg p hp).2 c hc)⟩) (fun _ hc => nomatch hc)
  rwa [List.append_nil] at this

/-- a row with field width 3 whose values are all wider than the field -/
example : splitWs (rowLine 3 [(0, "1234.5".toList), (2, "-0.25".toList), (3, "7".toList)]) =
    ["1234.5".toList, "-0.25".toList, "7".toList] := by decide

/-- **fields_separated** (the `~A` line): after the literal `~A` the line tokenises into exactly the channel names,
for every width (including `width < 2`, defect F21) and names wider than the field. -/
theorem heading_fields_separated (w : Nat) (cols : List Col) (hidx : (cols.map (·.1)).Pairwise (· < ·))
    (hg : ∀ p ∈ cols, GoodText p.2) :
    ∃ rest, headLine w cols = '~' :: 'A' :: rest ∧ splitWs rest = cols.map (·.2) := by
  have e : cols.flatMap (fun p => if p.1 == 0 then padLeft (w - 2) p.2 else ' ' :: padLeft w p.2) = cols.flatMap (fun q =>
      List.replicate (if q.1 == 0 then w - 2 - q.2.length else w - q.2.length + 1) ' ' ++ q.2) :=
    congrArg (cols.flatMap ·) (funext fun q => by unfold padLeft; split <;> rfl)
  refine ⟨_, rfl, ?_⟩
  have := tokeniser_splitWsAux.fields rfl (fun q : Col => if q.1 == 0 then w - 2 - q.2.length else w - q.2.length + 1)
    (·.2) cols [] (fun q hq => ?_)
    (fun p hp => ⟨(hg p hp).1, fun c hc => beq_false_of_ne ((hg p hp).2 c hc)⟩) (fun _ hc => nomatch hc)
  · rwa [List.append_nil, ← e] at this
  · cases cols with
    | nil => cases hq
    | cons p ps =>
      rw [if_neg (by simpa using Nat.ne_of_gt (tail_pos_of_pairwise p ps hidx q hq))]; exact Nat.succ_pos _

/-- width 1 (`max(width - 2, 0) = 0`): the first name follows `~A` directly, the reader does not tokenise this line -/
example : headLine 1 [(0, "DEPT".toList), (1, "GR".toList)] = "~ADEPT GR".toList :=
  eq_toList_ofList (by decide +kernel)
example : headLine 8 [(0, "DEPT".toList), (2, "GR".toList)] = "~A  DEPT       GR".toList :=
  eq_toList_ofList (by decide +kernel)
example : splitWs ((headLine 1 [(0, "DEPT".toList), (1, "GR".toList)]).drop 2) = ["DEPT".toList, "GR".toList] := by
  decide

/-- the texts produced by the number formatters are non-empty and contain no blank -/
theorem number_texts_good (red : Reduction) (isInt negz : Bool) (d : Nat) (v : Rat) (n : Int) :
    GoodText (fmtFixed negz v d) ∧ GoodText (intText n) ∧ GoodText (cellText red isInt d v) := by
  refine ⟨goodText_fmtFixed _ _ _, goodText_intText _, ?_⟩
  unfold cellText
  split
  · split
    · exact goodText_fmtFixed _ _ _
    · exact goodText_intText _
  · exact goodText_fmtFixed _ _ _

/-- the first field of a row (channel 0) is never preceded by a separator -/
theorem first_field_no_separator (w : Nat) (t : List Char) (rest : List Col) :
    rowLine w ((0, t) :: rest) = padLeft w t ++ rowLine w rest := by
  simp [rowLine]

/-! ## print_error -/

/-- **print_error**: the decimal numeral printed for `v` with `d` decimals denotes a number within half a unit of the
last printed decimal of `v` (round-half-even on the exact value; `-0.00` for negative values that round to zero and
for the IEEE negative zero). -/
theorem print_error (negz : Bool) (v : Rat) (d : Nat) :
    ∃ p, parseDec (fmtFixed negz v d) = some p ∧ |p - v| ≤ 1 / (2 * (10 : Rat) ^ d) :=
  ⟨_, parseDec_fmtFixed negz v d, roundHalfEven_scaled_err v d⟩

/-- `0.125` with `.2f` is an exact half at the last decimal: ties go to even (`0.12`) -/
example : fmtFixed false (1 / 8) 2 = "0.12".toList ∧ fmtFixed false (3 / 8) 2 = "0.38".toList ∧
    fmtFixed false (-1 / 1000) 2 = "-0.00".toList ∧ fmtFixed false (5 / 2) 0 = "2".toList := by decide +kernel

/-- **print_error**, integer `d` format: exact. -/
theorem print_int_exact (n : Int) : parseDec (intText n) = some (n : Rat) := by
  rw [intText_eq, parseDec_signed, intText_val, pow_zero, div_one]

example : intText (-9223372036854775808) = "-9223372036854775808".toList :=
  eq_toList_ofList (by decide +kernel)

/-! ## row count and row contents -/

/-- **row count**: when the data writer succeeds it writes exactly one row per frame of the X axis channel. -/
theorem rows_count {Obj : Type} [DecidableEq Obj] (chans : List (Chan Obj)) (S : List Obj) (red : Reduction)
    (w d : Nat) (rows : List (List Char)) (h : dataRows chans S red w d = .ok rows) :
    rows.length = numFrames chans := by
  unfold dataRows at h
  have := mapE_length _ _ _ h
  simpa using this

example : dataRows [({ ident := "DEPT", isInt := false, frames := [[1], [3 / 2]] } : Chan String),
    { ident := "N", isInt := true, frames := [[7, 9], [8, 11]] }] [] .max 6 1 =
    .ok ["   1.0      9".toList, "   1.5     11".toList] := by decide +kernel

/-- **row contents**: every row the data writer produces lists exactly the channels of `rowSel` (the same for every
frame), and tokenises on blanks into one number text per listed channel. -/
theorem data_row_tokens {Obj : Type} [DecidableEq Obj] (chans : List (Chan Obj)) (S : List Obj) (red : Reduction)
    (w d f : Nat) (line : List Char) (h : dataRow chans S red w d f = .ok line) :
    ∃ cols : List Col, line = rowLine w cols ∧ cols.map (·.1) = rowSel (chans.map (·.ident)) S ∧
      splitWs line = cols.map (·.2) ∧ (splitWs line).length = (rowSel (chans.map (·.ident)) S).length := by
  unfold dataRow at h
  split at h
  · exact absurd h (by simp)
  · rename_i cols hcols
    simp only [Except.ok.injEq] at h; subst h
    obtain ⟨h1, h2⟩ := mapE_cols (fun p : Chan Obj × Nat => cellOf red d f p.1) (fun p => p.2) _ _ hcols
    have hsel : cols.map (·.1) = rowSel (chans.map (·.ident)) S := by
      rw [h1]
      simp only [rowSel, List.zipIdx_map, List.filter_map, List.map_map]
      rfl
    have hpw : (cols.map (·.1)).Pairwise (· < ·) := by
      rw [h1]
      have : ((chans.zipIdx).map (·.2)).Pairwise (· < ·) := by
        rw [List.zipIdx_map_snd]; exact List.pairwise_lt_range'
      exact (List.Pairwise.sublist (List.Sublist.map _ List.filter_sublist) this)
    have hgood : ∀ p ∈ cols, GoodText p.2 := by
      intro p hp
      obtain ⟨a, _, ha⟩ := h2 p hp
      unfold cellOf at ha
      split at ha
      · exact absurd ha (by simp)
      · split at ha
        · exact absurd ha (by simp)
        · split at ha
          · exact absurd ha (by simp)
          · simp only [Except.ok.injEq] at ha
            rw [← ha]; exact (number_texts_good _ _ false _ _ 0).2.2
    have hs := fields_separated w cols hpw hgood
    refine ⟨cols, rfl, hsel, hs, ?_⟩
    rw [hs, ← hsel]; simp

example : dataRow [({ ident := "DEPT", isInt := false, frames := [[1], [3 / 2]] } : Chan String),
    { ident := "A", isInt := true, frames := [[7, 9], [8, 11]] },
    { ident := "B", isInt := true, frames := [[1, 2], [-3, 4]] }] ["DEPT", "B"] .mean 2 3 1 =
    .ok "1.500  0".toList := by decide +kernel

/-! ## reductions -/

/-- `first`, `min` and `max` return one of the values of the frame — so for an integer channel the reduced value is an
integer and the exact `d` format applies (`mean`/`median` may not be integers and are printed with `.0f`). -/
theorem reduce_mem (m : Reduction) (hm : m.isAverage = false) (xs : List Rat) (v : Rat)
    (h : reduce m xs = some v) : v ∈ xs := by
  cases xs with
  | nil => simp [reduce] at h
  | cons x rest =>
    cases m with
    | first => simp only [reduce, Option.some.injEq] at h; subst h; simp
    | mean => simp [Reduction.isAverage] at hm
    | median => simp [Reduction.isAverage] at hm
    | min =>
      simp only [reduce, Option.some.injEq] at h; subst h
      rcases foldl_pick_mem (fun a b => if ratLe b a then b else a)
        (fun a b => by by_cases hc : ratLe b a = true <;> simp [hc]) rest x with h | h
      · rw [h]; simp
      · simp [h]
    | max =>
      simp only [reduce, Option.some.injEq] at h; subst h
      rcases foldl_pick_mem (fun a b => if ratLe a b then b else a)
        (fun a b => by by_cases hc : ratLe a b = true <;> simp [hc]) rest x with h | h
      · rw [h]; simp
      · simp [h]

example : reduce .min [3, -2, 7 / 3] = some (-2) ∧ reduce .max [3, -2, 7 / 3] = some 3 ∧
    reduce .median [1, 10, 5 / 2, 3] = some (11 / 4) ∧ reduce .mean [1, 2] = some (3 / 2) := by decide +kernel


/-! ## composition with the reader model of C09 (`TD.C09`, tied to `LASRead.py` by the C09 correspondence run) -/

/-- **round trip of one row through the C09 reader, tokens**: `str.split()` as modelled in C09 (all ASCII white
space, the terminating line feed included) applied to a printed data row gives back exactly the field texts, whatever
the field width. -/
theorem roundtrip_row_tokens (w : Nat) (cols : List Col) (hidx : (cols.map (·.1)).Pairwise (· < ·))
    (hg : ∀ p ∈ cols, p.2 ≠ [] ∧ ∀ c ∈ p.2, TD.C09.isSpace c = false) :
    TD.C09.splitWs (rowLine w cols ++ ['\n']) = cols.map (·.2) :=
  tokeniser_c09.of_rowLine (by decide) w cols ['\n'] hidx hg (by decide)

/-- **round trip of one float value through the C09 reader**: `_convert_value` as modelled in C09 applied to the
text printed for `v` with `d` decimals is a decimal `m·10^-d` within half a unit of the last printed decimal of `v`;
the text is a single token for the C09 tokeniser. -/
theorem roundtrip_value (negz : Bool) (v : Rat) (d : Nat) :
    ∃ m : Int, TD.C09.convertValue (fmtFixed negz v d) = .num m (-(d : Int)) ∧
      |(m : Rat) / (10 : Rat) ^ d - v| ≤ 1 / (2 * (10 : Rat) ^ d) ∧
      (fmtFixed negz v d ≠ [] ∧ ∀ c ∈ fmtFixed negz v d, TD.C09.isSpace c = false) :=
  ⟨_, c09_convert_fmtFixed negz v d, roundHalfEven_scaled_err v d, c09Text_fmtFixed negz v d⟩

/-- **round trip of one integer value through the C09 reader**: exact. -/
theorem roundtrip_int (n : Int) : TD.C09.convertValue (intText n) = .num n 0 := by
  rw [intText_eq, c09_convert_signed, intText_val]; rfl

example : TD.C09.convertValue (fmtFixed false (1 / 8) 2) = .num 12 (-2) ∧
    TD.C09.splitWs (rowLine 6 [(0, "2889.40".toList), (1, "-999.250".toList), (3, "7".toList)] ++ ['\n']) =
      ["2889.40".toList, "-999.250".toList, "7".toList] := by decide +kernel


/-! ## the whole file through the C09 reader (file-level round trip) -/

/-- the error of the decimal read back from a printed cell -/
theorem cellDec_spec (red : Reduction) (isInt : Bool) (d : Nat) (v : Rat) :
    (isInt = false → (cellDec red isInt d v).2 = -(d : Int) ∧
        |((cellDec red isInt d v).1 : Rat) / (10 : Rat) ^ d - v| ≤ 1 / (2 * (10 : Rat) ^ d)) ∧
    (isInt = true → red.isAverage = true → (cellDec red isInt d v).2 = 0 ∧
        |((cellDec red isInt d v).1 : Rat) - v| ≤ 1 / 2) ∧
    (isInt = true → red.isAverage = false → v.den = 1 → (cellDec red isInt d v).2 = 0 ∧
        ((cellDec red isInt d v).1 : Rat) = v) := by
  refine ⟨?_, ?_, ?_⟩
  · rintro rfl
    exact ⟨rfl, roundHalfEven_scaled_err v d⟩
  · rintro rfl ha
    simp only [cellDec, ha, if_true, pow_zero, mul_one]
    exact ⟨trivial, roundHalfEven_err v⟩
  · rintro rfl ha hden
    simp only [cellDec, ha, if_true, Bool.false_eq_true, if_false]
    exact ⟨trivial, Rat.coe_int_num_of_den_eq_one hden⟩

/-- **file-level round trip**: the whole text of `write_curve_and_array_section_to_las` (curve table, comment lines,
`~A` line, one row per frame — `fileText`, compared with the real writer on every run), placed after any well-formed
unwrapped version section and preceding sections (`~Well …`) as the callers do, is read by the C09 model of `LASRead`
into an array with exactly the listed channels (names and units, in order), one frame per source frame, and every cell
the decimal `cellDec` of the reduced source value — by `cellDec_spec` within ½·10^-d of it for floating channels, equal
to it for integer channels with first/min/max, within ½ for the `.0f` of integer mean/median.  Every reduction, subset,
width and decimal count; `.0f` tokens (`123`) and `-0.00` included.

Hypotheses (all decidable): the layouts of the preceding sections match them in number; the version section says
WRAP NO; no preceding section is a curve section; `wfContent` of the content — i.e. header lines well formed, channel
identities/units plain tokens, descriptions without ':', no `DATE.D`/`TIME.HHMMSS` channel, and the printed X values
pairwise distinct (its clause on the data cells always holds: `cells_wf`).  The examples below show that WRAP NO, the
DATE/TIME exclusion and the distinct X values are necessary. -/
theorem roundtrip_file (v : List TD.C09.HLine) (lv : TD.C09.SectLay) (pre : List TD.C09.CSect)
    (lpre : List TD.C09.SectLay) (c0 : ChanF) (cs : List ChanF) (S : List TD.C09.Str) (red : Reduction)
    (w d n : Nat) (cmts : List TD.C09.Str)
    (hlen : lpre.length = pre.length) (hwrap : TD.C09.wrapOf ⟨v, [], []⟩ = false)
    (hpre : ∀ s ∈ pre, s.typ ≠ 'C')
    (hwf : TD.C09.wfContent (contentOf v pre (c0 :: cs) S red d n) = true) :
    ∃ f a, TD.C09.parse (headerText v lv pre lpre ++ fileText (c0 :: cs) S red w d n cmts) = .ok f ∧
      f.array = some a ∧
      a.names = (selF (c0 :: cs) S).map (fun p =>
        ((.text p.1.ch.ident : TD.C09.Value), (.text p.1.units : TD.C09.Value))) ∧
      a.frames = (List.range n).map (fun fr => (selF (c0 :: cs) S).map (fun p =>
        TD.C09.Cell.num (cellDec red p.1.ch.isInt d (valAt red fr p.1.ch)).1
          (cellDec red p.1.ch.isInt d (valAt red fr p.1.ch)).2)) ∧
      a.frames.length = n := by
  have hwf' := hwf
  simp only [TD.C09.wfContent, Bool.and_eq_true, List.all_eq_true, Bool.not_eq_true', Bool.or_eq_true,
    beq_iff_eq] at hwf'
  obtain ⟨⟨⟨⟨⟨⟨⟨⟨⟨_, _⟩, hs⟩, _⟩, _⟩, _⟩, _⟩, _⟩, _⟩, _⟩ := hwf'
  have hC := hs (.hdr 'C' ((selF (c0 :: cs) S).map (fun p => curveHLine p.1))) (by simp [contentOf])
  simp only [TD.C09.wfSect, Bool.and_eq_true, List.all_eq_true] at hC
  have hidsel : ∀ p ∈ selF (c0 :: cs) S, ∀ x ∈ p.1.ch.ident, x ≠ '\n' := by
    intro p hp
    have h1 := hC.2 (curveHLine p.1) (List.mem_map.2 ⟨p, hp, rfl⟩)
    obtain ⟨hm, _⟩ := TD.C09.wfHLine_facts h1
    obtain ⟨_, _, _, _, _, _, hall, _⟩ := TD.C09.wfMnem_facts hm
    exact TD.C09.noLF_of_nospace (fun c hc => (hall c hc).1)
  rw [fileText_eq_print v lv pre lpre c0 cs S red w d n cmts hlen hwrap hidsel]
  refine ⟨_, _, TD.C09.parse_print _ _ hwf, rfl, ?_, ?_, ?_⟩
  · simp only [curvesOf_contentOf v pre (c0 :: cs) S red d n hpre, List.map_map]
    rfl
  · simp only [contentOf, List.map_map]
    apply List.map_congr_left; intro fr _
    simp only [Function.comp_def, rowCells, List.map_map, TD.C09.expectCell]
  · simp [contentOf]

/-- the data-cell clause of `wfContent` always holds for the cells the writer prints -/
theorem cells_wf (red : Reduction) (isInt : Bool) (d : Nat) (v : Rat) :
    TD.C09.wfCell (.lit (cellText red isInt d v) (cellDec red isInt d v).1 (cellDec red isInt d v).2) = true := by
  -- every cell text is a numeral `signed neg m d`
  have key : ∀ (neg : Bool) (m d : Nat),
      TD.C09.wfCell (.lit (signed neg m d) (signedVal neg m) (-(d : Int))) = true := by
    intro neg m d
    have ht := c09Text_signed neg m d
    have hp := c09_parseFloat_signed neg m d
    have hne : (signed neg m d).isEmpty = false := List.isEmpty_eq_false_iff.2 ht.1
    have hns : TD.C09.noSpace (signed neg m d) = true := by
      simp only [TD.C09.noSpace, List.all_eq_true, Bool.not_eq_true']; exact ht.2
    have h1 : ((signed neg m d).head? != some '#') = true ∧ ((signed neg m d).head? != some '~') = true := by
      obtain ⟨k, r, hk, h | h⟩ := signed_head neg m d
      · have hf := TD.C09.isDigit_facts (c09_digit hk).1
        rw [h]; simp only [List.head?_cons, bne_iff_ne, ne_eq, Option.some.injEq]
        exact ⟨hf.2.2.2.2.2.2.2.2, hf.2.2.2.2.2.2.2.1⟩
      · rw [h]; simp
    simp only [TD.C09.wfCell, hne, hns, hp, h1.1, h1.2, Bool.not_false, Bool.and_self, beq_self_eq_true]
  unfold cellText cellDec
  cases isInt with
  | false =>
    simp only [Bool.false_eq_true, if_false]
    have := key (v < 0 || (false && v.num == 0)) (roundHalfEven (v * (10 : Rat) ^ d)).natAbs d
    rwa [fmtFixed_val, ← fmtFixed_eq] at this
  | true =>
    simp only [if_true]
    cases red.isAverage with
    | true =>
      simp only [if_true]
      have := key (v < 0 || (false && v.num == 0)) (roundHalfEven (v * (10 : Rat) ^ 0)).natAbs 0
      rwa [fmtFixed_val, ← fmtFixed_eq] at this
    | false =>
      simp only [Bool.false_eq_true, if_false]
      have := key (decide (v.num < 0)) v.num.natAbs 0
      rwa [intText_val, ← intText_eq] at this

/-- **history independence / read-only input**: in a sequence of writes of one frame array, what a write produces is
what the same write produces on its own — whatever was written before (other subsets, reductions, widths) and after —
and the frame array is the same afterwards. -/
theorem writer_history_independent (chans : List ChanF) (before after : List WriteReq) (r : WriteReq) :
    (writeSession chans (before ++ r :: after)).1[before.length]? = some (writeOne chans r) ∧
    (writeSession chans (before ++ r :: after)).2 = chans ∧
    (writeSession chans (before ++ r :: after)).1.length = before.length + 1 + after.length := by
  refine ⟨?_, rfl, ?_⟩
  · rw [writeSession, List.map_append, List.getElem?_append_right (by rw [List.length_map]), List.length_map,
      Nat.sub_self]
    rfl
  · rw [writeSession, List.length_map, List.length_append, List.length_cons, Nat.add_assoc, Nat.add_comm 1]

/-! ### non-vacuity and necessity of the hypotheses of `roundtrip_file` -/

section Examples
open TD.C09 (HLine CSect SectLay HPad Value)

def exV (wrap : Bool) : List HLine :=
  [⟨"VERS".toList, [], .float 20 (-1), "CWLS".toList⟩, ⟨"WRAP".toList, [], .bool wrap, "one line per frame".toList⟩]
def exLv : SectLay :=
  { title := "ersion Information Section".toList, lines := [{ c := 1, d := 1, k := 1 }, { c := 1, d := 1 }] }
def exPre : List CSect := [.hdr 'W' [⟨"NULL".toList, [], .float (-99925) (-2), []⟩]]
def exLpre : List SectLay := [{ title := "ell Information Section".toList, lines := [{ c := 1, k := 2 }] }]

/-- DEPT (float), GR (float, a small negative value: `-0.00`), N (integer, two samples per frame: `.0f` of the mean) -/
def exChans (x0 x1 : Rat) (u : String) : List ChanF :=
  [⟨⟨"DEPT".toList, false, [[x0], [x1]]⟩, "m".toList, "Depth Dimensions (1,)".toList⟩,
   ⟨⟨"TIME".toList, false, [[-1 / 1000], [5 / 2]]⟩, u.toList, "Gamma Dimensions (1,)".toList⟩,
   ⟨⟨"N".toList, true, [[7, 8], [1, 2]]⟩, [], "Counts Dimensions (2,)".toList⟩]

/-- the header is the one the harness (and a minimal caller) writes -/
example : headerText (exV false) exLv exPre exLpre =
    ("~Version Information Section\nVERS. 2.0 : CWLS\nWRAP. NO : one line per frame\n" ++
     "~Well Information Section\nNULL. -999.25 :\n").toList := by
  rw [← String.ofList_append]
  exact eq_toList_ofList (by decide +kernel)

/-- the text written for the example: `-0.00`, the `.0f` tokens `8` and `2` (7.5 and 1.5 round to even) -/
example : fileText (exChans 100 (201 / 2) "MS") ["N".toList, "TIME".toList, "ZZ".toList] .mean 8 2 2 ["c".toList] =
    ("~Curve Information Section\n#MNEM.UNIT  Curve Description       \n#---------  -----------------       \n" ++
     "DEPT.m      : Depth Dimensions (1,) \nTIME.MS     : Gamma Dimensions (1,) \nN   .       : Counts Dimensions (2,)\n" ++
     "#c\n~A  DEPT     TIME        N\n  100.00    -0.00        8\n  100.50     2.50        2\n").toList := by
  rw [← String.ofList_append, ← String.ofList_append]
  exact eq_toList_ofList (by decide +kernel)

/-- the hypotheses of `roundtrip_file` hold for it -/
example : TD.C09.wrapOf ⟨exV false, [], []⟩ = false ∧
    TD.C09.wfContent (contentOf (exV false) exPre (exChans 100 (201 / 2) "MS")
      ["N".toList, "TIME".toList, "ZZ".toList] .mean 2 2) = true := by decide +kernel

/-- necessity of WRAP NO: under a `WRAP YES` header the reader refuses the very same rows -/
example : (match TD.C09.parse (headerText (exV true) exLv exPre exLpre ++
    fileText (exChans 100 (201 / 2) "MS") [] .mean 8 2 2 []) with | .error .wrapIndex => true | _ => false) = true := by
  decide +kernel

/-- necessity of distinct printed X values: 0.001 and 0.002 both print `0.00` and the reader raises `Duplicate Xaxis` -/
example : TD.C09.wfContent (contentOf (exV false) exPre (exChans (1 / 1000) (2 / 1000) "MS") [] .mean 2 2) = false ∧
    (match TD.C09.parse (headerText (exV false) exLv exPre exLpre ++
      fileText (exChans (1 / 1000) (2 / 1000) "MS") [] .mean 8 2 2 []) with | .error .dupX => true | _ => false) = true := by
  decide +kernel

/-- necessity of the DATE/TIME exclusion: `TIME.HHMMSS` is a text column for the reader (outside the model: `unsupported`) -/
example : TD.C09.wfContent (contentOf (exV false) exPre (exChans 100 101 "HHMMSS") [] .mean 2 2) = false ∧
    (match TD.C09.parse (headerText (exV false) exLv exPre exLpre ++
      fileText (exChans 100 101 "HHMMSS") [] .mean 8 2 2 []) with | .error .unsupported => true | _ => false) = true := by
  decide +kernel

end Examples

end TD.C10
