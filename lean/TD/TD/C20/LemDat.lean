import TD.C14.Props
import TD.C20.Lemmas

/-!
C20 ↔ C14 bridge: the DAT trial parse of `bin_file_type._dat` instantiated with the C14 model
(`TD.C14.canParseFile`), and the facts about the C14 printer `TD.C14.Spec.print` that file type identification needs.
-/
namespace TD.C20
open TD.C14 TD.C14.Spec

/-- `DAT_parser.can_parse_file(io.StringIO(fobj.read().decode('ascii')))` — for an all-ASCII file the decoded text is
the byte list itself (code points = bytes; `io.StringIO` does not translate newlines).  An escaping non-DAT exception
(`Except.error`) is not an output of the C20 model; `TD.C14.can_parse_never_raises` shows the C14 model has none. -/
def datParse (b : Bytes) : Bool :=
  match canParseFile b with
  | .ok true => true
  | _ => false

/-! ### break-after-first-row -/

/-- the scanner up to and including the first data line, for both values of `break_after_first_row` -/
theorem loop_first_row (brk : Bool) (f : File) (hwf : f.wf) (r0 : Row × LineLay × CellLay) (hr0 : r0 ∈ f.rows) (rest : List Str) :
    ∃ st', loop brk {} (f.decls.map (fun d => printLine (declTokens d.1) d.2) ++
        printLine (headerTokens f.sel) f.hdrLay :: printLine (rowTokens r0.1 r0.2.2) r0.2.1 :: rest) =
      (if brk then .ok st' else loop brk st' rest) ∧ st' = ⟨dictOf f, false, headerTokens f.sel, (headerTokens f.sel).map (chanOf f),
          appendRow (List.replicate (headerTokens f.sel).length []) (rowTokens r0.1 r0.2.2)⟩ := by
  have hst := sel_tok f hwf
  have hmk := hdr_mk f hwf
  have hnd' := hdr_nodup f hwf
  obtain ⟨hd, hnd, _, _, _, hne, _, _, hhl, hrows⟩ := hwf
  refine ⟨_, ?_, rfl⟩
  have h0 : ({} : St) = ⟨[], true, [], [], []⟩ := rfl
  have hadd := addChannels_ok (dictOf f) (chanOf f) (headerTokens f.sel) [] [] hmk hnd' (by intro n _ c hc; simp at hc)
  simp only [List.nil_append] at hadd
  obtain ⟨hrw, hlw⟩ := hrows r0 hr0
  have htok := rowTokens_tok _ r0.1 r0.2.2 hrw
  have hsplit : splitWs (prep (printLine (rowTokens r0.1 r0.2.2) r0.2.1)) = rowTokens r0.1 r0.2.2 := by
    rw [prep_printLine _ _ (by simp [rowTokens]) htok hlw, splitWs_interleave _ _ htok hlw.2.2]
  have hlen : (rowTokens r0.1 r0.2.2).length = (headerTokens f.sel).length := by
    rw [rowTokens_length, hrw.2.2.2.2.2.2.2.2.2.2.1]; simp [headerTokens]; omega
  rw [h0, loop_decls brk f.decls [] _ hd hnd (by intro d _ e he; simp at he)]
  show loop brk ⟨dictOf f, true, [], [], []⟩ _ = _
  rw [loop_header brk (dictOf f) f.sel f.hdrLay _ hne hst hhl, hadd]
  simp only []
  rw [loop]
  simp only [List.length_map, ne_eq, not_true_eq_false, if_false, Bool.false_eq_true, hsplit, hlen, List.length_replicate]

/-- `can_parse_file` accepts every printed well-formed file that has at least one data row -/
theorem canParse_print (f : File) (hwf : f.wf) (hrows : f.rows ≠ []) : canParseFile (print f) = .ok true := by
  obtain ⟨r0, rs, hr⟩ : ∃ r0 rs, f.rows = r0 :: rs := by
    cases h : f.rows with
    | nil => exact absurd h hrows
    | cons a t => exact ⟨a, t, rfl⟩
  -- the same file with only its first row
  let g : File := { f with rows := [r0] }
  have hg : g.wf := by
    obtain ⟨a1, a2, a3, a4, a5, a6, a7, a8, a9, a10⟩ := hwf
    exact ⟨a1, a2, a3, a4, a5, a6, a7, a8, a9, fun r hrm => a10 r (by
      have : r = r0 := by simpa [g] using hrm
      rw [this, hr]; simp)⟩
  have hfl : f.lines = f.decls.map (fun d => printLine (declTokens d.1) d.2) ++
      printLine (headerTokens f.sel) f.hdrLay :: printLine (rowTokens r0.1 r0.2.2) r0.2.1 ::
        rs.map (fun r => printLine (rowTokens r.1 r.2.2) r.2.1) := by
    simp [File.lines, hr]
  have hgl : g.lines = f.decls.map (fun d => printLine (declTokens d.1) d.2) ++
      printLine (headerTokens f.sel) f.hdrLay :: printLine (rowTokens r0.1 r0.2.2) r0.2.1 :: [] := by
    simp [File.lines, g]
  obtain ⟨st1, h1, e1⟩ := loop_first_row true f hwf r0 (by rw [hr]; simp) (rs.map (fun r => printLine (rowTokens r.1 r.2.2) r.2.1))
  obtain ⟨st2, h2, e2⟩ := loop_first_row false f hwf r0 (by rw [hr]; simp) []
  have hsame : loop true {} f.lines = loop false {} g.lines := by
    rw [hfl, hgl, h1, h2, e1, e2]
    simp [loop]
  have hparse : parseLines true f.lines = .ok (expected g) := by
    have hp := dat_parse_print g hg
    unfold parseFile print at hp
    rw [splitLines_joinLines _ _ (lines_ok g hg)] at hp
    unfold parseLines at hp ⊢
    rw [hsame]
    exact hp
  unfold canParseFile print
  rw [splitLines_joinLines _ _ (lines_ok f hwf), hparse]
  simp [expected, headerTokens, columns, g]

theorem datParse_print (f : File) (hwf : f.wf) (hrows : f.rows ≠ []) : datParse (print f) = true := by
  unfold datParse
  rw [canParse_print f hwf hrows]


/-! ### shape of a printed file -/

theorem joinLines_mem (ls : List Str) (fin : Bool) : ∀ c ∈ joinLines ls fin, c = 10 ∨ ∃ l ∈ ls, c ∈ l := by
  induction ls with
  | nil => simp [joinLines]
  | cons l r ih =>
    intro c hc
    cases r with
    | nil =>
      simp only [joinLines] at hc
      split at hc
      · rcases List.mem_append.mp hc with h | h
        · exact Or.inr ⟨l, by simp, h⟩
        · left; simpa using h
      · exact Or.inr ⟨l, by simp, hc⟩
    | cons l2 r2 =>
      simp only [joinLines] at hc
      rcases List.mem_append.mp hc with h | h
      · exact Or.inr ⟨l, by simp, h⟩
      · rcases List.mem_cons.mp h with h | h
        · exact Or.inl h
        · rcases ih c h with h' | ⟨l', hl', hc'⟩
          · exact Or.inl h'
          · exact Or.inr ⟨l', by simp [hl'], hc'⟩

theorem printLine_chars (toks : List Str) (lay : LineLay) (ht : ∀ t ∈ toks, isTok t) (hl : lay.wf) :
    ∀ c ∈ printLine toks lay, (9 ≤ c ∧ c ≤ 13) ∨ (32 ≤ c ∧ c ≤ 126) := by
  obtain ⟨hlead, htrail, hseps⟩ := hl
  intro c hc
  simp only [printLine, List.mem_append] at hc
  rcases hc with (hc | hc) | hc
  · rcases hlead c hc with h | h | h | h | h <;> omega
  · rcases interleave_chars toks lay.seps ht hseps c hc with h | h
    · omega
    · rcases h with h | h | h | h | h <;> omega
  · rcases htrail c hc with h | h | h | h | h <;> omega

theorem print_printable (f : File) (hwf : f.wf) : Printable (print f) := by
  have hst := sel_tok f hwf
  obtain ⟨hd, _, _, _, _, hne, _, _, hhl, hrows⟩ := hwf
  intro c hc
  rcases joinLines_mem _ _ c hc with h | ⟨l, hl, hcl⟩
  · omega
  · simp only [File.lines, List.mem_append, List.mem_cons, List.mem_map] at hl
    rcases hl with ⟨d, hdm, rfl⟩ | rfl | ⟨r, hrm, rfl⟩
    · exact printLine_chars _ _ (declTokens_tok d.1 (hd d hdm).1) (hd d hdm).2 c hcl
    · exact printLine_chars _ _ (headerTokens_tok f.sel hst) hhl c hcl
    · exact printLine_chars _ _ (rowTokens_tok _ r.1 r.2.2 (hrows r hrm).1) (hrows r hrm).2 c hcl

theorem joinLines_cons_prefix (l : Str) (r : List Str) (fin : Bool) : ∃ Z, joinLines (l :: r) fin = l ++ Z := by
  cases r with
  | nil =>
    simp only [joinLines]
    split
    · exact ⟨[10], rfl⟩
    · exact ⟨[], by simp⟩
  | cons l2 r2 => exact ⟨10 :: joinLines (l2 :: r2) fin, rfl⟩

theorem interleave_cons_prefix (t : Str) (ts seps : List Str) : ∃ Y, interleave (t :: ts) seps = t ++ Y := by
  cases ts with
  | nil => exact ⟨[], by simp [interleave]⟩
  | cons u us =>
    cases seps with
    | nil => exact ⟨32 :: interleave (u :: us) [], rfl⟩
    | cons s ss => exact ⟨s ++ interleave (u :: us) ss, by simp [interleave]⟩

theorem dropWhile_blank_prefix (lead : Str) (a : Nat) (W : Str) (hl : isBlank lead) (ha : isWs a = false) :
    (lead ++ a :: W).dropWhile isWs = a :: W := by
  induction lead with
  | nil => simp [ha]
  | cons x xs ih =>
    have hx : isWs x = true := by
      rcases hl x (by simp) with h | h | h | h | h <;> simp [h, isWs]
    rw [List.cons_append, List.dropWhile_cons_of_pos hx]
    exact ih (fun c hc => hl c (by simp [hc]))

/-- a printed file is: blanks, then a channel mnemonic character -/
theorem print_head (f : File) (hwf : f.wf) :
    ∃ lead a W, print f = lead ++ a :: W ∧ isBlank lead ∧ isUpperDigit a = true := by
  obtain ⟨hd, _, ⟨dU, hdU, _, _⟩, _⟩ := hwf
  cases hds : f.decls with
  | nil => rw [hds] at hdU; simp at hdU
  | cons d ds =>
    obtain ⟨⟨hname, _⟩, hlay⟩ := hd d (by rw [hds]; simp)
    obtain ⟨hne, hchars⟩ := hname
    cases hn : d.1.name with
    | nil => exact absurd hn hne
    | cons a n' =>
      obtain ⟨Y, hY⟩ := interleave_cons_prefix d.1.name (d.1.words ++ [d.1.units]) d.2.seps
      obtain ⟨Z, hZ⟩ := joinLines_cons_prefix (printLine (declTokens d.1) d.2)
        (ds.map (fun d => printLine (declTokens d.1) d.2) ++ printLine (headerTokens f.sel) f.hdrLay ::
          f.rows.map (fun r => printLine (rowTokens r.1 r.2.2) r.2.1)) f.finalNewline
      refine ⟨d.2.lead, a, n' ++ Y ++ d.2.trail ++ Z, ?_, hlay.1, hchars a (by rw [hn]; simp)⟩
      unfold print File.lines
      rw [hds, List.map_cons, List.cons_append, hZ]
      simp only [printLine, declTokens]
      rw [hY, hn]
      simp only [List.cons_append, List.append_assoc]

end TD.C20
