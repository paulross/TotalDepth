import TD.C05.Props
import TD.C06.Props
import TD.C20.LisTest
import TD.C20.LemLis
import TD.C20.LemRound

/-!
C20 ↔ C05/C06: the concrete deep test `lisTest` on a file written by the C05 encoder.
-/
namespace TD.C20
open TD.C05

/-- the abstract history that `lisOps` is the image of -/
def absOps : Nat → List Op
  | 0 => []
  | n + 1 => .read (-1) :: .tell :: absOps n

theorem absOps_conc (L : Layout) (rs : List Bytes) (n : Nat) : (absOps n).map (concOp L rs) = lisOps n := by
  induction n with
  | zero => rfl
  | succ n ih => simp [absOps, lisOps, concOp, ih]

theorem absOps_histOK (rs : List Bytes) (n : Nat) : HistOK rs (absOps n) := by
  induction n with
  | zero => intro op hop; simp [absOps] at hop
  | succ n ih =>
    intro op hop i hi
    simp only [absOps, List.mem_cons] at hop
    rcases hop with h | h | h
    · rw [h] at hi; cases hi
    · rw [h] at hi; cases hi
    · exact ih op h i hi

/-- the records with their positions, from record `i` on -/
def posRecs (L : Layout) (rs : List Bytes) (i : Nat) : Nat → List (Nat × List Nat)
  | 0 => []
  | k + 1 => (tellOf L rs i, recAt rs i) :: posRecs L rs (i + 1) k

/-- the abstract reader, asked `read rest; tell` repeatedly, lists the records with their positions and then `None` -/
theorem absRun_collect (L : Layout) (rs : List Bytes) (hr : ∀ r ∈ rs, r ≠ []) :
    ∀ (k i : Nat) (cur : Option Nat) (n : Nat), i + k = rs.length → k < n →
      collectRecs (absRun L rs ⟨.start i, cur⟩ (absOps n)) = some (posRecs L rs i k) := by
  intro k
  induction k with
  | zero =>
    intro i cur n hik hn
    obtain ⟨m, rfl⟩ : ∃ m, n = m + 1 := ⟨n - 1, by omega⟩
    have hi : ¬ i < rs.length := by omega
    simp [absOps, absRun, absStep, absRead, openRec, hi, collectRecs, posRecs]
  | succ k ih =>
    intro i cur n hik hn
    obtain ⟨m, rfl⟩ : ∃ m, n = m + 1 := ⟨n - 1, by omega⟩
    have hi : i < rs.length := by omega
    have hne : recAt rs i ≠ [] := hr _ (by unfold recAt; simp [hi])
    have hlen : 0 < (recAt rs i).length := List.length_pos_iff.mpr hne
    have hnot : ¬ (0 ≥ (recAt rs i).length) := by omega
    have step1 : absRun L rs ⟨.start i, cur⟩ (absOps (m + 1)) =
        .bytes (recAt rs i) :: .pos (tellOf L rs i) :: absRun L rs ⟨.start (i + 1), some i⟩ (absOps m) := by
      simp [absOps, absRun, absStep, absRead, openRec, hi, hnot]
    rw [step1]
    simp only [collectRecs, posRecs]
    rw [ih (i + 1) (some i) m (by omega) (by omega)]
    rfl

theorem length_le_numPRs (L : Layout) (hL : L.Valid) (rs : List Bytes) (hr : ∀ r ∈ rs, r ≠ []) : rs.length ≤ numPRs L rs := by
  have hmp : 1 ≤ L.maxPayload := by have := hL.2; unfold Layout.maxPayload; omega
  induction rs with
  | nil => simp
  | cons r rs ih =>
    have h1 : 1 ≤ (chunks L.maxPayload r).length := by
      have : chunks L.maxPayload r ≠ [] := fun h => hr r (by simp) ((chunks_eq_nil _ hmp r).mp h)
      exact List.length_pos_iff.mpr this
    have := ih (fun x hx => hr x (by simp [hx]))
    simp only [numPRs, List.map_cons, List.sum_cons, List.length_cons] at this ⊢
    omega

theorem length_lt_encode (L : Layout) (hL : L.Valid) (rs : List Bytes) (hr : ∀ r ∈ rs, r ≠ []) :
    rs.length < (encode L rs).length + 1 := by
  have h1 := length_le_numPRs L hL rs hr
  have h2 := numPRs_le_size L rs
  rw [encode_length]
  unfold fileSize tellOf
  rw [List.take_length]
  split <;> omega


/-- an index of a record stream whose first record is a file / tape / reel header (type 128 / 130 / 132) is not empty -/
theorem fileIndex_nonempty (p t a : Nat) (payload : List Nat) (rest : List (Nat × List Nat)) (es : List TD.C06.Entry)
    (ht : t = 128 ∨ t = 130 ∨ t = 132)
    (h : TD.C06.fileIndex ((p, t :: a :: payload) :: rest) = .ok es) : es ≠ [] := by
  have := TD.C06.index_lists_all _ es h
  intro he
  rw [he] at this
  have hs : TD.C06.specEntry (p, t :: a :: payload) ≠ none := by
    rcases ht with rfl | rfl | rfl <;> simp [TD.C06.specEntry, TD.C06.despatch]
  cases hsp : TD.C06.specEntry (p, t :: a :: payload) with
  | none => exact hs hsp
  | some e => simp [TD.C06.specEntries, hsp] at this

/-! ### the sorted list of options -/

theorem mem_insertDesc (x z : (Nat × Bool) × Nat) (l : List ((Nat × Bool) × Nat)) :
    z ∈ insertDesc x l ↔ z = x ∨ z ∈ l := by
  induction l with
  | nil => simp [insertDesc]
  | cons y r ih =>
    unfold insertDesc
    split
    · rw [List.mem_cons, ih, List.mem_cons, or_left_comm]
    · simp [List.mem_cons]

theorem mem_sortDesc (z : (Nat × Bool) × Nat) (l : List ((Nat × Bool) × Nat)) : z ∈ sortDesc l ↔ z ∈ l := by
  induction l with
  | nil => simp [sortDesc]
  | cons y r ih =>
    have : sortDesc (y :: r) = insertDesc y (sortDesc r) := rfl
    rw [this, mem_insertDesc, ih]
    simp [List.mem_cons]

theorem insertDesc_sorted (x : (Nat × Bool) × Nat) (l : List ((Nat × Bool) × Nat))
    (h : l.Pairwise (fun a b => b.2 ≤ a.2)) : (insertDesc x l).Pairwise (fun a b => b.2 ≤ a.2) := by
  induction l with
  | nil => simp [insertDesc]
  | cons y r ih =>
    rw [List.pairwise_cons] at h
    unfold insertDesc
    split
    · rename_i hgt
      refine List.pairwise_cons.mpr ⟨fun z hz => ?_, ih h.2⟩
      rcases (mem_insertDesc x z r).mp hz with rfl | e
      · omega
      · exact h.1 z e
    · rename_i hle
      refine List.pairwise_cons.mpr ⟨fun z hz => ?_, List.pairwise_cons.mpr h⟩
      rcases List.mem_cons.mp hz with rfl | e
      · omega
      · have := h.1 z e; omega

theorem sortDesc_sorted (l : List ((Nat × Bool) × Nat)) : (sortDesc l).Pairwise (fun a b => b.2 ≤ a.2) := by
  induction l with
  | nil => simp [sortDesc]
  | cons y r ih => exact insertDesc_sorted y _ ih

/-- in a list sorted by decreasing count, an element with a non-zero count comes before the first zero -/
theorem mem_takeWhile_sorted (l : List ((Nat × Bool) × Nat)) (h : l.Pairwise (fun a b => b.2 ≤ a.2))
    (x : (Nat × Bool) × Nat) (hx : x ∈ l) (hpos : x.2 ≠ 0) : x ∈ l.takeWhile (fun y => y.2 != 0) := by
  induction l with
  | nil => cases hx
  | cons y r ih =>
    rw [List.pairwise_cons] at h
    have hy : (fun (y : (Nat × Bool) × Nat) => y.2 != 0) y = true := by
      rcases List.mem_cons.mp hx with e | e
      · rw [← e]; simpa using hpos
      · have := h.1 x e; simp; omega
    rw [List.takeWhile_cons_of_pos (p := fun (y : (Nat × Bool) × Nat) => y.2 != 0) hy]
    rcases List.mem_cons.mp hx with e | e
    · rw [e]; simp
    · exact List.mem_cons_of_mem _ (ih h.2 e)

/-- **every option that read at least one physical record is tried** (in the round with that `pr_limit`) -/
theorem mem_lisTried (b : Bytes) (limit : Nat) (o : Nat × Bool) (ho : o ∈ padOptions)
    (hpos : scanFile ⟨true, o.1, o.2⟩ b limit ≠ 0) : o ∈ lisTried b limit := by
  unfold lisTried
  have hm : (o, scanFile ⟨true, o.1, o.2⟩ b limit) ∈ scanAll true b limit := by
    unfold scanAll
    exact List.mem_map.mpr ⟨o, ho, rfl⟩
  have := mem_takeWhile_sorted _ (sortDesc_sorted (scanAll true b limit)) _ ((mem_sortDesc _ _).mpr hm) hpos
  exact List.mem_map.mpr ⟨_, this, rfl⟩

/-- the true option (no padding) on a written file: the reader refines the abstract semantics, the records are collected
with their positions, and — when the index over them does not raise — the option succeeds -/
theorem lisTryOption_encode (L : Layout) (rs : List Bytes) (hL : L.Valid) (hr : ∀ r ∈ rs, r ≠ []) (hrs : rs ≠ [])
    (hbe : L.tif = .be → firstNext L rs ≠ 0x100 ∧ firstNext L rs ≠ 0x10000)
    (hsz : fileSize L rs + 24 < 4294967296)
    (es : List TD.C06.Entry) (hidx : TD.C06.fileIndex (posRecs L rs 0 rs.length) = .ok es) (hes : es ≠ []) :
    lisTryOption (encode L rs) (0, false) = some (tifCode (encode L rs)) := by
  have hrun := read_refines ⟨true, 0, false⟩ L rs (absOps ((encode L rs).length + 1)) hL hr (fun _ => hrs) hbe hsz
    (absOps_histOK _ _)
  have hcol := absRun_collect L rs hr rs.length 0 none ((encode L rs).length + 1) (by omega) (length_lt_encode L hL rs hr)
  unfold lisTryOption lisTryOptionE
  rw [← absOps_conc L rs, hrun]
  have hinit : AState.init = ⟨.start 0, none⟩ := rfl
  rw [hinit, hcol]
  simp only []
  rw [hidx]
  have hne : es.isEmpty = false := by cases es with
    | nil => exact absurd rfl hes
    | cons _ _ => rfl
  simp only [hne]
  rfl

theorem tifCode_encode (L : Layout) (rs : List Bytes) (hL : L.Valid) (hr : ∀ r ∈ rs, r ≠ []) (hrs : rs ≠ [])
    (hbe : L.tif = .be → firstNext L rs ≠ 0x100 ∧ firstNext L rs ≠ 0x10000) :
    tifCode (encode L rs) = lisCodeOf L.tif := by
  obtain ⟨h1, h2⟩ := tifInit_mode L hL rs hr (fun _ => hrs) hbe
  unfold tifCode
  rw [h1, h2]
  cases htif : L.tif <;> simp [lisCodeOf]

/-- **the deep test on a written file**: in the whole-file round the file's own option (0, False) counts all its physical
records, so it is tried; it builds the index when the record contents allow it; any earlier success gives the same answer. -/
theorem lisTest_encode (L : Layout) (rs : List Bytes) (hL : L.Valid) (hr : ∀ r ∈ rs, r ≠ []) (hrs : rs ≠ [])
    (hbe : L.tif = .be → firstNext L rs ≠ 0x100 ∧ firstNext L rs ≠ 0x10000)
    (hsz : fileSize L rs + 24 < 4294967296)
    (es : List TD.C06.Entry) (hidx : TD.C06.fileIndex (posRecs L rs 0 rs.length) = .ok es) (hes : es ≠ []) :
    lisTest (encode L rs) = lisCodeOf L.tif := by
  have hcount := scan_counts_records ⟨true, 0, false⟩ L rs 0 hL hr (fun _ => hrs) hbe hsz
  have hpos : 0 < numPRs L rs := by
    have := length_le_numPRs L hL rs hr
    have : 0 < rs.length := List.length_pos_iff.mpr hrs
    omega
  have hmem : (0, false) ∈ lisTried (encode L rs) 0 :=
    mem_lisTried _ 0 (0, false) (by decide) (by rw [hcount]; simp; omega)
  have hs := lisTryOption_encode L rs hL hr hrs hbe hsz es hidx hes
  rw [lisTest_of_success (encode L rs) 0 (Or.inr rfl) (0, false) hmem _ hs]
  exact tifCode_encode L rs hL hr hrs hbe

end TD.C20
