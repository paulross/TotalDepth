import TD.C20.LisTest

/-! C20 — the two-round loop of `lisTest` (core Lean only). -/
namespace TD.C20

theorem lisTryOption_code (b : Bytes) (o : Nat × Bool) (r : LisRes) (h : lisTryOption b o = some r) : r = tifCode b := by
  unfold lisTryOption lisTryOptionE at h
  split at h
  · rename_i r' hr
    split at hr
    · cases hr; cases h
    · split at hr
      · cases hr
      · split at hr
        · cases hr; cases h
        · cases hr; cases h; rfl
  · cases h

theorem firstSome_eq {α β : Type} (f : α → Option β) (l : List α) (r : β) (h : firstSome f l = some r) :
    ∃ a ∈ l, f a = some r := by
  induction l with
  | nil => cases h
  | cons a t ih =>
    unfold firstSome at h
    split at h
    · rename_i x hx
      cases h
      exact ⟨a, by simp, hx⟩
    · obtain ⟨a', ha', hf⟩ := ih h
      exact ⟨a', by simp [ha'], hf⟩

theorem firstSome_isSome {α β : Type} (f : α → Option β) (l : List α) (a : α) (ha : a ∈ l) (r : β) (hf : f a = some r) :
    ∃ r', firstSome f l = some r' := by
  induction l with
  | nil => cases ha
  | cons x t ih =>
    unfold firstSome
    cases hx : f x with
    | some y => exact ⟨y, rfl⟩
    | none =>
      rcases List.mem_cons.mp ha with e | e
      · rw [e] at hf; rw [hf] at hx; cases hx
      · exact ih e

/-- **the TIF flavour of the answer does not depend on the pad option that succeeded**: whatever round and option
returns, the code is the one the first 12 bytes of the file determine -/
theorem lisRound_code (b : Bytes) (limit : Nat) (r : LisRes) (h : lisRound b limit = some r) : r = tifCode b := by
  obtain ⟨o, _, ho⟩ := firstSome_eq _ _ r h
  exact lisTryOption_code b o r ho

/-- if, in either round, some tried option gives a non-empty index, the answer is the file's TIF code — no matter which
(earlier) option actually returns -/
theorem lisTest_of_success (b : Bytes) (limit : Nat) (hl : limit = lisPrLimit ∨ limit = 0) (o : Nat × Bool)
    (ho : o ∈ lisTried b limit) (r : LisRes) (hs : lisTryOption b o = some r) : lisTest b = tifCode b := by
  obtain ⟨r', hr'⟩ := firstSome_isSome (lisTryOption b) (lisTried b limit) o ho r hs
  have hround : lisRound b limit = some r' := hr'
  unfold lisTest
  cases h1 : lisRound b lisPrLimit with
  | some r1 => exact lisRound_code b _ r1 h1
  | none =>
    rcases hl with e | e
    · rw [e] at hround; rw [hround] at h1; cases h1
    · rw [e] at hround
      simp only [hround]
      exact lisRound_code b _ r' hround

end TD.C20
