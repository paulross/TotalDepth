import TD.C20.Lemmas
import TD.C20.LemDat
import TD.C20.LemEnc
import TD.C20.LemLis
import TD.C20.LemLisDeep

/-!
# C20 — file type identification recognises every supported format and never crashes

The property theorems and what they are stated with (`SUL`, `LisHead`).  The model `TD.C20.identify` transcribes `TotalDepth/util/bin_file_type.py`; its table of tests
(`TD.C20.Gen.tests`: order, magic byte strings, constants, regular-expression shapes) is re-generated from the source by
`./check C20`, so a reordering of `FUNCTION_ID_MAP` or a changed signature changes the subject of these theorems.
The LIS deep test `lisT` and the DAT trial parse `datP` are abstract parameters (see `Model.lean`): theorems that
mention them are named `…_partial` and say what is missing.
-/
namespace TD.C20
open TD.C20.Gen

/-! ## Totality, range, ordering -/

/-- the strings one entry of the table can return -/
def kindRets : TestKind → List String
  | .magic _ _ ret => [ret]
  | .magicAny _ ret => [ret]
  | .bit .. => ["BIT"]
  | .las pfx => ["LAS" ++ codeOfBytes pfx]
  | .rp66v1 => ["RP66V1"]
  | .rp66v1Tif => ["RP66V1", "RP66V1t", "RP66V1tr"]
  | .rp66v1TifR => ["RP66V1", "RP66V1t", "RP66V1tr"]
  | .rp66v2 => ["RP66V2"]
  | .dat => ["DAT"]
  | .segy => ["SEGY"]
  | .lisVer _ _ ret => [ret]
  | .ascii _ ret => [ret]
  | .lis => ["LIS", "LISt", "LIStr"]
  | .unknown => []

theorem rp66v1Bytes_range (x : Bytes) : rp66v1Bytes x = "" ∨ rp66v1Bytes x = "RP66V1" := by
  have h : rp66v1Bytes x = "" ∨ rp66v1Bytes x ∈ ["RP66V1"] := by
    unfold rp66v1Bytes
    iterate 7 apply ite_range (.inl rfl)
    exact .inr (List.mem_singleton_self _)
  exact h.imp_right List.eq_of_mem_singleton

theorem rp66v1TifGeneral_range (x : Bytes) (n : Nat) :
    rp66v1TifGeneral x n = "" ∨ rp66v1TifGeneral x n ∈ ["RP66V1", "RP66V1t", "RP66V1tr"] := by
  unfold rp66v1TifGeneral
  refine ite_range (.inl rfl) ?_
  rcases rp66v1Bytes_range (x.drop 12) with h | h
  · simp [h]
  · simp only [h]; cases tifInitial x <;> decide

theorem runTest_range (lisT : Bytes → LisRes) (datP : Bytes → Bool) (k : TestKind) (b : Bytes) :
    runTest lisT datP k b = "" ∨ runTest lisT datP k b ∈ kindRets k := by
  have one (s : String) : s = "" ∨ s ∈ [s] := .inr (List.mem_singleton_self s)
  cases k
  case bit =>
    simp only [runTest, kindRets, bitTest]
    iterate 4 apply ite_range (.inl rfl)
    exact one _
  case las =>
    simp only [runTest, kindRets, lasTest]
    split
    · apply ite_range (.inl rfl)
      split
      · exact ite_range (one _) (.inl rfl)
      · exact .inl rfl
    · exact .inl rfl
  case rp66v1 => exact (rp66v1Bytes_range (b.take 80)).imp_right List.mem_singleton.2
  case rp66v1Tif => exact ite_range (.inl rfl) (rp66v1TifGeneral_range _ _)
  case rp66v1TifR => exact ite_range (.inl rfl) (rp66v1TifGeneral_range _ _)
  case rp66v2 =>
    simp only [runTest, kindRets, rp66v2Test]
    iterate 10 apply ite_range (.inl rfl)
    exact one _
  case dat => exact ite_range (ite_range (one _) (.inl rfl)) (.inl rfl)
  case segy =>
    simp only [runTest, kindRets, segyTest]
    iterate 2 apply ite_range (.inl rfl)
    exact ite_range (one _) (.inl rfl)
  case lis => simp only [runTest, kindRets]; cases lisT b <;> simp [LisRes.code]
  case unknown => exact .inl rfl
  -- magic, magicAny, lisVer, ascii: one guard
  all_goals exact ite_range (one _) (.inl rfl)

theorem firstMatch_range (lisT : Bytes → LisRes) (datP : Bytes → Bool) (b : Bytes) (ts : List (String × TestKind × String)) :
    firstMatch lisT datP b ts = "" ∨ ∃ t ∈ ts, firstMatch lisT datP b ts ∈ kindRets t.2.1 := by
  induction ts with
  | nil => left; rfl
  | cons t rest ih =>
    obtain ⟨nm, k, lbl⟩ := t
    simp only [firstMatch]
    by_cases h : (runTest lisT datP k b != "") = true
    · simp only [h, if_true]
      rcases runTest_range lisT datP k b with h0 | h1
      · simp [h0] at h
      · right; exact ⟨(nm, k, lbl), by simp, h1⟩
    · simp only [h]
      rcases ih with h0 | ⟨t, ht, hk⟩
      · left; simpa using h0
      · right; exact ⟨t, by simp [ht], by simpa using hk⟩

/-- every string an entry of the generated table can return is a documented code -/
theorem table_rets_documented : ∀ t ∈ tests, ∀ s ∈ kindRets t.2.1, s ∈ codes := by decide +kernel

/-- **Totality and range**: for every byte string (and whatever the two deep tests answer) the identification is the
empty string or one of the documented codes of the generated table. -/
theorem total_and_in_range (lisT : Bytes → LisRes) (datP : Bytes → Bool) (b : Bytes) :
    identify lisT datP b = "" ∨ identify lisT datP b ∈ codes := by
  rcases firstMatch_range lisT datP b tests with h | ⟨t, ht, hk⟩
  · left; exact h
  · right; exact table_rets_documented t ht _ hk

example : identify (fun _ => .none) (fun _ => false) [80, 75, 3, 4, 20, 0] = "ZIP" := by decide

/-- **First match wins**: the answer is the answer of the first test of the table (in `FUNCTION_ID_MAP` order) that
answers at all; it is empty exactly when every test answers empty. -/
theorem first_match_wins (lisT : Bytes → LisRes) (datP : Bytes → Bool) (b : Bytes)
    (pre post : List (String × TestKind × String)) (t : String × TestKind × String)
    (hsplit : tests = pre ++ t :: post)
    (hpre : ∀ u ∈ pre, runTest lisT datP u.2.1 b = "")
    (ht : runTest lisT datP t.2.1 b ≠ "") :
    identify lisT datP b = runTest lisT datP t.2.1 b := by
  unfold identify
  rw [hsplit]
  clear hsplit
  induction pre with
  | nil =>
    obtain ⟨nm, k, lbl⟩ := t
    simp only [List.nil_append, firstMatch]
    simp [ht]
  | cons u pre ih =>
    obtain ⟨nm, k, lbl⟩ := u
    have hu : runTest lisT datP k b = "" := hpre (nm, k, lbl) (by simp)
    simp only [List.cons_append, firstMatch, hu]
    exact ih (fun v hv => hpre v (by simp [hv]))

theorem all_empty_iff (lisT : Bytes → LisRes) (datP : Bytes → Bool) (b : Bytes) :
    identify lisT datP b = "" ↔ ∀ t ∈ tests, runTest lisT datP t.2.1 b = "" := by
  unfold identify
  generalize tests = ts
  induction ts with
  | nil => simp [firstMatch]
  | cons t rest ih =>
    obtain ⟨nm, k, lbl⟩ := t
    simp only [firstMatch, List.mem_cons, forall_eq_or_imp]
    by_cases h : runTest lisT datP k b = ""
    · simp only [h, bne_self_eq_false, Bool.false_eq_true, if_false, true_and, ih]
    · simp only [bne_iff_ne, ne_eq, h, not_false_eq_true, if_true, false_and]


/-! ## Recognition: LIS -/

/-- The head of a LIS file as the lemmas need it: first byte NUL (a reel/tape/file header is 62..138 bytes long, so the
high byte of the first physical record length is 0; a TIF-marked file starts with the TIF type word 0), bytes 4 and 16
are not `V` (byte 4 is the logical record type 128/130/132 or a TIF zero; byte 16 is header filler or, behind a TIF
marker, the record type), bytes 8..11 do not spell the word 288 (for a TIF-marked file: the first record is not exactly
276 bytes long — the stated exclusion; for a plain file these are printable name characters), and a byte >= 128
occurs within the first 256 (the record type byte 128/130/132 at offset 4 or 16). -/
structure LisHead (b : Bytes) : Prop where
  first_zero : b.head? = some 0
  bytes : ∀ i, 8 ≤ i → i < 12 → byteAt b i < 256
  b4 : byteAt b 4 ≠ 86
  b16 : byteAt b 16 ≠ 86
  not_bit : ¬ word288 b
  high : ∃ i, i < 256 ∧ 128 ≤ byteAt b i

/-- **LIS, relative to the deep test** (`_partial`: the physical-record scan + `FileIndexer` is the abstract `lisT`;
what is proved is that nothing earlier in the generated order claims a file with a LIS head, so the answer is exactly
what the LIS test says — `LIS`, `LISt`, `LIStr` or nothing.  Missing for the full statement "every valid LIS file is
identified as LIS/LISt/LIStr": `lisT b ≠ none` for files written by `File.FileWrite`; that part is exercised by the
oracle on generated files.) -/
theorem lis_family_identified_partial (lisT : Bytes → LisRes) (datP : Bytes → Bool) (b : Bytes) (h : LisHead b) :
    identify lisT datP b = (lisT b).code := by
  obtain ⟨h0, hbytes, h4, h16, hnb, hhi⟩ := h
  cases b with
  | nil => simp at h0
  | cons c r =>
    have hc : c = 0 := by simpa using h0
    subst hc
    rw [identify_skip_magic lisT datP 0 r (by unfold notMagicFirst; omega)]
    have hbit := bit_fail (0 :: r) (thirdWord_ne _ hbytes hnb)
    have hlas : ∀ pfx, lasTest pfx (0 :: r) = "" := fun pfx =>
      las_fail pfx (0 :: r) 0 r (by simp [List.dropWhile, isWs]) (by decide) (by decide)
    have hv1 := rp66v1Test_fail (0 :: r) h4
    obtain ⟨ht, htr⟩ := rp66v1Tifs_fail (0 :: r) h16
    have hv2 := rp66v2_fail (0 :: r) h4
    obtain ⟨ih, hih, hih2⟩ := hhi
    obtain ⟨ha256, hall⟩ := high_byteAt_not_ascii (0 :: r) ih hih hih2
    have hdat : datTest datP (0 :: r) = "" := by simp [datTest, hall]
    have hsegy := segy_fail_zero r
    have hver : ∀ sigs extra ret, (∀ sig ∈ sigs, sig.head? ≠ some 0 ∧ sig ≠ []) → lisVerTest sigs extra ret (0 :: r) = "" :=
      fun sigs extra ret hs => lisVer_fail sigs extra ret 0 r (by decide) hs
    have hascii : asciiTest 256 "ASCII" (0 :: r) = "" := by
      unfold asciiTest; rw [ha256]; rfl
    simp only [tests, List.filter, isMagic, Bool.not_true, Bool.not_false, firstMatch, runTest, hbit, hlas, hv1, ht, htr, hv2,
      hdat, hsegy, hascii]
    rw [hver _ _ _ (by decide)]
    by_cases hc : (lisT (0 :: r)).code = "" <;> simp [hc]

/-- plain LIS -/
theorem lis_identified_partial (lisT : Bytes → LisRes) (datP : Bytes → Bool) (b : Bytes) (h : LisHead b) (hl : lisT b = .lis) :
    identify lisT datP b = "LIS" := by rw [lis_family_identified_partial lisT datP b h, hl]; rfl

/-- LIS with TIF markers (first record not exactly 276 bytes: `LisHead.not_bit`) -/
theorem list_identified_partial (lisT : Bytes → LisRes) (datP : Bytes → Bool) (b : Bytes) (h : LisHead b) (hl : lisT b = .list) :
    identify lisT datP b = "LISt" := by rw [lis_family_identified_partial lisT datP b h, hl]; rfl

/-- LIS with reversed TIF markers -/
theorem listr_identified_partial (lisT : Bytes → LisRes) (datP : Bytes → Bool) (b : Bytes) (h : LisHead b) (hl : lisT b = .listr) :
    identify lisT datP b = "LIStr" := by rw [lis_family_identified_partial lisT datP b h, hl]; rfl

/-- a plain file header record (PR length 62, type 128, name `RUNOne.lis`, filler NUL) has a LIS head -/
example : LisHead [0, 62, 0, 0, 128, 0, 82, 85, 78, 79, 110, 101, 46, 108, 105, 115, 0, 0, 83, 117] :=
  ⟨by decide, by decide, by decide, by decide, by decide, ⟨4, by decide, by decide⟩⟩

/-- a TIF-marked reel header (next = 144) has a LIS head -/
example : LisHead [0, 0, 0, 0, 0, 0, 0, 0, 144, 0, 0, 0, 0, 132, 0, 0, 132, 0, 83, 69] :=
  ⟨by decide, by decide, by decide, by decide, by decide, ⟨16, by decide, by decide⟩⟩


/-- (a) alone: on such a file the answer is exactly what the deep test says -/
theorem lis_encoded_not_shadowed (lisT : Bytes → LisRes) (datP : Bytes → Bool) (L : TD.C05.Layout) (hL : L.Valid)
    (r0 : Bytes) (rs : List Bytes) (hhdr : LisHeaderRec r0) (hmp : L.tif = .off → 13 ≤ L.maxPayload) :
    identify lisT datP (TD.C05.encode L (r0 :: rs)) = (lisT (TD.C05.encode L (r0 :: rs))).code := by
  obtain ⟨h1, h2, h3, h4, h5, h6⟩ := lisHead_encode L hL r0 rs hhdr hmp
  exact lis_family_identified_partial lisT datP _ ⟨h1, h2, h3, h4, h5, h6⟩

/-- **LIS — every file of the C05 encoder that begins with a reel/tape/file header** (`TD.C05.encode`, proved to be what
`File.FileWrite` writes: `TD.C05.writer_layout`).  For every valid layout — any trailer options, TIF off / normal /
reversed, any maximum physical record length (without TIF markers: one that leaves at least 13 payload bytes in the
first physical record, so that the header's first name field is not cut) — every header record `r0`
(`LisHeaderRec`: type 128/130/132, 58 or 128 bytes, printable name bytes, filler at offset 12) and every list of further
records `rs` (any content, any size):
(a) PROVED: no earlier test of the generated order claims the file (`LisHead` derived from the encoder's bytes; the
    276-byte TIF exclusion is vacuous here because a header record gives a first physical record of at most 138 bytes);
(b) ASSUMED, as hypothesis `hdeep`: the deep test `_lis` answers the layout's code on this file.  `_lis` runs
    `file_read_with_best_physical_record_pad_settings` (six pad settings, `keepGoing=True`, 100 records) and
    `FileIndexer.FileIndex`; the C05 reader model covers `keepGoing=False, pad_modulo=0` and the C06 index model its own
    record stream, so composing `read_refines`/`index_lists_all` would not be a statement about what `_lis` executes.
    (b) is exercised on every run by the oracle on files written by `File.FileWrite` in all these layouts.
Then the file is identified as `LIS` / `LISt` / `LIStr` according to its TIF mode. -/
theorem lis_identified_c05 (lisT : Bytes → LisRes) (datP : Bytes → Bool) (L : TD.C05.Layout) (hL : L.Valid)
    (r0 : Bytes) (rs : List Bytes) (hhdr : LisHeaderRec r0) (hmp : L.tif = .off → 13 ≤ L.maxPayload)
    (hdeep : lisT (TD.C05.encode L (r0 :: rs)) = lisCodeOf L.tif) :
    identify lisT datP (TD.C05.encode L (r0 :: rs)) = (lisCodeOf L.tif).code := by
  rw [lis_encoded_not_shadowed lisT datP L hL r0 rs hhdr hmp, hdeep]

/-- a header record is `type :: attribute :: payload`, its first physical record is short: the reversed-TIF exclusion of
C05 (first `next` word 0x100 / 0x10000) cannot occur -/
theorem lisHeader_shape (L : TD.C05.Layout) (r0 : Bytes) (rs : List Bytes) (h : LisHeaderRec r0) :
    (∃ t a payload, r0 = t :: a :: payload ∧ (t = 128 ∨ t = 130 ∨ t = 132)) ∧
    (TD.C05.firstNext L (r0 :: rs) ≠ 0x100 ∧ TD.C05.firstNext L (r0 :: rs) ≠ 0x10000) := by
  have hlen : 58 ≤ r0.length ∧ r0.length ≤ 128 := by rcases h.len with e | e <;> omega
  constructor
  · rcases r0 with _ | ⟨t, _ | ⟨a, payload⟩⟩
    · simp at hlen
    · simp at hlen
    · exact ⟨t, a, payload, rfl, by simpa using h.typ⟩
  · have hprt : L.prtLen ≤ 6 := by unfold TD.C05.Layout.prtLen; split <;> split <;> split <;> omega
    have hcl : (r0.take L.maxPayload).length ≤ 128 := by rw [List.length_take]; omega
    have e : TD.C05.firstNext L (r0 :: rs) = 12 + (4 + (r0.take L.maxPayload).length + L.prtLen) := rfl
    rw [e]
    constructor <;> omega

/-- **LIS — the deep test proved** for files of the C05 encoder (`TD.C05.encode`, = what `File.FileWrite` writes) that begin
with a reel/tape/file header, with `lisTest` the concrete `_lis` as it is in /repo after 80d49da (`LisTest.lean`): two
rounds (`pr_limit` 100, then the whole file); in each, every pad option that read at least one physical record is tried,
best count first, ties in dict order — `FileRead(keepGoing=True, option)`, `FileIndex` — options that raise or give an
empty index are skipped, the first non-empty index returns the code of the file's TIF state.
For every valid layout (trailer options, TIF off / normal / reversed, maximum PR length; without TIF at least 13 payload
bytes in the first PR), every header record `r0` and all further non-empty records `rs` the file is identified as
`LIS` / `LISt` / `LIStr` according to its TIF mode, whatever the DAT trial parse says.
The argument: in the whole-file round the file's own option (no padding) counts all its physical records
(`TD.C05.scan_counts_records`), a non-zero count, so it is among the options tried (`mem_lisTried`) and indexing with it
succeeds; whichever option returns first — in either round — gives the same code, because the TIF state is read from the
first 12 bytes, not from the pad option (`lis_answer_is_tif_state`).  No condition on the pad-option scan is left.
What remains assumed, exactly:
* `hidx` building the index over the records does not raise (`TD.C06.fileIndex … = .ok es`; record contents decide this: a
        type-64 record must be a parseable DFSR, a table record must start with a component block, …); non-emptiness of
        the index then FOLLOWS from the header record (`TD.C06.index_lists_all`);
* `hsz` the file is shorter than 2^32 − 24 bytes (TIF words);
* the shape of the header record (`LisHeaderRec`) and, without TIF markers, 13 payload bytes in the first physical record
  (both only for "no earlier test claims the file").
Not covered: files with PAD bytes after their physical records — `TD.C05.encode` writes none; they are exercised by the
oracle, the `lis-deep` correspondence stream and the kernel-evaluated examples of `ExamplesPad.lean`.
Modelling assumption: `lisTest` obtains the records from the reader by `readLrBytes(-1); tellLr()`; `FileIndex` uses other
reads of the same records — equal on these files by `read_refines` (every history). -/
theorem lis_identified (datP : Bytes → Bool) (L : TD.C05.Layout) (hL : L.Valid)
    (r0 : Bytes) (rs : List Bytes) (hhdr : LisHeaderRec r0) (hmp : L.tif = .off → 13 ≤ L.maxPayload)
    (hr : ∀ r ∈ rs, r ≠ []) (hsz : TD.C05.fileSize L (r0 :: rs) + 24 < 4294967296)
    (es : List TD.C06.Entry) (hidx : TD.C06.fileIndex (posRecs L (r0 :: rs) 0 (r0 :: rs).length) = .ok es) :
    identify lisTest datP (TD.C05.encode L (r0 :: rs)) = (lisCodeOf L.tif).code := by
  obtain ⟨⟨t, a, payload, hr0, ht⟩, hfn⟩ := lisHeader_shape L r0 rs hhdr
  have hr' : ∀ r ∈ r0 :: rs, r ≠ [] := by
    intro r hm
    rcases List.mem_cons.mp hm with e | e
    · rw [e, hr0]; simp
    · exact hr r e
  have hes : es ≠ [] := by
    have hp : posRecs L (r0 :: rs) 0 (r0 :: rs).length =
        (TD.C05.tellOf L (r0 :: rs) 0, t :: a :: payload) :: posRecs L (r0 :: rs) 1 rs.length := by
      simp [posRecs, TD.C05.recAt, hr0]
    rw [hp] at hidx
    exact fileIndex_nonempty _ t a payload _ es ht hidx
  have hdeep := lisTest_encode L (r0 :: rs) hL hr' (by simp) (fun _ => hfn) hsz es hidx hes
  exact lis_identified_c05 lisTest datP L hL r0 rs hhdr hmp hdeep

/-- for EVERY byte string: if the deep test answers at all, it answers the code of the file's TIF state — independent of
which round and which pad option produced the index -/
theorem lis_answer_is_tif_state (b : Bytes) : lisTest b = .none ∨ lisTest b = tifCode b := by
  unfold lisTest
  cases h1 : lisRound b lisPrLimit with
  | some r => right; exact lisRound_code b _ r h1
  | none =>
    cases h2 : lisRound b 0 with
    | some r => right; exact lisRound_code b _ r h2
    | none => left; rfl

/-! the hypotheses of `lis_identified` are satisfiable: a TIF-marked file header + one comment record -/
def exHdr : List Nat := [128, 0, 82, 85, 78, 79, 110, 101, 46, 108, 105, 115, 0, 0] ++ List.replicate 44 32
def exLay : TD.C05.Layout := ⟨1024, false, none, false, .le⟩
def exRest : List (List Nat) := [[232, 0, 1, 2, 3]]

set_option maxRecDepth 100000 in
example (es : List TD.C06.Entry) (h : TD.C06.fileIndex (posRecs exLay (exHdr :: exRest) 0 2) = .ok es) :
    identify lisTest (fun _ => false) (TD.C05.encode exLay (exHdr :: exRest)) = "LISt" :=
  lis_identified _ exLay (by decide) exHdr exRest ⟨Or.inl (by simp [exHdr]), by decide, by decide, by decide⟩
    (by intro h; cases h) (by decide) (by decide) es h

set_option maxRecDepth 100000 in
/-- … and building the index of these two records succeeds; the concrete deep test evaluates to `LISt` -/
example : (TD.C06.fileIndex (posRecs exLay (exHdr :: exRest) 0 2)).toOption.isSome = true ∧
    lisTest (TD.C05.encode exLay (exHdr :: exRest)) = .list := by decide +kernel

/-- a file header record (`RUNOne.lis`, NUL filler) is a `LisHeaderRec` -/
example : LisHeaderRec ([128, 0, 82, 85, 78, 79, 110, 101, 46, 108, 105, 115, 0, 0] ++ List.replicate 44 32) :=
  ⟨Or.inl (by simp), by decide, by decide, by decide⟩

/-! ## Recognition: BIT -/

/-- **BIT**: a file that begins with a TIF marker (type 0, back 0, next 288 in either byte order) followed by a complete
276-byte description block is identified as `BIT`, whatever the block holds and whatever follows. -/
theorem bit_identified (lisT : Bytes → LisRes) (datP : Bytes → Bool) (w blk rest : Bytes)
    (hw : w = [32, 1, 0, 0] ∨ w = [0, 0, 1, 32]) (hblk : blk.length = 276) :
    identify lisT datP ([0, 0, 0, 0, 0, 0, 0, 0] ++ w ++ blk ++ rest) = "BIT" := by
  have key : ∀ t : Bytes, t.length = 12 → tifInitial t ≠ .empty → tifThirdWord t = 288 →
      bitTest 12 288 276 (t ++ blk ++ rest) = "BIT" := by
    intro t ht h1 h2
    have e3 : ((blk ++ rest).take 276).length = 276 := by simp [hblk]
    have e4 : ¬ ((t ++ blk ++ rest).length < 12) := by simp [ht]
    rw [bitTest, List.append_assoc, List.take_left' ht, List.drop_left' ht, e3, ← List.append_assoc, if_neg e4, if_neg h1, h2]
    rfl
  have hbit : bitTest 12 288 276 (0 :: ([0, 0, 0, 0, 0, 0, 0] ++ w ++ blk ++ rest)) = "BIT" := by
    rcases hw with rfl | rfl
    · exact key [0, 0, 0, 0, 0, 0, 0, 0, 32, 1, 0, 0] rfl (by decide) (by decide)
    · exact key [0, 0, 0, 0, 0, 0, 0, 0, 0, 0, 1, 32] rfl (by decide) (by decide)
  rw [show [0, 0, 0, 0, 0, 0, 0, 0] ++ w ++ blk ++ rest = 0 :: ([0, 0, 0, 0, 0, 0, 0] ++ w ++ blk ++ rest) from rfl,
    identify_skip_magic lisT datP 0 _ (by unfold notMagicFirst; omega)]
  simp only [tests, List.filter, isMagic, Bool.not_true, Bool.not_false, firstMatch, runTest, hbit]
  rfl

example : ([32, 1, 0, 0] : Bytes) = [32, 1, 0, 0] ∨ ([32, 1, 0, 0] : Bytes) = [0, 0, 1, 32] := Or.inl rfl
example : (List.replicate 276 65 : Bytes).length = 276 := List.length_replicate ..


/-- **BIT — every file of the C13 encoder.**  For every non-empty list of well-formed log passes (any description, any
1…20 channels, any number of data blocks and frames, any values) whose first header has the documented 8-byte tail
(so that the description block is the documented 276 bytes), `TD.C13.Spec.encode` gives a file that is identified as
`BIT` — independent of content and size, and of what the deep tests would say. -/
theorem bit_identified_c13 (lisT : Bytes → LisRes) (datP : Bytes → Bool) (p : TD.C13.Spec.PassC) (ps : List TD.C13.Spec.PassC)
    (h : p.wf) (htail : p.tail.length = 8) :
    identify lisT datP (TD.C13.Spec.encode (p :: ps)) = "BIT" := by
  obtain ⟨rest, hr⟩ := bit_encode_shape p ps h htail
  rw [hr]
  exact bit_identified lisT datP [32, 1, 0, 0] (TD.C13.Spec.headerBytes p) rest (Or.inl rfl) (headerBytes_length p h htail)

example : identify (fun _ => .none) (fun _ => false) (TD.C13.Spec.encode [TD.C13.exPass]) = "BIT" ∨ TD.C13.exPass.tail.length ≠ 8 := by
  by_cases h : TD.C13.exPass.tail.length = 8
  · exact Or.inl (bit_identified_c13 _ _ _ _ TD.C13.exPass_wf h)
  · exact Or.inr h

/-! ## Recognition: RP66V1 -/

/-- a positive decimal number right-justified in `w` characters, padded with blanks and/or zeros -/
def PadNumField (w : Nat) (f : Bytes) : Prop :=
  f.length = w ∧ ∃ pad d ds, f = pad ++ d :: ds ∧ (∀ c ∈ pad, c = 32 ∨ c = 48) ∧ (49 ≤ d ∧ d ≤ 57) ∧ (∀ c ∈ ds, 48 ≤ c ∧ c ≤ 57)

/-- the fields of a storage unit label (RP66V1 section 2.3.2) -/
structure SUL where
  seq : Bytes          -- storage unit sequence number, 4 characters
  v1 : Nat             -- DLIS version `V1.` + two digits
  v2 : Nat
  maxlen : Bytes       -- maximum record length, 5 characters
  sid : Bytes          -- storage set identifier, 60 characters

def SUL.Conformant (s : SUL) : Prop :=
  PadNumField 4 s.seq ∧ (48 ≤ s.v1 ∧ s.v1 ≤ 57) ∧ (48 ≤ s.v2 ∧ s.v2 ≤ 57) ∧ PadNumField 5 s.maxlen ∧
  s.sid.length = 60 ∧ ∀ c ∈ s.sid, (9 ≤ c ∧ c ≤ 13) ∨ (32 ≤ c ∧ c ≤ 126)

/-- the 80 bytes of the label -/
def SUL.encode (s : SUL) : Bytes :=
  s.seq ++ ([86, 49, 46, s.v1, s.v2] ++ ([82, 69, 67, 79, 82, 68] ++ (s.maxlen ++ s.sid)))

theorem SUL.encode_length (s : SUL) (h : s.Conformant) : s.encode.length = 80 := by
  obtain ⟨⟨h1, _⟩, _, _, ⟨h4, _⟩, h5, _⟩ := h
  simp [SUL.encode, h1, h4, h5]

theorem SUL.encode_bytes (s : SUL) (h : s.Conformant) : ∃ a0 a1 a2 a3 m0 m1 m2 m3 m4,
    s.seq = [a0, a1, a2, a3] ∧ s.maxlen = [m0, m1, m2, m3, m4] ∧
    s.encode = a0 :: a1 :: a2 :: a3 :: 86 :: 49 :: 46 :: s.v1 :: s.v2 :: 82 :: 69 :: 67 :: 79 :: 82 :: 68 ::
      m0 :: m1 :: m2 :: m3 :: m4 :: s.sid := by
  obtain ⟨⟨h1, _⟩, _, _, ⟨h4, _⟩, _⟩ := h
  rcases hs : s.seq with _ | ⟨a0, _ | ⟨a1, _ | ⟨a2, _ | ⟨a3, _ | _⟩⟩⟩⟩ <;> simp [hs] at h1
  rcases hm : s.maxlen with _ | ⟨m0, _ | ⟨m1, _ | ⟨m2, _ | ⟨m3, _ | ⟨m4, _ | _⟩⟩⟩⟩⟩ <;> simp [hm] at h4
  exact ⟨a0, a1, a2, a3, m0, m1, m2, m3, m4, rfl, rfl, by simp [SUL.encode, hs, hm]⟩

theorem sul_rp66v1Bytes (s : SUL) (h : s.Conformant) : rp66v1Bytes s.encode = "RP66V1" := by
  have hlen := s.encode_length h
  obtain ⟨a0, a1, a2, a3, m0, m1, m2, m3, m4, hs, hm, he⟩ := s.encode_bytes h
  obtain ⟨⟨h1, pad1, d1, ds1, e1, hp1, hd1, hds1⟩, hv1, hv2, ⟨h4, pad4, d4, ds4, e4, hp4, hd4, hds4⟩, h5, hpr⟩ := h
  have f1 : slice s.encode 0 4 = s.seq := by simp [he, hs, slice]
  have f2 : slice s.encode 4 9 = [86, 49, 46, s.v1, s.v2] := by simp [he, slice]
  have f3 : slice s.encode 9 15 = [82, 69, 67, 79, 82, 68] := by simp [he, slice]
  have f4 : slice s.encode 15 20 = s.maxlen := by simp [he, hm, slice]
  have f5 : slice s.encode 20 80 = s.sid := by simp [he, slice, List.take_of_length_le, h5]
  have m1 : shapeMatch reV1_c1 s.seq = true := by
    simp only [reV1_c1, shapeMatch]; rw [e1]; exact dollar_of _ _ (padNumCore_spec pad1 d1 ds1 hp1 hd1 hds1)
  have m2 : shapeMatch reV1_c2 [86, 49, 46, s.v1, s.v2] = true := by
    simp only [reV1_c2, shapeMatch]; apply dollar_of
    simp [verCore, isDigit, hv1, hv2]
  have m3 : shapeMatch reV1_c3 [82, 69, 67, 79, 82, 68] = true := by decide
  have m4 : shapeMatch reV1_c4 s.maxlen = true := by
    simp only [reV1_c4, shapeMatch]; rw [e4]; exact dollar_of _ _ (padNumCore_spec pad4 d4 ds4 hp4 hd4 hds4)
  have m5 : allPrintable s.sid = true := by
    simp only [allPrintable, List.all_eq_true]
    intro c hc
    rcases hpr c hc with hh | hh
    · exact printable_range c (by omega) (Or.inl hh)
    · exact printable_range c (by omega) (Or.inr hh)
  unfold rp66v1Bytes
  rw [f1, f2, f3, f4, f5, m1, m2, m3, m4, m5, hlen, h5]
  decide

/-- **RP66V1**: a file that begins with *any* conformant storage unit label is identified as `RP66V1`, regardless of
what follows the label (records, layout, content, size) and of what the deep tests would say. -/
theorem rp66_identified (lisT : Bytes → LisRes) (datP : Bytes → Bool) (s : SUL) (h : s.Conformant) (rest : Bytes) :
    identify lisT datP (s.encode ++ rest) = "RP66V1" := by
  have hv := sul_rp66v1Bytes s h
  have hlen := s.encode_length h
  have htake : (s.encode ++ rest).take 80 = s.encode := List.take_left' hlen
  obtain ⟨⟨h1, pad1, d1, ds1, e1, hp1, hd1, hds1⟩, hv1, hv2, hrest⟩ := h
  -- the first non-blank byte is `0` or a digit: no LAS
  have hlas : ∀ pfx, lasTest pfx (s.encode ++ rest) = "" := by
    intro pfx
    obtain ⟨T, e⟩ : ∃ T, s.encode ++ rest = pad1 ++ d1 :: T := by
      rw [SUL.encode, e1]; simp only [List.append_assoc, List.cons_append]; exact ⟨_, rfl⟩
    obtain ⟨c, r, hc, hc1, hc2⟩ := dropWhile_pad pad1 d1 T hp1 hd1
    rw [e]
    exact las_fail pfx _ c r hc (by omega) (by omega)
  -- bytes 0..11
  obtain ⟨a0, a1, a2, a3, m0, m1, m2, m3, m4, hseq, _, he⟩ := s.encode_bytes ⟨⟨h1, pad1, d1, ds1, e1, hp1, hd1, hds1⟩, hv1, hv2, hrest⟩
  have ha0 : a0 = 32 ∨ (48 ≤ a0 ∧ a0 ≤ 57) := by
    rw [hseq] at e1
    cases pad1 with
    | nil => simp at e1; omega
    | cons x p => simp at e1; rcases hp1 x (by simp) with hx | hx <;> omega
  have hb : s.encode ++ rest = a0 :: a1 :: a2 :: a3 :: 86 :: 49 :: 46 :: s.v1 :: s.v2 :: 82 :: 69 :: 67 :: 79 :: 82 :: 68 ::
      m0 :: m1 :: m2 :: m3 :: m4 :: (s.sid ++ rest) := by rw [he]; rfl
  have hbit : bitTest 12 288 276 (s.encode ++ rest) = "" := by
    apply bit_fail
    rw [hb]
    simp only [tifThirdWord, le32, be32, byteAt, List.getD_cons_succ, List.getD_cons_zero]
    split <;> omega
  rw [hb] at hlas hbit htake ⊢
  rw [identify_skip_magic lisT datP a0 _ (by unfold notMagicFirst; omega)]
  simp only [tests, List.filter, isMagic, Bool.not_true, Bool.not_false, firstMatch, runTest, hbit, hlas, htake, hv]
  rfl

/-- **RP66V1 — every file of the C01 encoder.**  For every conformant storage unit label as written (`SULW`: any
sequence number with `0`/blank fill, any `V1.dd`, any maximum record length with fill) whose 60 identifier bytes are
printable ASCII (C01's conformance allows any bytes there; `_rp66v1_bytes` insists on `string.printable`), every list
of logical records and every layout (segmentation, padding, checksums, visible record packing),
`TD.C01.encode sul recs ℓ` is identified as `RP66V1`. -/
theorem rp66_identified_c01 (lisT : Bytes → LisRes) (datP : Bytes → Bool) (sul : TD.C01.SULW) (recs : List TD.C01.LR)
    (ℓ : TD.C01.Layout) (hs : sul.conformant = true)
    (hid : ∀ c ∈ sul.ident, (9 ≤ c ∧ c ≤ 13) ∨ (32 ≤ c ∧ c ≤ 126)) :
    identify lisT datP (TD.C01.encode sul recs ℓ) = "RP66V1" := by
  obtain ⟨h1, hf1, hl1, ⟨a, b, hv, ha, hb⟩, h20, _, hf2, hl2, hidl⟩ := sul.conformant_iff hs
  obtain ⟨_, hdig1, hhead1⟩ := TD.C01.decDigits_spec sul.seq
  obtain ⟨d1, t1, e1, hd1a, hd1b⟩ := hhead1 h1
  obtain ⟨_, hdig2, hhead2⟩ := TD.C01.decDigits_spec sul.maxLen
  obtain ⟨d2, t2, e2, hd2a, hd2b⟩ := hhead2 (by omega)
  let s : SUL := ⟨sul.seqFill ++ TD.C01.decDigits sul.seq, a, b, sul.maxFill ++ TD.C01.decDigits sul.maxLen, sul.ident⟩
  have hconf : s.Conformant := by
    refine ⟨⟨by simp [s, hl1], sul.seqFill, d1, t1, by simp [s, e1], c01_fill _ hf1, ⟨hd1a, hd1b⟩, ?_⟩, c01_digit a ha, c01_digit b hb,
      ⟨by simp [s, hl2], sul.maxFill, d2, t2, by simp [s, e2], c01_fill _ hf2, ⟨hd2a, hd2b⟩, ?_⟩, hidl, hid⟩
    · intro c hc; exact c01_digit c (hdig1 c (by rw [e1]; simp [hc]))
    · intro c hc; exact c01_digit c (hdig2 c (by rw [e2]; simp [hc]))
  have henc : TD.C01.encode sul recs ℓ = s.encode ++ (TD.C01.cutAll recs ℓ.recs).flatMap TD.C01.TSeg.bytes := by
    simp [TD.C01.encode, TD.C01.encodeSUL, SUL.encode, s, hv, TD.C01.recordWord]
  rw [henc]
  exact rp66_identified lisT datP s hconf _

/-- the C01 example file (padding, checksum, trailing length, encryption, three visible records) -/
example : identify (fun _ => .none) (fun _ => false) (TD.C01.encode TD.C01.exSul TD.C01.exRecs TD.C01.exLayout) = "RP66V1" :=
  rp66_identified_c01 _ _ _ _ _ (by decide) (by decide)

/-- `   1V1.00RECORD 8192Default Storage Set…` is conformant -/
example : SUL.Conformant ⟨[32, 32, 32, 49], 48, 48, [32, 56, 49, 57, 50], List.replicate 60 32⟩ :=
  ⟨⟨rfl, [32, 32, 32], 49, [], rfl, by decide, by decide, by decide⟩, by decide, by decide,
   ⟨rfl, [32], 56, [49, 57, 50], rfl, by decide, by decide, by decide⟩, List.length_replicate .., by
     intro c hc; rw [List.mem_replicate] at hc; omega⟩

/-- sequence number `0010` and maximum record length `04096` (the forms of defect F4) are conformant too -/
example : PadNumField 4 [48, 48, 49, 48] ∧ PadNumField 5 [48, 52, 48, 57, 54] :=
  ⟨⟨rfl, [48, 48], 49, [48], rfl, by decide, by decide, by decide⟩, ⟨rfl, [48], 52, [48, 57, 54], rfl, by decide, by decide, by decide⟩⟩


/-! ## Recognition: DAT -/

/-- **DAT text, any leading blanks, any length** (relative to the trial parse `datP`): a printable ASCII text whose first
non-blank byte is a channel mnemonic character, whose fifth byte is not `V`, and which the trial parse accepts is `DAT`. -/
theorem dat_text_identified (lisT : Bytes → LisRes) (datP : Bytes → Bool) (b : Bytes) (c : Nat) (r : Bytes)
    (hp : Printable b) (hd : b.dropWhile isWs = c :: r) (hc : (65 ≤ c ∧ c ≤ 90) ∨ (48 ≤ c ∧ c ≤ 57))
    (h4 : byteAt b 4 ≠ 86) (hdat : datP b = true) : identify lisT datP b = "DAT" := by
  have hne (x : Nat) (hw : isWs x = false) (hx : x ≠ c) : b.head? ≠ some x := by
    intro h
    cases b with
    | nil => cases h
    | cons y t =>
      cases h
      rw [List.dropWhile_cons_of_neg (by simp [hw])] at hd
      exact hx (List.cons.inj hd).1
  rw [identify_skip_magic_pr lisT datP b hp (hne 60 (by decide) (by omega)) (hne 37 (by decide) (by omega))]
  have hbit := bit_fail_printable b hp
  have hlas : ∀ pfx, lasTest pfx b = "" := fun pfx => las_fail pfx b c r hd (by omega) (by omega)
  have hv1 := rp66v1Test_fail b h4
  obtain ⟨ht, htr⟩ := rp66v1Tifs_fail_printable b hp
  have hv2 := rp66v2_fail b h4
  have hall : b.all (fun c => decide (c < 128)) = true := by
    rw [List.all_eq_true]; intro x hx; have := hp x hx; simp; omega
  have hdt : datTest datP b = "DAT" := by simp [datTest, hall, hdat]
  simp only [tests, List.filter, isMagic, Bool.not_true, Bool.not_false, firstMatch, runTest, hbit, hlas, hv1, ht, htr, hv2, hdt]
  rfl

/-- **DAT, relative to the trial parse** (`_partial`: `DAT_parser.can_parse_file` is the abstract `datP`).  A printable
ASCII text of at least 12 bytes that starts with a channel mnemonic character (`A-Z0-9`), whose fifth byte is not `V`
(its first line does not imitate a storage unit label: `0001V1 00RECORD …` would be taken for RP66V1, which comes first
in the table) and which the DAT trial parse accepts, is identified as `DAT`: no earlier test of the generated order
claims it, and the later `ASCII` test does not get a chance.
Missing for the full statement "every valid DAT file is identified as DAT": `datP b = true` for generated DAT texts
(exercised by the oracle). -/
theorem dat_identified_partial (lisT : Bytes → LisRes) (datP : Bytes → Bool) (c0 c1 c2 c3 : Nat) (r : Bytes)
    (htok : (65 ≤ c0 ∧ c0 ≤ 90) ∨ (48 ≤ c0 ∧ c0 ≤ 57))
    (hp : Printable (c0 :: c1 :: c2 :: c3 :: r)) (hlen : 12 ≤ (c0 :: c1 :: c2 :: c3 :: r).length)
    (h4 : byteAt (c0 :: c1 :: c2 :: c3 :: r) 4 ≠ 86)
    (hdat : datP (c0 :: c1 :: c2 :: c3 :: r) = true) :
    identify lisT datP (c0 :: c1 :: c2 :: c3 :: r) = "DAT" := by
  have hws : isWs c0 = false := by simp [isWs]; omega
  exact dat_text_identified lisT datP _ c0 (c1 :: c2 :: c3 :: r) hp (by simp [List.dropWhile, hws]) htok h4 hdat

/-- `UTIM Unix Time sec` starts a DAT text: printable, 12 bytes or more, fifth byte a blank -/
example : Printable [85, 84, 73, 77, 32, 85, 110, 105, 120, 32, 84, 105, 109, 101] ∧
    byteAt [85, 84, 73, 77, 32, 85, 110, 105, 120, 32, 84, 105, 109, 101] 4 ≠ 86 := by
  constructor
  · unfold Printable; decide
  · decide


/-- **DAT — every file of the C14 printer, in every layout.**  For every well-formed DAT content `f` (declarations in any
order, `UTIM DATE TIME` + at least one further channel, rows) with at least one data row, printed by `TD.C14.Spec.print`
in *any* layout (blanks around and between tokens, leading blanks, either date spelling, optional final newline), the
file is identified as `DAT` — with the trial parse being the C14 model of `DAT_parser.can_parse_file`
(`datParse`, proved to accept the file: `canParse_print`) and whatever the LIS deep test would say.
The one hypothesis beyond well-formedness: the fifth byte of the file is not `V`.  It excludes texts whose first line
imitates a storage unit label — a *well-formed* DAT file that declares a channel named `1V1` as
`   1V1 00RECORD 8192 … ` (60 more printable bytes) is identified as `RP66V1` by the code, because `_rp66v1` comes
first and `.` in `V1.` matches any character (confirmed on the implementation; see notes).  The hypothesis holds e.g.
whenever the file starts with `UTIM` (`dat_identified_utim_first`). -/
theorem dat_identified (lisT : Bytes → LisRes) (f : TD.C14.Spec.File) (hwf : f.wf) (hrows : f.rows ≠ [])
    (h4 : byteAt (TD.C14.Spec.print f) 4 ≠ 86) :
    identify lisT datParse (TD.C14.Spec.print f) = "DAT" := by
  obtain ⟨lead, a, W, hpr, hblank, ha⟩ := print_head f hwf
  have ha' : (65 ≤ a ∧ a ≤ 90) ∨ (48 ≤ a ∧ a ≤ 57) := by
    simpa [TD.C14.isUpperDigit] using ha
  have hws : isWs a = false := by simp [isWs]; omega
  exact dat_text_identified lisT datParse _ a W (print_printable f hwf)
    (by rw [hpr]; exact dropWhile_blank_prefix lead a W hblank hws) ha' h4 (datParse_print f hwf hrows)

/-- the usual case: the first line declares `UTIM` without leading blanks — byte 4 is the separator after it -/
theorem dat_identified_utim_first (lisT : Bytes → LisRes) (f : TD.C14.Spec.File) (hwf : f.wf) (hrows : f.rows ≠ [])
    (rest : TD.C14.Str) (hstart : TD.C14.Spec.print f = 85 :: 84 :: 73 :: 77 :: rest) (hsep : rest.head? ≠ some 86) :
    identify lisT datParse (TD.C14.Spec.print f) = "DAT" := by
  apply dat_identified lisT f hwf hrows
  rw [hstart]
  cases rest with
  | nil => simp [byteAt]
  | cons x t => simpa [byteAt] using hsep

/-- the C14 example file (declarations out of order, tabs, both date spellings) is identified as DAT -/
example : identify (fun _ => .none) datParse (TD.C14.Spec.print TD.C14.exFile) = "DAT" :=
  dat_identified _ TD.C14.exFile TD.C14.exFile_wf (by decide) (by decide)

/-! ## Recognition: LAS -/

/-- **LAS 1.2 / 2.0 / 3.0, at the level of the line scanner** (`_partial`).  If the first two non-empty lines of the
file (after cutting `#` comments and stripping) are a `~V…` line and a version line `VERS . <number> : …` whose number
starts with `1.2`, `2.0` or `3.0`, then the file is identified as `LAS1.2`, `LAS2.0`, `LAS3.0` respectively: no
magic-number test and no BIT test claims it first (bytes 8..11 of a text do not spell the word 288), and an earlier LAS
version does not shadow a later one.
Missing for the full statement "every `print c ℓ` of the LAS writer/layout family is identified": the hypotheses are
stated with the model's own `lasLines`/`versGroup` (the transcription of the loop of `_las` and of
`RE_LAS_VERSION_LINE`) rather than with an independent printer of LAS layouts; the printer side is exercised by the
oracle (generated layouts) and the `example`s below evaluate the whole chain on concrete texts. -/
theorem las_identified_partial (lisT : Bytes → LisRes) (datP : Bytes → Bool) (b l0 l1 : Bytes) (ls : List Bytes) (d pfx : Bytes)
    (hb : ∀ x ∈ b, x < 256) (hnb : ¬ word288 b)
    (hl : lasLines b = l0 :: l1 :: ls) (h0 : l0.take 2 = [126, 86]) (hv : versGroup l1 = some d)
    (hp : pfx = [49, 46, 50] ∨ pfx = [50, 46, 48] ∨ pfx = [51, 46, 48]) (hd : d.take 3 = pfx) :
    identify lisT datP b = "LAS" ++ codeOfBytes pfx := by
  have heval : ∀ q : Bytes, lasTest q b = if d.take q.length == q then "LAS" ++ codeOfBytes q else "" := by
    intro q
    unfold lasTest
    rw [hl]
    simp only [h0, hv]
    simp
  cases b with
  | nil => simp [lasLines, splitNl, lasLine, strip, stripEnd] at hl
  | cons c0 r =>
    -- the first byte is a blank, `#` or `~`: no magic number
    have hmag : notMagicFirst c0 := by
      unfold notMagicFirst
      by_cases hws : isWs c0 = true
      · simp [isWs] at hws; omega
      · by_cases h35 : c0 = 35
        · omega
        · have hws' : isWs c0 = false := by simpa using hws
          obtain ⟨u, ls', hh⟩ := lasLines_head (c0 :: r) c0 r (by simp [List.dropWhile, hws']) h35
          rw [hl] at hh
          rw [(List.cons.inj hh).1] at h0
          cases u <;> simp at h0 <;> omega
    rw [identify_skip_magic lisT datP c0 r hmag]
    have hbit := bit_fail (c0 :: r) (thirdWord_ne _ (fun i _ _ => byteAt_lt _ hb i) hnb)
    simp only [tests, List.filter, isMagic, Bool.not_true, Bool.not_false, firstMatch, runTest, hbit, heval]
    rcases hp with rfl | rfl | rfl <;> simp [hd]

theorem las12_identified_partial (lisT : Bytes → LisRes) (datP : Bytes → Bool) (b l0 l1 : Bytes) (ls : List Bytes) (d : Bytes)
    (hb : ∀ x ∈ b, x < 256) (hnb : ¬ word288 b)
    (hl : lasLines b = l0 :: l1 :: ls) (h0 : l0.take 2 = [126, 86]) (hv : versGroup l1 = some d) (hd : d.take 3 = [49, 46, 50]) :
    identify lisT datP b = "LAS1.2" :=
  las_identified_partial lisT datP b l0 l1 ls d _ hb hnb hl h0 hv (Or.inl rfl) hd

theorem las20_identified_partial (lisT : Bytes → LisRes) (datP : Bytes → Bool) (b l0 l1 : Bytes) (ls : List Bytes) (d : Bytes)
    (hb : ∀ x ∈ b, x < 256) (hnb : ¬ word288 b)
    (hl : lasLines b = l0 :: l1 :: ls) (h0 : l0.take 2 = [126, 86]) (hv : versGroup l1 = some d) (hd : d.take 3 = [50, 46, 48]) :
    identify lisT datP b = "LAS2.0" :=
  las_identified_partial lisT datP b l0 l1 ls d _ hb hnb hl h0 hv (Or.inr (Or.inl rfl)) hd

/-- `# c\n~Version\n VERS .   2.0  : x\n` : comment line first, blanks around the dot and the colon -/
example : identify (fun _ => .none) (fun _ => false)
    [35, 32, 99, 10, 126, 86, 101, 114, 115, 105, 111, 110, 10, 32, 86, 69, 82, 83, 32, 46, 32, 32, 32, 50, 46, 48, 32, 32, 58, 32, 120, 10] = "LAS2.0" := by
  decide

/-- `~V\r\nVERS.\t1.20:\r\n` -/
example : identify (fun _ => .none) (fun _ => false)
    [126, 86, 13, 10, 86, 69, 82, 83, 46, 9, 49, 46, 50, 48, 58, 13, 10] = "LAS1.2" := by
  decide

/-- the hypotheses of `las20_identified_partial` are satisfiable -/
example : lasLines [126, 86, 10, 86, 69, 82, 83, 46, 32, 50, 46, 48, 58] = [[126, 86], [86, 69, 82, 83, 46, 32, 50, 46, 48, 58]] ∧
    versGroup [86, 69, 82, 83, 46, 32, 50, 46, 48, 58] = some [50, 46, 48] := by
  decide

end TD.C20
