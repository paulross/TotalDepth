import TD.C05.Props
import TD.C20.Lemmas

/-!
C20 ↔ C05 bridge: the first bytes of a LIS file written by the C05 spec encoder (`TD.C05.encode`; what `File.FileWrite`
writes for TIF off / normal: `TD.C05.writer_layout`) when its first logical record is a reel/tape/file header.
-/
namespace TD.C20
open TD.C05

/-- A reel / tape / file header logical record as LIS-79 lays it out: type 132 / 130 / 128, attribute byte, then the
fixed text fields; 58 bytes (file header) or 128 bytes (reel, tape).  Bytes 4..7 lie inside the first name field
(file name / service name) and are printable; byte 12 is filler (blank or NUL) in all three layouts. -/
structure LisHeaderRec (r : Bytes) : Prop where
  len : r.length = 58 ∨ r.length = 128
  typ : r.getD 0 0 = 128 ∨ r.getD 0 0 = 130 ∨ r.getD 0 0 = 132
  name : ∀ i, 4 ≤ i → i < 8 → 32 ≤ r.getD i 0 ∧ r.getD i 0 ≤ 126
  filler : r.getD 12 0 = 0 ∨ r.getD 12 0 = 32

theorem getD_take_append (r X : Bytes) (n i : Nat) (hn : i < n) (hr : i < r.length) :
    (r.take n ++ X).getD i 0 = r.getD i 0 := by
  have : i < (r.take n).length := by rw [List.length_take]; omega
  simp [List.getD_eq_getElem?_getD, List.getElem?_append_left this, hn]

/-- the file begins with the first physical record of the first logical record -/
theorem encode_prefix (L : Layout) (hL : L.Valid) (r0 : Bytes) (rs : List Bytes) (hr0 : r0 ≠ []) :
    ∃ last X, encode L (r0 :: rs) =
      tifMarker L.tif 0 0 (12 + prLenOf L (r0.take L.maxPayload)) ++
        (u16be (prLenOf L (r0.take L.maxPayload)) ++ u16be (attrOf L true last) ++ (r0.take L.maxPayload ++ X)) := by
  have hmp : 1 ≤ L.maxPayload := by
    unfold Layout.Valid at hL; unfold Layout.maxPayload; omega
  refine ⟨(chunks L.maxPayload (r0.drop (r0.take L.maxPayload).length)).isEmpty, ?_⟩
  simp only [encode, encRecs, encRec, chunks_cons L.maxPayload hmp r0 hr0, encChunks, encPR, prBody, prCovered, ES.init,
    Nat.zero_add, List.append_assoc]
  exact ⟨_, rfl⟩

theorem u16be_small (n : Nat) (h : n < 256) : u16be n = [0, n] := by
  unfold u16be
  have : n / 256 = 0 := Nat.div_eq_of_lt h
  simp [this, Nat.mod_eq_of_lt h]


theorem tifMarker_small (m : TifMode) (hm : m ≠ .off) (n : Nat) (h : n < 256) :
    ∃ w0 w3, tifMarker m 0 0 n = [0, 0, 0, 0, 0, 0, 0, 0, w0, 0, 0, w3] ∧ w0 < 256 ∧ w3 < 256 := by
  have h1 : n / 256 = 0 := Nat.div_eq_of_lt h
  have h2 : n / 65536 = 0 := Nat.div_eq_of_lt (by omega)
  have h3 : n / 16777216 = 0 := Nat.div_eq_of_lt (by omega)
  cases m with
  | off => exact absurd rfl hm
  | le => exact ⟨n, 0, by simp [tifMarker, u32le, h1, h2, h3, Nat.mod_eq_of_lt h], h, by omega⟩
  | be => exact ⟨0, n, by simp [tifMarker, u32be, h1, h2, h3, Nat.mod_eq_of_lt h], by omega, h⟩

/-- **the head of an encoded LIS file** whose first logical record is a reel/tape/file header, for every valid layout
(any trailer options, TIF off / normal / reversed, any maximum PR length that — without TIF markers — leaves at least
13 payload bytes in the first physical record) and whatever records follow -/
theorem lisHead_encode (L : Layout) (hL : L.Valid) (r0 : Bytes) (rs : List Bytes) (h : LisHeaderRec r0)
    (hmp : L.tif = .off → 13 ≤ L.maxPayload) :
    let b := encode L (r0 :: rs)
    b.head? = some 0 ∧ (∀ i, 8 ≤ i → i < 12 → byteAt b i < 256) ∧ byteAt b 4 ≠ 86 ∧ byteAt b 16 ≠ 86 ∧ ¬ word288 b ∧
      ∃ i, i < 256 ∧ 128 ≤ byteAt b i := by
  intro b
  have hlen : 58 ≤ r0.length ∧ r0.length ≤ 128 := by rcases h.len with e | e <;> omega
  have hr0 : r0 ≠ [] := by intro e; rw [e] at hlen; simp at hlen
  have hmp1 : 1 ≤ L.maxPayload := by unfold Layout.Valid at hL; unfold Layout.maxPayload; omega
  obtain ⟨last, X, hb⟩ := encode_prefix L hL r0 rs hr0
  have hcl : (r0.take L.maxPayload).length = min L.maxPayload r0.length := List.length_take
  have hprt : L.prtLen ≤ 6 := by unfold Layout.prtLen; split <;> split <;> split <;> omega
  -- 244 = 256 − 12: the first marker's `next` = 12 + PR length fits one byte
  have hp : prLenOf L (r0.take L.maxPayload) < 244 := by unfold prLenOf; omega
  have hq : u16be (prLenOf L (r0.take L.maxPayload)) = [0, prLenOf L (r0.take L.maxPayload)] := u16be_small _ (by omega)
  obtain ⟨_, htyp, hname, hfill⟩ := h
  have n4 := hname 4 (by omega) (by omega); have n5 := hname 5 (by omega) (by omega)
  have n6 := hname 6 (by omega) (by omega); have n7 := hname 7 (by omega) (by omega)
  by_cases htif : L.tif = .off
  · have h13 := hmp htif
    have e : b = 0 :: prLenOf L (r0.take L.maxPayload) :: (u16be (attrOf L true last)).getD 0 0 ::
        (u16be (attrOf L true last)).getD 1 0 :: (r0.take L.maxPayload ++ X) := by
      show encode L (r0 :: rs) = _; rw [hb, htif, hq]; simp [tifMarker, u16be]
    have g (i : Nat) (hi : i < 13) : byteAt b (i + 4) = r0.getD i 0 := by
      rw [e]; exact getD_take_append r0 X _ i (by omega) (by omega)
    have e4 : byteAt b 4 = _ := g 0 (by omega)
    have e8 : byteAt b 8 = _ := g 4 (by omega)
    have e9 : byteAt b 9 = _ := g 5 (by omega)
    have e10 : byteAt b 10 = _ := g 6 (by omega)
    have e11 : byteAt b 11 = _ := g 7 (by omega)
    have e16 : byteAt b 16 = _ := g 12 (by omega)
    refine ⟨by rw [e]; rfl, fun i h1 h2 => ?_, by omega, by omega, by unfold word288; omega, 4, by omega, by omega⟩
    obtain rfl | rfl | rfl | rfl : i = 8 ∨ i = 9 ∨ i = 10 ∨ i = 11 := by omega
    all_goals omega
  · obtain ⟨w0, w3, hM, hw0, hw3⟩ := tifMarker_small L.tif htif (12 + prLenOf L (r0.take L.maxPayload)) (by omega)
    have e : b = 0 :: 0 :: 0 :: 0 :: 0 :: 0 :: 0 :: 0 :: w0 :: 0 :: 0 :: w3 :: 0 :: prLenOf L (r0.take L.maxPayload) ::
        (u16be (attrOf L true last)).getD 0 0 :: (u16be (attrOf L true last)).getD 1 0 :: (r0.take L.maxPayload ++ X) := by
      show encode L (r0 :: rs) = _; rw [hb, hM, hq]; simp [u16be]
    have e16 : byteAt b 16 = r0.getD 0 0 := by
      rw [e]; exact getD_take_append r0 X _ 0 (by omega) (by omega)
    have e4 : byteAt b 4 = 0 := by rw [e]; rfl
    have e8 : byteAt b 8 = w0 := by rw [e]; rfl
    have e9 : byteAt b 9 = 0 := by rw [e]; rfl
    have e10 : byteAt b 10 = 0 := by rw [e]; rfl
    have e11 : byteAt b 11 = w3 := by rw [e]; rfl
    refine ⟨by rw [e]; rfl, fun i h1 h2 => ?_, by omega, by omega, by unfold word288; omega, 16, by omega, by omega⟩
    obtain rfl | rfl | rfl | rfl : i = 8 ∨ i = 9 ∨ i = 10 ∨ i = 11 := by omega
    all_goals omega

end TD.C20
