/-
C20 — three padded LIS files of the input classes of the defects repaired in /repo (7ad9eab, 80d49da), evaluated by the kernel on the
concrete deep test `lisTest` (built by `./check C20` through EXTRA_LEAN_TARGETS; ≈ 1 min the first time).
`TD.C05.encode` writes no PAD bytes, so `lis_identified` does not speak about these files.
-/
import TD.C20.LemRound
namespace TD.C20

def exHdrRec : List Nat := [128, 0, 82, 85, 78, 79, 110, 101, 46, 108, 105, 115, 0, 0] ++ List.replicate 44 32

/-- shape of replay C20-0-11: PR(62) file header | PR(7) + 1 PAD | PR(1280) | PR(7) + 1 PAD, null padding to even
positions.  Every pad option but (4, non-null) "reads 4 PRs" — with pad 0 the third header is mis-read as length 5. -/
def exPadTie : List Nat :=
  [0, 62, 0, 0] ++ exHdrRec ++ [0, 7, 0, 0, 232, 0, 32, 0] ++ ([5, 0, 0, 0, 232, 0] ++ List.replicate 1274 32) ++ [0, 7, 0, 0, 232, 0, 1, 0]

set_option maxRecDepth 1000000 in
/-- a tie in which the first options fail: (0, False) and (0, True) are tried first and give no index (the code before the
repair stopped there and answered ''); the third tied option (2, False) gives the index -/
example : (TD.C05.scanAll true exPadTie 100).map (·.2) = [4, 4, 4, 4, 4, 0] ∧
    lisTried exPadTie 100 = [(0, false), (0, true), (2, false), (2, true), (4, false)] ∧
    lisTryOption exPadTie (0, false) = none ∧ lisTryOption exPadTie (0, true) = none ∧
    lisTryOption exPadTie (2, false) = some .lis ∧ lisTest exPadTie = .lis :=
  -- here and below: one kernel evaluation (the scans are shared); the answer then follows by `lisTest_of_success`
  (by decide +kernel : _ ∧ _ ∧ _ ∧ _ ∧ _ ∧ (2, false) ∈ lisTried exPadTie 100 ∧ tifCode exPadTie = .lis)
    |>.imp_right <| .imp_right <| .imp_right <| .imp_right fun ⟨h, hm, ht⟩ =>
      ⟨h, ht ▸ lisTest_of_success _ 100 (.inl rfl) _ hm _ h⟩

/-- shape of replay C20-33-0: record-number trailer, null padding to multiples of 4; the header and the next 100 physical
records need no PAD bytes, the 102nd is 10 bytes long and is followed by 2 PAD bytes. -/
def exPadLate : List Nat :=
  [0, 64, 2, 0] ++ exHdrRec ++ [0, 0] ++
  (List.range 100).flatMap (fun i => [0, 12, 2, 0, 232, 0, 1, 2, 3, 4, 0, i + 1]) ++
  [0, 10, 2, 0, 232, 0, 1, 2, 0, 101, 0, 0] ++ [0, 12, 2, 0, 232, 0, 1, 2, 3, 4, 0, 102]

set_option maxRecDepth 1000000 in
/-- a tie at the 100-record limit that breaks later: all six options count 100, over the whole file only pad 4 reads
all 103 records; the first four tied options fail and (4, False) gives the index in the first round -/
example : (TD.C05.scanAll true exPadLate 100).map (·.2) = [100, 100, 100, 100, 100, 100] ∧
    (TD.C05.scanAll true exPadLate 0).map (·.2) = [0, 0, 0, 0, 103, 103] ∧
    lisTryOption exPadLate (0, false) = none ∧ lisTryOption exPadLate (2, true) = none ∧
    lisTryOption exPadLate (4, false) = some .lis ∧ lisTest exPadLate = .lis :=
  (by decide +kernel : _ ∧ _ ∧ _ ∧ _ ∧ _ ∧ (4, false) ∈ lisTried exPadLate 100 ∧ tifCode exPadLate = .lis)
    |>.imp_right <| .imp_right <| .imp_right <| .imp_right fun ⟨h, hm, ht⟩ =>
      ⟨h, ht ▸ lisTest_of_success _ 100 (.inl rfl) _ hm _ h⟩

/-- the over-count reproducer (finding C20-lis-padded-wrong-option-overcounts, repaired by 80d49da):
PR(62) file header | PR(7) + 1 PAD | PR(1537) + 1 PAD | PR(7) + 1 PAD.  Read with pad 0 the mis-aligned third header is a plausible
6-byte record and the scan counts FIVE "records"; the file's own option (pad 2) counts the true four. -/
def exPadOver : List Nat :=
  [0, 62, 0, 0] ++ exHdrRec ++ [0, 7, 0, 0, 232, 0, 32, 0] ++ ([6, 1, 0, 0, 232, 0] ++ List.replicate 1531 32 ++ [0]) ++ [0, 7, 0, 0, 232, 0, 1, 0]

set_option maxRecDepth 1000000 in
/-- the wrong options count more and are tried first, give no index, and the file's own option — not among the best —
is still tried and gives the index -/
example : (TD.C05.scanAll true exPadOver 100).map (·.2) = [5, 5, 4, 4, 4, 0] ∧
    lisTried exPadOver 100 = [(0, false), (0, true), (2, false), (2, true), (4, false)] ∧
    lisTryOption exPadOver (0, false) = none ∧ lisTryOption exPadOver (0, true) = none ∧
    lisTryOption exPadOver (2, false) = some .lis ∧ lisTest exPadOver = .lis :=
  (by decide +kernel : _ ∧ _ ∧ _ ∧ _ ∧ _ ∧ (2, false) ∈ lisTried exPadOver 100 ∧ tifCode exPadOver = .lis)
    |>.imp_right <| .imp_right <| .imp_right <| .imp_right fun ⟨h, hm, ht⟩ =>
      ⟨h, ht ▸ lisTest_of_success _ 100 (.inl rfl) _ hm _ h⟩

end TD.C20
