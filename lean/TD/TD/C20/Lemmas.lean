import TD.C20.Model

/-! C20 — why each test of the generated table fails on the inputs another test is meant for (core Lean only). -/
namespace TD.C20
open TD.C20.Gen

def isMagic : TestKind → Bool
  | .magic .. => true
  | .magicAny .. => true
  | _ => false

/-- not a first byte of a magic-number signature of the generated table (RCD/STK 4, CFBF 208, PDS 1, XML 60, PDF/PS 37,
ZIP 80, TIFF 73, JPEG 255) -/
def notMagicFirst (c : Nat) : Prop := c ≠ 4 ∧ c ≠ 208 ∧ c ≠ 1 ∧ c ≠ 60 ∧ c ≠ 37 ∧ c ≠ 80 ∧ c ≠ 73 ∧ c ≠ 255

theorem ite_range {c : Prop} [Decidable c] {x y : String} {L : List String}
    (hx : x = "" ∨ x ∈ L) (hy : y = "" ∨ y ∈ L) : ite c x y = "" ∨ ite c x y ∈ L := by
  split
  · exact hx
  · exact hy

theorem take_ne_of_getElem? {b sig : Bytes} {n i : Nat} (hi : i < n) (h : b[i]? ≠ sig[i]?) :
    (b.take n == sig) = false := by
  rw [beq_eq_false_iff_ne]
  intro e
  apply h
  rw [← e, List.getElem?_take_of_lt hi]

/-- ZIP and TIFF may also be told apart at byte 3, which is what a printable text offers -/
theorem identify_skip_magic_of (lisT : Bytes → LisRes) (datP : Bytes → Bool) (b : Bytes)
    (h0 : ∀ c ∈ [4, 208, 1, 60, 37, 255], b[0]? ≠ some c)
    (hzip : b[0]? ≠ some 80 ∨ b[3]? ≠ some 4) (htiff : b[0]? ≠ some 73 ∨ b[3]? ≠ some 0) :
    identify lisT datP b = firstMatch lisT datP b (tests.filter (fun t => !isMagic t.2.1)) := by
  have first (c : Nat) (hc : c ∈ [4, 208, 1, 60, 37, 255]) (n : Nat) (t : Bytes) : (b.take (n + 1) == c :: t) = false :=
    take_ne_of_getElem? (Nat.succ_pos n) (h0 c hc)
  have zip : (b.take 4 == [80, 75, 3, 4]) = false := by
    rcases hzip with h | h
    · exact take_ne_of_getElem? (i := 0) (by decide) h
    · exact take_ne_of_getElem? (i := 3) (by decide) h
  have tiff : (b.take 4 == [73, 73, 42, 0]) = false := by
    rcases htiff with h | h
    · exact take_ne_of_getElem? (i := 0) (by decide) h
    · exact take_ne_of_getElem? (i := 3) (by decide) h
  simp [identify, tests, firstMatch, runTest, isMagic, first, zip, tiff]

theorem identify_skip_magic (lisT : Bytes → LisRes) (datP : Bytes → Bool) (c : Nat) (r : Bytes) (h : notMagicFirst c) :
    identify lisT datP (c :: r) = firstMatch lisT datP (c :: r) (tests.filter (fun t => !isMagic t.2.1)) := by
  unfold notMagicFirst at h
  refine identify_skip_magic_of lisT datP _ (fun x hx e => ?_) (.inl ?_) (.inl ?_)
  · simp at hx e; omega
  · simp; omega
  · simp; omega


/-! ### the LAS scanner on a file whose first non-blank byte is not `~` -/

theorem splitNl_ne_nil (b : Bytes) : splitNl b ≠ [] := by
  induction b with
  | nil => simp [splitNl]
  | cons c r ih =>
    unfold splitNl
    split
    · simp
    · split <;> simp

theorem stripEnd_cons_of_not_ws (c : Nat) (t : Bytes) (h : isWs c = false) :
    ∃ u, stripEnd (c :: t) = c :: u := by
  unfold stripEnd
  split
  · exact ⟨[], by simp [h]⟩
  · exact ⟨_, rfl⟩

theorem lasLine_cons_ws (x : Nat) (l : Bytes) (h : isWs x = true) : lasLine (x :: l) = lasLine l := by
  have hx : x ≠ 35 := by
    intro e; subst e; simp [isWs] at h
  have hb : (fun x => x != 35) x = true := by simpa using hx
  simp only [lasLine, strip]
  rw [List.takeWhile_cons_of_pos (p := fun x => x != 35) (a := x) hb, List.dropWhile_cons_of_pos h]

theorem lasLine_cons_not_ws (x : Nat) (l : Bytes) (h : isWs x = false) (hx : x ≠ 35) :
    ∃ u, lasLine (x :: l) = x :: u := by
  simp only [lasLine, strip]
  have hb : (fun x => x != 35) x = true := by simpa using hx
  rw [List.takeWhile_cons_of_pos (p := fun x => x != 35) (a := x) hb, List.dropWhile_cons_of_neg (by simp [h])]
  exact stripEnd_cons_of_not_ws x _ h

/-- the first processed line starts with the first non-blank byte of the file -/
theorem lasLines_head (b : Bytes) (c : Nat) (r : Bytes) (h : b.dropWhile isWs = c :: r) (hc : c ≠ 35) :
    ∃ u ls, lasLines b = (c :: u) :: ls := by
  induction b with
  | nil => simp at h
  | cons x t ih =>
    by_cases hx : isWs x = true
    · have ht : t.dropWhile isWs = c :: r := by simpa [List.dropWhile, hx] using h
      obtain ⟨u, ls, hls⟩ := ih ht
      by_cases hnl : x = 10
      · subst hnl
        refine ⟨u, ls, ?_⟩
        have : splitNl (10 :: t) = [] :: splitNl t := by simp [splitNl]
        simp only [lasLines, this, List.map_cons, List.filter_cons]
        simpa [lasLine, strip, stripEnd, lasLines] using hls
      · refine ⟨u, ls, ?_⟩
        have hne := splitNl_ne_nil t
        cases hsp : splitNl t with
        | nil => exact absurd hsp hne
        | cons l ls' =>
          have : splitNl (x :: t) = (x :: l) :: ls' := by
            simp [splitNl, hnl, hsp]
          simp only [lasLines, this, List.map_cons, lasLine_cons_ws x l hx]
          simpa [lasLines, hsp] using hls
    · have hx' : isWs x = false := by simpa using hx
      have hcx : x = c ∧ t = r := by simpa [List.dropWhile, hx'] using h
      obtain ⟨rfl, rfl⟩ := hcx
      have hnl : x ≠ 10 := by
        intro e; subst e; simp [isWs] at hx'
      have hne := splitNl_ne_nil t
      cases hsp : splitNl t with
      | nil => exact absurd hsp hne
      | cons l ls' =>
        have : splitNl (x :: t) = (x :: l) :: ls' := by
          simp [splitNl, hnl, hsp]
        obtain ⟨u, hu⟩ := lasLine_cons_not_ws x l hx' hc
        refine ⟨u, (ls'.map lasLine).filter (fun l => !l.isEmpty), ?_⟩
        simp [lasLines, this, hu]

theorem las_fail (pfx b : Bytes) (c : Nat) (r : Bytes) (h : b.dropWhile isWs = c :: r) (hc : c ≠ 35) (hc' : c ≠ 126) :
    lasTest pfx b = "" := by
  obtain ⟨u, ls, hls⟩ := lasLines_head b c r h hc
  unfold lasTest
  rw [hls]
  cases ls with
  | nil => rfl
  | cons l1 ls' =>
    have : ((c :: u).take 2 != [126, 86]) = true := by
      cases u <;> simp [hc']
    simp only []
    rw [if_pos this]


/-! ### bytes at fixed offsets -/

theorem byteAt_take (b : Bytes) (n i : Nat) (h : i < n) : byteAt (b.take n) i = byteAt b i := by
  simp [byteAt, List.getD_eq_getElem?_getD, h]

theorem byteAt_drop (b : Bytes) (n i : Nat) : byteAt (b.drop n) i = byteAt b (n + i) := by
  simp [byteAt, List.getD_eq_getElem?_getD, List.getElem?_drop]

theorem byteAt_mem (b : Bytes) (i : Nat) (h : i < b.length) : byteAt b i ∈ b := by
  simp [byteAt, List.getD_eq_getElem?_getD, List.getElem?_eq_getElem h]

theorem slice_head (x : Bytes) (lo hi v : Nat) (h : (slice x lo hi).head? = some v) : byteAt x lo = v := by
  unfold slice at h
  have h2 : (x.drop lo).head? = some v := by
    cases hd : x.drop lo with
    | nil => simp [hd] at h
    | cons a t =>
      rw [hd] at h
      cases hn : hi - lo with
      | zero => simp [hn] at h
      | succ n => simpa [hn] using h
  simp [List.head?_drop] at h2
  simp [byteAt, List.getD_eq_getElem?_getD, h2]

theorem verCore_head (s : Bytes) (h : verCore s = true) : s.head? = some 86 := by
  unfold verCore at h
  split at h
  · rfl
  · simp at h

theorem dollar_ver_head (s : Bytes) (h : dollar verCore s = true) : s.head? = some 86 := by
  unfold dollar at h
  simp only [Bool.or_eq_true] at h
  rcases h with h | h
  · exact verCore_head s h
  · split at h
    · have := verCore_head _ h
      cases s with
      | nil => simp at this
      | cons a t =>
        cases t with
        | nil => simp at this
        | cons b u => simpa using this
    · simp at h

theorem ver_fail (x : Bytes) (h : byteAt x 4 ≠ 86) : shapeMatch .ver (slice x 4 9) = false := by
  cases hm : shapeMatch .ver (slice x 4 9) with
  | false => rfl
  | true => exact absurd (slice_head x 4 9 86 (dollar_ver_head _ (by simpa [shapeMatch] using hm))) h

theorem rp66v1Bytes_fail_ver (x : Bytes) (h : byteAt x 4 ≠ 86) : rp66v1Bytes x = "" := by
  simp [rp66v1Bytes, reV1_c2, ver_fail x h]

theorem rp66v1Test_fail (b : Bytes) (h : byteAt b 4 ≠ 86) : rp66v1Bytes (b.take 80) = "" :=
  rp66v1Bytes_fail_ver _ (by rw [byteAt_take b 80 4 (by omega)]; exact h)

theorem rp66v1TifGeneral_fail (hd : Bytes) (n : Nat) (h : byteAt hd 16 ≠ 86) : rp66v1TifGeneral hd n = "" := by
  unfold rp66v1TifGeneral
  have : rp66v1Bytes (hd.drop 12) = "" := rp66v1Bytes_fail_ver _ (by rw [byteAt_drop]; exact h)
  simp [this]

/-- 92 = `rp66v1LenWithTif` = 80 + 12 -/
theorem rp66v1TifGeneral_fail_next (hd : Bytes) (n : Nat) (h : n ≠ 92) : rp66v1TifGeneral hd n = "" := by
  unfold rp66v1TifGeneral
  have : (n != rp66v1LenWithTif) = true := by simp [rp66v1LenWithTif, h]
  rw [if_pos this]

theorem rp66v1Tifs_fail (b : Bytes) (h : byteAt b 16 ≠ 86) : rp66v1TifTest b = "" ∧ rp66v1TifRTest b = "" := by
  have g (n : Nat) : rp66v1TifGeneral (b.take rp66v1LenWithTif) n = "" :=
    rp66v1TifGeneral_fail _ n (by rw [byteAt_take b _ 16 (by decide)]; exact h)
  constructor
  · simp only [rp66v1TifTest, g, ite_self]
  · simp only [rp66v1TifRTest, g, ite_self]

theorem rp66v2_fail (b : Bytes) (h : byteAt b 4 ≠ 86) : rp66v2Test b = "" := by
  simp [rp66v2Test, reV2_c2, ver_fail _ (by rwa [byteAt_take b 128 4 (by omega)])]

/-! ### BIT -/

/-- the table's `_bit` entry: 12 bytes of TIF marker, third word 288 = 12 + 276, a 276-byte description block -/
theorem bit_fail (b : Bytes) (h : tifThirdWord b ≠ 288) : bitTest 12 288 276 b = "" := by
  unfold bitTest
  have : tifThirdWord (b.take 12) = tifThirdWord b := by
    simp [tifThirdWord, le32, be32, byteAt_take]
  simp [this, h]

/-- bytes 8..11 spell 288 as a 32-bit word in one of the two byte orders -/
def word288 (b : Bytes) : Prop :=
  (byteAt b 8 = 32 ∧ byteAt b 9 = 1 ∧ byteAt b 10 = 0 ∧ byteAt b 11 = 0) ∨
  (byteAt b 8 = 0 ∧ byteAt b 9 = 0 ∧ byteAt b 10 = 1 ∧ byteAt b 11 = 32)

instance (b : Bytes) : Decidable (word288 b) := by unfold word288; exact inferInstance

theorem byteAt_lt (b : Bytes) (hb : ∀ x ∈ b, x < 256) (i : Nat) : byteAt b i < 256 := by
  unfold byteAt
  rw [List.getD_eq_getElem?_getD]
  cases h : b[i]? with
  | none => simp
  | some v => simpa using hb v (List.mem_of_getElem? h)

theorem thirdWord_ne (b : Bytes) (hb : ∀ i, 8 ≤ i → i < 12 → byteAt b i < 256) (h : ¬ word288 b) : tifThirdWord b ≠ 288 := by
  have h8 := hb 8 (by omega) (by omega)
  have h9 := hb 9 (by omega) (by omega)
  have h10 := hb 10 (by omega) (by omega)
  have h11 := hb 11 (by omega) (by omega)
  unfold word288 at h
  unfold tifThirdWord le32 be32
  simp only [show 8 + 1 = 9 from rfl, show 8 + 2 = 10 from rfl, show 8 + 3 = 11 from rfl]
  split <;> omega

/-! ### SEG-Y, LISVER, ASCII, DAT gate on a file that starts with NUL / has a high byte -/

theorem segy_fail_zero (r : Bytes) : segyTest (0 :: r) = "" := by
  unfold segyTest
  -- 40 × 80, as a successor so that `take` exposes the first byte
  have hm : segyNumCards * segyCardWidth = 3199 + 1 := by decide
  rw [hm]
  have h0 : (ebcdicDecode 0).isSome = false := by decide
  have : ((0 :: r).take (3199 + 1)).all (fun c => (ebcdicDecode c).isSome) = false := by
    rw [List.take_succ_cons]; simp [h0]
  simp only [this, Bool.not_false, if_true, ite_self]

theorem lisVer_fail (sigs : List Bytes) (extra : Nat) (ret : String) (c : Nat) (r : Bytes)
    (hws : isWs c = false) (hs : ∀ sig ∈ sigs, sig.head? ≠ some c ∧ sig ≠ []) :
    lisVerTest sigs extra ret (c :: r) = "" := by
  unfold lisVerTest
  have : sigs.any (fun sig => (((c :: r).take (sig.length + extra)).dropWhile isWs).take sig.length == sig) = false := by
    rw [List.any_eq_false]
    intro sig hsig
    obtain ⟨h1, h2⟩ := hs sig hsig
    cases sig with
    | nil => exact absurd rfl h2
    | cons s t =>
      have hcs : c ≠ s := by
        intro e; apply h1; simp [e]
      have : (c :: r).take ((s :: t).length + extra) = c :: r.take (t.length + extra) := by
        simp [List.length_cons, Nat.add_right_comm, List.take_succ_cons]
      rw [this, List.dropWhile_cons_of_neg (by simp [hws])]
      simp [hcs]
  simp [this]

/-! ### the conformant storage unit label -/

theorem slice_append_prefix (a x : Bytes) : slice (a ++ x) 0 a.length = a := by
  simp [slice]

theorem slice_append_skip (a x : Bytes) (lo hi : Nat) : slice (a ++ x) (a.length + lo) (a.length + hi) = slice x lo hi := by
  have : (a ++ x).drop (a.length + lo) = x.drop lo := by
    rw [← List.drop_drop, List.drop_left]
  simp [slice, this, Nat.add_sub_add_left]

theorem dollar_of (p : Bytes → Bool) (s : Bytes) (h : p s = true) : dollar p s = true := by
  simp [dollar, h]

theorem padNumCore_spec (pad : Bytes) (d : Nat) (ds : Bytes) (hp : ∀ c ∈ pad, c = 32 ∨ c = 48)
    (hd : 49 ≤ d ∧ d ≤ 57) (hds : ∀ c ∈ ds, 48 ≤ c ∧ c ≤ 57) : padNumCore (pad ++ d :: ds) = true := by
  induction pad with
  | nil =>
    have h1 : ((d == 48) || (d == 32)) = false := by simp; omega
    simp only [padNumCore, List.nil_append, List.dropWhile, h1]
    simp only [isDigit19, Bool.and_eq_true, decide_eq_true_eq, List.all_eq_true, isDigit]
    exact ⟨hd, hds⟩
  | cons x pad ih =>
    have hx : ((x == 48) || (x == 32)) = true := by
      rcases hp x (by simp) with h | h <;> simp [h]
    have := ih (fun c hc => hp c (by simp [hc]))
    simpa [padNumCore, List.dropWhile, hx] using this

theorem dropWhile_pad (pad : Bytes) (d : Nat) (t : Bytes) (hp : ∀ c ∈ pad, c = 32 ∨ c = 48) (hd : 49 ≤ d ∧ d ≤ 57) :
    ∃ c r, (pad ++ d :: t).dropWhile isWs = c :: r ∧ 48 ≤ c ∧ c ≤ 57 := by
  induction pad with
  | nil =>
    refine ⟨d, t, ?_, by omega, by omega⟩
    have : isWs d = false := by simp [isWs]; omega
    simp [this]
  | cons x pad ih =>
    rcases hp x (by simp) with h | h
    · subst h
      obtain ⟨c, r, h1, h2⟩ := ih (fun c hc => hp c (by simp [hc]))
      exact ⟨c, r, by simpa [List.dropWhile, isWs] using h1, h2⟩
    · subst h
      exact ⟨48, pad ++ d :: t, by simp [isWs], by omega, by omega⟩

theorem printable_range : ∀ c, c < 127 → ((9 ≤ c ∧ c ≤ 13) ∨ (32 ≤ c ∧ c ≤ 126)) → asciiPrintable.contains c = true := by
  decide +kernel


/-! ### printable text of any length -/

/-- printable ASCII text (`string.printable`) -/
def Printable (b : Bytes) : Prop := ∀ x ∈ b, (9 ≤ x ∧ x ≤ 13) ∨ (32 ≤ x ∧ x ≤ 126)

/-- no magic-number test claims a printable text that does not start with `<` or `%` (whatever its length) -/
theorem identify_skip_magic_pr (lisT : Bytes → LisRes) (datP : Bytes → Bool) (b : Bytes) (hp : Printable b)
    (h60 : b.head? ≠ some 60) (h37 : b.head? ≠ some 37) :
    identify lisT datP b = firstMatch lisT datP b (tests.filter (fun t => !isMagic t.2.1)) := by
  have pr (i x : Nat) (e : b[i]? = some x) := hp x (List.mem_of_getElem? e)
  rw [List.head?_eq_getElem?] at h60 h37
  refine identify_skip_magic_of lisT datP b (fun x hx e => ?_) (.inr fun e => ?_) (.inr fun e => ?_)
  · have := pr 0 x e
    simp at hx
    rcases hx with rfl | rfl | rfl | rfl | rfl | rfl <;> first | omega | contradiction
  · have := pr 3 4 e
    omega
  · have := pr 3 0 e
    omega

theorem printable_byteAt (b : Bytes) (hp : Printable b) (i : Nat) (h : i < b.length) : 9 ≤ byteAt b i ∧ byteAt b i ≤ 126 := by
  have := hp _ (byteAt_mem b i h)
  omega

theorem bit_fail_printable (b : Bytes) (hp : Printable b) : bitTest 12 288 276 b = "" := by
  by_cases hl : b.length < 12
  · unfold bitTest; rw [if_pos hl]
  · have hbytes : ∀ x ∈ b, x < 256 := fun x hx => by have := hp x hx; omega
    have h8 := printable_byteAt b hp 8 (by omega)
    have h9 := printable_byteAt b hp 9 (by omega)
    exact bit_fail b (thirdWord_ne b (fun i _ _ => byteAt_lt b hbytes i) (by unfold word288; omega))

theorem rp66v1Tifs_fail_printable (b : Bytes) (hp : Printable b) : rp66v1TifTest b = "" ∧ rp66v1TifRTest b = "" := by
  by_cases hl : b.length < 12
  · have : (List.take rp66v1LenWithTif b).length < rp66v1LenWithTif := by
      simp only [List.length_take, rp66v1LenWithTif]; omega
    exact ⟨by simp only [rp66v1TifTest, this, if_true], by simp only [rp66v1TifRTest, this, if_true]⟩
  · -- four printable bytes are never read as 92
    have h8 := printable_byteAt b hp 8 (by omega)
    have h9 := printable_byteAt b hp 9 (by omega)
    have h10 := printable_byteAt b hp 10 (by omega)
    have h11 := printable_byteAt b hp 11 (by omega)
    have g (n : Nat) (hn : n ≠ 92) := rp66v1TifGeneral_fail_next (b.take rp66v1LenWithTif) n hn
    have e (i : Nat) (hi : i < 12) : byteAt (b.take rp66v1LenWithTif) i = byteAt b i :=
      byteAt_take b _ i (by simp only [rp66v1LenWithTif]; omega)
    constructor
    · simp only [rp66v1TifTest, e 8, e 9, e 10, e 11, Nat.lt_add_one, Nat.reduceLT]
      rw [g _ (by omega), ite_self]
    · simp only [rp66v1TifRTest, e 8, e 9, e 10, e 11, Nat.lt_add_one, Nat.reduceLT]
      rw [g _ (by omega), ite_self]

theorem high_byteAt_not_ascii (b : Bytes) (i : Nat) (hi : i < 256) (h : 128 ≤ byteAt b i) :
    (b.take 256).all (fun c => decide (c < 128)) = false ∧ b.all (fun c => decide (c < 128)) = false := by
  have hlen : i < b.length := Nat.lt_of_not_le fun hc => by
    simp [byteAt, List.getD_eq_getElem?_getD, List.getElem?_eq_none hc] at h
  have hm : byteAt b i ∈ b.take 256 := by
    rw [← byteAt_take b 256 i hi]
    exact byteAt_mem _ i (by rw [List.length_take]; omega)
  simp only [List.all_eq_false]
  exact ⟨⟨_, hm, by simp; omega⟩, ⟨_, List.mem_of_mem_take hm, by simp; omega⟩⟩

end TD.C20
