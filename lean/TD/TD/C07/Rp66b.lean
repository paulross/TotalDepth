import TD.C07.Rp66

/-!
# C07 — RP66V1 Appendix B, part 2 (core Lean only): byte and chunk reads as length checks, integer codes, VSINGL
-/
namespace TD.C07

/-- byte `k` of the buffer (0 past the end; only used under a length hypothesis) -/
abbrev byteAt (bs : List Nat) (k : Nat) : Nat := bs[k]?.getD 0

theorem byteAt_lt (bs : List Nat) (wf : Bytes.wf bs) (j : Nat) : byteAt bs j < 256 := by
  cases h : bs[j]? with
  | none => simp [byteAt, h]
  | some b => simpa [byteAt, h] using wf_get wf h

theorem toSigned_eq_twos (n x : Nat) : toSigned n x = twos n x := rfl

theorem ldRead_eq (bs : List Nat) (j : Nat) :
    ldRead bs j = if j + 1 ≤ bs.length then .ok (byteAt bs j, j + 1) else .error .indexError := by
  unfold ldRead byteAt
  by_cases h : j + 1 ≤ bs.length
  · rw [if_pos h, List.getElem?_eq_getElem (by omega)]; rfl
  · rw [if_neg h, List.getElem?_eq_none (by omega)]

theorem ldChunk_eq (n : Nat) (bs : List Nat) (i : Nat) (hn : 0 < n) :
    ldChunk n bs i = if i + n ≤ bs.length then .ok ((bs.drop i).take n, i + n) else .error .indexError := by
  unfold ldChunk
  by_cases h : i + n ≤ bs.length
  · rw [if_pos h, if_neg (by omega)]
  · rw [if_neg h, if_pos (by omega)]

theorem bind_ite {α β : Type} (c : Prop) [Decidable c] (a : α) (k : α → Except Err β) :
    (if c then Except.ok a else Except.error Err.indexError) >>= k = if c then k a else .error .indexError := by
  split <;> rfl

theorem ite_ite_of_imp {α : Type} (a b : Prop) [Decidable a] [Decidable b] (h : b → a) (x e : α) :
    (if a then (if b then x else e) else e) = if b then x else e := by
  by_cases hb : b
  · rw [if_pos (h hb)]
  · rw [if_neg hb]; split <;> rfl

theorem take_drop_succ (bs : List Nat) (i n : Nat) (h : i + 1 ≤ bs.length) :
    (bs.drop i).take (n + 1) = byteAt bs i :: (bs.drop (i + 1)).take n := by
  rw [List.drop_eq_getElem_cons (by omega), List.take_succ_cons, byteAt, List.getElem?_eq_getElem (by omega)]
  rfl

/-! ### the fixed-length integer codes (B.12 – B.17, B.26) -/

theorem sshort_spec (bs : List Nat) (i : Nat) :
    SSHORT bs i = if i + 1 ≤ bs.length then .ok (twos 8 (byteAt bs i), i + 1) else .error .indexError := by
  unfold SSHORT
  have : (if byteAt bs i > 127 then (byteAt bs i : Int) - 256 else byteAt bs i) = twos 8 (byteAt bs i) := by
    unfold twos
    simp only [Nat.reducePow, Nat.reduceSub]
    split <;> split <;> omega
  rw [ldRead_eq, bind_ite, ← this]
  rfl

theorem unorm_spec (bs : List Nat) (i : Nat) (wf : Bytes.wf bs) :
    UNORM bs i = if i + 2 ≤ bs.length then .ok (byteAt bs i * 256 + byteAt bs (i + 1), i + 2)
      else .error .indexError := by
  unfold UNORM
  simp only [ldRead_eq, bind_ite]
  rw [ite_ite_of_imp _ _ (by omega), shl8_or _ _ (byteAt_lt bs wf (i + 1))]
  rfl

theorem snorm_spec (bs : List Nat) (i : Nat) :
    SNORM bs i = if i + 2 ≤ bs.length then .ok (twos 16 (byteAt bs i * 256 + byteAt bs (i + 1)), i + 2)
      else .error .indexError := by
  unfold SNORM
  rw [ldChunk_eq _ _ _ (by decide), bind_ite]
  split
  · rw [take_drop_succ _ _ _ (by omega), take_drop_succ _ _ _ (by omega)]
    simp [beWord, toSigned, twos, pure, Except.pure]
  · rfl

theorem slong_ulong_spec (bs : List Nat) (i : Nat) :
    SLONG bs i = (if i + 4 ≤ bs.length then
        .ok (twos 32 (((byteAt bs i * 256 + byteAt bs (i + 1)) * 256 + byteAt bs (i + 2)) * 256 + byteAt bs (i + 3)), i + 4)
      else .error .indexError) ∧
    ULONG bs i = (if i + 4 ≤ bs.length then
        .ok (((byteAt bs i * 256 + byteAt bs (i + 1)) * 256 + byteAt bs (i + 2)) * 256 + byteAt bs (i + 3), i + 4)
      else .error .indexError) := by
  unfold SLONG ULONG
  rw [ldChunk_eq _ _ _ (by decide), bind_ite, bind_ite]
  split
  · rw [take_drop_succ _ _ _ (by omega), take_drop_succ _ _ _ (by omega), take_drop_succ _ _ _ (by omega),
      take_drop_succ _ _ _ (by omega)]
    simp [beWord, toSigned, twos, pure, Except.pure]
  · exact ⟨rfl, rfl⟩

/-! ### VSINGL exactly as the repository codes it (DESIGN F9) -/

/-- `VSINGL` on its fields: sign `S = b1 bit 7`, exponent `E = (b1 low 7 bits)·2 + b0 bit 7`, fraction
`F = (b0 low 7 bits)·2^16 + b3·2^8 + b2`; value `(-1)^S · (2^22 + F) · 2^(E - 151)` = `(0.5 + F/2^23)·2^(E-128)`,
and `0` when `E = 0 ∧ S = 0`. -/
theorem vax4_spec (b0 b1 b2 b3 : Nat) (h0 : b0 < 256) (h1 : b1 < 256) (h2 : b2 < 256) (h3 : b3 < 256) :
    vax4 b0 b1 b2 b3 =
      (let F := (b0 % 128) * 65536 + b3 * 256 + b2
       let E := (b1 % 128) * 2 + b0 / 128
       if E = 0 ∧ b1 < 128 then .fin ⟨0, 0⟩
       else .fin ⟨if b1 < 128 then ((4194304 + F : Nat) : Int) else -((4194304 + F : Nat) : Int), (E : Int) - 151⟩) := by
  unfold vax4
  have e1 : b1 &&& 0x80 = (b1 / 128 % 2) * 128 := and_mask b1 1 7
  have e2 : b0 &&& 0x80 = (b0 / 128 % 2) * 128 := and_mask b0 1 7
  have e3 : ((b1 % 128) <<< 1) ||| ((b0 / 128 % 2 * 128) >>> 7) = (b1 % 128) * 2 + b0 / 128 := by
    rw [Nat.shiftRight_eq_div_pow, ← Nat.shiftLeft_add_eq_or_of_lt (by simp only [Nat.reducePow]; omega), Nat.shiftLeft_eq]
    simp only [Nat.reducePow]; omega
  have hs : b1 / 128 % 2 * 128 = 0 ↔ b1 < 128 := by omega
  simp only [e1, e2, and_7f, be3 _ _ _ h3 h2, e3, hs, ne_eq, ite_not]

end TD.C07
