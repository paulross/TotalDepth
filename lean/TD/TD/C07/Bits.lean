import TD.C07.Model

/-!
# C07 — helper lemmas (core Lean only): bit masks as bit fields, Python int primitives
-/
namespace TD.C07

/-- a contiguous mask: `x &&& ((2^a - 1) * 2^b)` keeps bits `b … b+a-1`. -/
theorem and_mask (x a b : Nat) : x &&& ((2 ^ a - 1) * 2 ^ b) = (x / 2 ^ b % 2 ^ a) * 2 ^ b := by
  apply Nat.eq_of_testBit_eq
  intro i
  simp only [Nat.testBit_and, Nat.testBit_mul_two_pow, Nat.testBit_two_pow_sub_one, Nat.testBit_mod_two_pow,
    Nat.testBit_div_two_pow]
  by_cases h : b ≤ i
  · simp [h]
    by_cases h2 : i - b < a
    · simp [h2]
    · simp [h2]
  · simp [h]

/-- bit field `n` bits wide starting at bit `lo` (the standard's "bits lo+n-1 … lo") -/
def fld (u lo n : Nat) : Nat := u / 2 ^ lo % 2 ^ n

/-- two's complement reading of an `n`-bit field -/
def twos (n : Nat) (x : Nat) : Int := if x < 2 ^ (n - 1) then (x : Int) else (x : Int) - ((2 ^ n : Nat) : Int)

/-- the low 64 bits of a Python int, which is all that `&` with a 64-bit mask sees -/
def low64 (w : Int) : Nat := (w % 18446744073709551616).toNat

/-- the unsigned `bits`-bit word that a Python int `w` stands for (`w` itself, or the two's complement of a negative
`struct`-unpacked value) -/
def uword (bits : Nat) (w : Int) : Nat := (w % ((2 ^ bits : Nat) : Int)).toNat

theorem fld_lt (U lo n : Nat) : fld U lo n < 2 ^ n := Nat.mod_lt _ (Nat.pos_of_ne_zero (by simp))

theorem fld_top (U lo n : Nat) : fld U (lo + n) 1 = fld U lo (n + 1) / 2 ^ n := by
  unfold fld
  rw [Nat.pow_add, ← Nat.div_div_eq_div_mul, Nat.pow_one, Nat.pow_succ, Nat.mod_mul_right_div_self]

/-- two's complement of a field from its top bit — Python's `if w & signbit: x -= 1 << width` -/
theorem twos_fld (U lo n : Nat) :
    twos (n + 1) (fld U lo (n + 1)) = (fld U lo (n + 1) : Int) - (fld U (lo + n) 1 * 2 ^ (n + 1) : Nat) := by
  rw [fld_top]
  have hX := fld_lt U lo (n + 1)
  generalize fld U lo (n + 1) = X at *
  unfold twos
  rw [Nat.add_sub_cancel, Nat.pow_succ] at *
  by_cases h : X < 2 ^ n
  · rw [if_pos h, Nat.div_eq_of_lt h]; simp
  · have : X / 2 ^ n = 1 := Nat.div_eq_of_lt_le (by omega) (by omega)
    rw [if_neg h, this, Nat.one_mul]

theorem fld_concat (U lo a b : Nat) : fld U lo (a + b) = fld U (lo + a) b * 2 ^ a + fld U lo a := by
  unfold fld
  rw [Nat.pow_add, Nat.pow_add, Nat.mod_mul, ← Nat.div_div_eq_div_mul, Nat.mul_comm, Nat.add_comm]

theorem pyAnd_fld (w : Int) (n lo mask : Nat) (hm : mask = (2 ^ n - 1) * 2 ^ lo) :
    pyAnd w mask = fld (low64 w) lo n * 2 ^ lo := by
  subst hm; unfold pyAnd fld low64; exact and_mask _ _ _

theorem ldexp_exact (m e : Int) (h : -1075 < e) : ldexp m e = .fin ⟨m, e⟩ := by
  unfold ldexp
  have : ¬ (m ≠ 0 ∧ e + (bitLen m.natAbs : Int) ≤ -1075) := by
    intro ⟨_, h2⟩; omega
  simp [this]

theorem pyOr_zero (b : Nat) : pyOr 0 b = b := by
  unfold pyOr; simp

/-- `-2^23 | b` for a 23-bit `b`: the C/Cython form of a negative code-68 mantissa -/
theorem pyOr_neg23 (b : Nat) (hb : b < 8388608) : pyOr (-8388608) b = (b : Int) - 8388608 := by
  unfold pyOr
  have h1 : ¬ (0 : Int) ≤ -8388608 := by omega
  rw [if_neg h1]
  have h2 : (-(-8388608 : Int) - 1).toNat = 2 ^ 23 - 1 := by decide
  simp only [h2]
  rw [Nat.and_comm, Nat.and_two_pow_sub_one_eq_mod, Int.negSucc_eq]
  have : b % 2 ^ 23 = b := Nat.mod_eq_of_lt (by simpa using hb)
  rw [this]
  omega

/-- the exponent of `from68`: the masked field `E·2^23` shifted back down -/
theorem exp68 (E : Nat) : pyShr ((E * 2 ^ 23 : Nat) : Int) 23 = E := by
  unfold pyShr
  rw [Int.shiftRight_eq_div_pow]
  simp only [Nat.reducePow]
  omega

theorem emod_mul_ediv (x : Int) {P : Int} (Q : Int) (hP : 0 < P) : x % (P * Q) / P = x / P % Q := by
  rw [Int.emod_def, Int.emod_def, Int.ediv_ediv_of_nonneg (Int.le_of_lt hP), Int.mul_assoc,
    Int.sub_mul_ediv_left _ _ (Int.ne_of_gt hP)]

/-- a field of the low 64 bits of a Python int, on the int itself (floor division and non-negative remainder).
64 is the width `pyAnd` keeps of its argument (the widest Cython argument type, `long long`); every mask used is narrower. -/
theorem fld_low64 (w : Int) (lo n : Nat) (h : lo + n ≤ 64) :
    (fld (low64 w) lo n : Int) = w / 2 ^ lo % 2 ^ n := by
  unfold fld low64
  have h64 : (18446744073709551616 : Int) = 2 ^ lo * 2 ^ n * 2 ^ (64 - lo - n) := by
    rw [← Int.pow_add, ← Int.pow_add, show lo + n + (64 - lo - n) = 64 by omega]; rfl
  rw [Int.natCast_emod, Int.natCast_ediv, Int.toNat_of_nonneg (Int.emod_nonneg _ (by decide)), Int.natCast_pow,
    Int.natCast_pow, show ((2 : Nat) : Int) = 2 from rfl, ← emod_mul_ediv _ _ (Int.pow_pos (by decide)), ← emod_mul_ediv _ _ (Int.pow_pos (by decide)),
    Int.emod_emod_of_dvd _ ⟨_, h64⟩]

theorem fld_shr (w : Int) (s lo n : Nat) (h : lo + s + n ≤ 64) :
    fld (low64 (pyShr w s)) lo n = fld (low64 w) (lo + s) n := by
  apply Int.ofNat_inj.1
  rw [fld_low64 _ _ _ (by omega), fld_low64 _ _ _ h]
  unfold pyShr
  rw [Int.shiftRight_eq_div_pow, Int.natCast_pow, show ((2 : Nat) : Int) = 2 from rfl, Int.ediv_ediv_of_nonneg (Int.pow_nonneg (by decide)),
    ← Int.pow_add, Nat.add_comm s lo]


theorem fld_natCast (u lo n : Nat) : (fld u lo n : Int) = (u : Int) / 2 ^ lo % 2 ^ n := by
  unfold fld
  rw [Int.natCast_emod, Int.natCast_ediv, Int.natCast_pow, Int.natCast_pow]
  rfl

theorem fld_arg (bits u lo n : Nat) (w : Int) (hb : bits ≤ 64) (hw : w = (u : Int) ∨ w = toSigned bits u)
    (h : lo + n ≤ bits) : fld (low64 w) lo n = fld u lo n := by
  apply Int.ofNat_inj.1
  rw [fld_low64 _ _ _ (by omega), fld_natCast]
  have hs : toSigned bits u = (u : Int) ∨ toSigned bits u = (u : Int) - 2 ^ (bits - lo - n) * 2 ^ n * 2 ^ lo := by
    unfold toSigned
    split
    · exact .inl rfl
    · right
      rw [← Int.pow_add, ← Int.pow_add, show bits - lo - n + n + lo = bits by omega, Int.natCast_pow]
      rfl
  rcases hw with rfl | rfl
  · rfl
  · rcases hs with hs | hs
    · rw [hs]
    · rw [hs, Int.sub_mul_ediv_right _ _ (Int.ne_of_gt (Int.pow_pos (by decide))), Int.sub_mul_emod_self_right]

end TD.C07
