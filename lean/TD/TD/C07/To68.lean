import TD.C07.Lis

/-!
# C07 — the code-68 encoder (core Lean only)

Between its two clamps `to68` is `enc68 ∘ truncation`: the magnitude is shifted to 23 bits (less when the exponent
would fall below -128), truncated toward zero, and the result stored in the fields that `dec68` reads back.
-/
namespace TD.C07

theorem bitLen_bounds (x : Nat) (hx : x ≠ 0) : 2 ^ (bitLen x - 1) ≤ x ∧ x < 2 ^ bitLen x := by
  unfold bitLen
  rw [if_neg hx]
  exact ⟨by simpa using Nat.log2_self_le hx, Nat.lt_log2_self⟩

theorem bitLen_pos (x : Nat) (hx : x ≠ 0) : 1 ≤ bitLen x := by
  unfold bitLen; rw [if_neg hx]; omega

theorem bitLen_le_iff (A k : Nat) : bitLen A ≤ k ↔ A < 2 ^ k := by
  by_cases hA : A = 0
  · subst hA; simp [bitLen, Nat.pos_of_ne_zero]
  · have hb := bitLen_bounds A hA
    refine ⟨fun h => Nat.lt_of_lt_of_le hb.2 (Nat.pow_le_pow_right (by omega) h), fun h => ?_⟩
    rcases Nat.lt_or_ge k (bitLen A) with hlt | hge
    · have : 2 ^ k ≤ 2 ^ (bitLen A - 1) := Nat.pow_le_pow_right (by omega) (by omega)
      omega
    · exact hge

/-- the word assembled by the shifts and ors of `to68` -/
theorem word_assemble (s E M : Nat) (hE : E < 256) (hM : M < 8388608) :
    (((s <<< 8) ||| E) <<< 23) ||| M = s * 2147483648 + E * 8388608 + M := by
  rw [← Nat.shiftLeft_add_eq_or_of_lt (by simpa using hM), ← Nat.shiftLeft_add_eq_or_of_lt (by simpa using hE)]
  simp only [Nat.shiftLeft_eq, Nat.reducePow]
  omega

theorem fld_assembled (s E M : Nat) (hs : s ≤ 1) (hE : E < 256) (hM : M < 8388608) :
    fld (s * 2147483648 + E * 8388608 + M) 31 1 = s ∧ fld (s * 2147483648 + E * 8388608 + M) 23 8 = E ∧
      fld (s * 2147483648 + E * 8388608 + M) 0 23 = M := by
  unfold fld
  simp only [Nat.reducePow, Nat.div_one]
  omega

/-- decoding an assembled word gives back the fields -/
theorem from68_assembled (s E M : Nat) (hs : s ≤ 1) (hE : E < 256) (hM : M < 8388608) :
    from68 ((s * 2147483648 + E * 8388608 + M : Nat) : Int) = .fin (dec68 s E M) := by
  obtain ⟨h1, h2, h3⟩ := fld_assembled s E M hs hE hM
  rw [from68_word, h1, h2, h3]

/-- the word whose fields decode (`dec68`) to the dyadic `⟨M, x⟩`: sign bit, exponent in excess 151 (one's complemented
when negative), mantissa as a 23-bit two's complement field -/
def enc68 (M x : Int) : Nat :=
  (if M < 0 then 1 else 0) * 2147483648 + ((if M < 0 then 104 - x else x + 151) % 256).toNat * 8388608
    + (M % 8388608).toNat

theorem enc68_pos (T : Nat) (x : Int) (hT : T < 8388608) (hlo : -151 ≤ x) (hhi : x ≤ 104) :
    enc68 (T : Int) x = 0 * 2147483648 + (x + 151).toNat * 8388608 + T := by
  unfold enc68
  simp only [show ¬ (T : Int) < 0 by omega, if_false]
  rw [Int.emod_eq_of_lt (a := x + 151) (b := 256) (by omega) (by omega),
    Int.emod_eq_of_lt (a := (T : Int)) (b := 8388608) (by omega) (by omega), Int.toNat_natCast]

theorem enc68_neg (T : Nat) (x : Int) (hT1 : 1 ≤ T) (hT2 : T ≤ 8388608) (hlo : -151 ≤ x) (hhi : x ≤ 104) :
    enc68 (-(T : Int)) x = 1 * 2147483648 + (104 - x).toNat * 8388608 + (8388608 - T) := by
  unfold enc68
  simp only [show -(T : Int) < 0 by omega, if_true]
  rw [Int.emod_eq_of_lt (a := 104 - x) (b := 256) (by omega) (by omega), show -(T : Int) % 8388608 = ((8388608 - T : Nat) : Int) by omega,
    Int.toNat_natCast]

theorem from68_enc68 (M x : Int) (hM1 : -8388608 ≤ M) (hM2 : M < 8388608) (hlo : -151 ≤ x) (hhi : x ≤ 104) :
    from68 (enc68 M x : Nat) = .fin ⟨M, x⟩ := by
  by_cases h : M < 0
  · obtain ⟨T, rfl⟩ : ∃ T : Nat, M = -(T : Int) := ⟨M.natAbs, by omega⟩
    rw [enc68_neg T x (by omega) (by omega) hlo hhi, from68_assembled _ _ _ (by omega) (by omega) (by omega)]
    simp only [dec68, if_true, FV.fin.injEq, Dy.mk.injEq]; omega
  · obtain ⟨T, rfl⟩ : ∃ T : Nat, M = (T : Int) := ⟨M.natAbs, by omega⟩
    rw [enc68_pos T x (by omega) hlo hhi, from68_assembled _ _ _ (by omega) (by omega) (by omega)]
    simp only [dec68, Nat.zero_ne_one, if_false, FV.fin.injEq, Dy.mk.injEq, true_and]; omega

theorem enc68_dec68 (s E F : Nat) (hs : s ≤ 1) (hE : E < 256) (hF : F < 8388608) :
    enc68 (dec68 s E F).m (dec68 s E F).e = s * 2147483648 + E * 8388608 + F := by
  have hs' : s = 0 ∨ s = 1 := by omega
  rcases hs' with rfl | rfl
  · simp only [dec68, Nat.zero_ne_one, if_false]
    rw [enc68_pos F _ hF (by omega) (by omega)]; omega
  · simp only [dec68, if_true]
    rw [show (F : Int) - 8388608 = -((8388608 - F : Nat) : Int) by omega, enc68_neg _ _ (by omega) (by omega) (by omega) (by omega)]
    omega

/-- magnitude of `int(A·2^s)` -/
def tdm (A : Nat) (s : Int) : Nat := if 0 ≤ s then A * 2 ^ s.toNat else A / 2 ^ (-s).toNat

theorem truncShift_cases (m s : Int) :
    (m < 0 ∧ truncShift m s = -(tdm m.natAbs s : Int)) ∨ (0 ≤ m ∧ truncShift m s = tdm m.natAbs s) := by
  unfold truncShift tdm
  rcases Int.natAbs_eq m with h | h <;> generalize m.natAbs = A at h <;> subst h
  · right
    refine ⟨by omega, ?_⟩
    split
    · simp
    · rw [Int.tdiv_eq_ediv_of_nonneg (by omega)]; simp
  · by_cases hA : A = 0
    · subst hA; right; simp
    · left
      refine ⟨by omega, ?_⟩
      split
      · simp [Int.neg_mul]
      · rw [Int.neg_tdiv, Int.tdiv_eq_ediv_of_nonneg (by omega)]; simp

theorem tdm_bounds (A n k : Nat) (s : Int) (hn : 1 ≤ n) (hk : (n : Int) + s = k + 1) (h1 : 2 ^ (n - 1) ≤ A) (h2 : A < 2 ^ n) :
    2 ^ k ≤ tdm A s ∧ tdm A s < 2 ^ (k + 1) := by
  unfold tdm
  split
  · generalize hj : s.toNat = j
    have e1 : 2 ^ (n - 1) * 2 ^ j = 2 ^ k := by rw [← Nat.pow_add]; congr 1; omega
    have e2 : 2 ^ n * 2 ^ j = 2 ^ (k + 1) := by rw [← Nat.pow_add]; congr 1; omega
    exact ⟨e1 ▸ Nat.mul_le_mul_right _ h1, e2 ▸ Nat.mul_lt_mul_of_pos_right h2 (Nat.pos_of_ne_zero (by simp))⟩
  · generalize hj : (-s).toNat = j
    have hp : 0 < 2 ^ j := Nat.pos_of_ne_zero (by simp)
    have e1 : 2 ^ (n - 1) = 2 ^ k * 2 ^ j := by rw [← Nat.pow_add]; congr 1; omega
    have e2 : 2 ^ n = 2 ^ (k + 1) * 2 ^ j := by rw [← Nat.pow_add]; congr 1; omega
    exact ⟨(Nat.le_div_iff_mul_le hp).2 (e1 ▸ h1), (Nat.div_lt_iff_lt_mul hp).2 (e2 ▸ h2)⟩

/-- the shift `to68` applies to a magnitude `A` at exponent `e`: to 23 bits (`mant * 2^23` on the frexp mantissa), less
when the frexp exponent is below -128: `to68` then divides by `2^(-128 - exp)`, which leaves the value at exponent
`-128 - 23 = -151` -/
def shift68 (A : Nat) (e : Int) : Int := min (23 - bitLen A) (e + 151)

theorem tdm_shift68 (A : Nat) (e : Int) (hA : A ≠ 0) (hlo : -151 < e + bitLen A) :
    1 ≤ tdm A (shift68 A e) ∧ tdm A (shift68 A e) < 8388608 ∧
      (-128 ≤ e + bitLen A → 4194304 ≤ tdm A (shift68 A e)) ∧ (e + bitLen A < -128 → tdm A (shift68 A e) < 4194304) := by
  have hb := bitLen_bounds A hA
  have hbp := bitLen_pos A hA
  obtain ⟨k, hk⟩ : ∃ k : Nat, (bitLen A : Int) + shift68 A e = k + 1 :=
    ⟨((bitLen A : Int) + shift68 A e - 1).toNat, by unfold shift68; omega⟩
  obtain ⟨h1, h2⟩ := tdm_bounds A (bitLen A) k _ hbp hk hb.1 hb.2
  have hk22 : k ≤ 22 := by unfold shift68 at hk; omega
  have hp : 0 < 2 ^ k := Nat.pos_of_ne_zero (by simp)
  have h3 : 2 ^ (k + 1) ≤ 2 ^ 23 := Nat.pow_le_pow_right (by omega) (by omega)
  refine ⟨by omega, by omega, fun h => ?_, fun h => ?_⟩
  · have : k = 22 := by unfold shift68 at hk; omega
    subst this; exact h1
  · have h4 : 2 ^ (k + 1) ≤ 2 ^ 22 := Nat.pow_le_pow_right (by omega) (by unfold shift68 at hk; omega)
    omega

theorem pyAnd_ff (x : Int) : pyAnd x 0xFF = (x % 256).toNat := by
  rw [pyAnd_fld x 8 0 0xFF rfl]
  apply Int.ofNat_inj.1
  rw [Nat.pow_zero, Nat.mul_one, fld_low64 _ _ _ (by omega), Int.toNat_of_nonneg (Int.emod_nonneg _ (by decide))]
  simp

theorem pyAnd_m23 (x : Int) : pyAnd x 0x007FFFFF = (x % 8388608).toNat := by
  rw [pyAnd_fld x 23 0 0x007FFFFF rfl]
  apply Int.ofNat_inj.1
  rw [Nat.pow_zero, Nat.mul_one, fld_low64 _ _ _ (by omega), Int.toNat_of_nonneg (Int.emod_nonneg _ (by decide))]
  simp

theorem toNat_emod_ff (x : Int) : (x % 256).toNat < 256 := by omega

theorem toNat_emod_m23 (x : Int) : (x % 8388608).toNat < 8388608 := by omega

theorem to68_between (m e : Int) (hm : m ≠ 0) (hlo : -151 < e + bitLen m.natAbs) (hhi : e + bitLen m.natAbs ≤ 127) :
    to68 m e = enc68 (truncShift m (shift68 m.natAbs e)) (e - shift68 m.natAbs e) := by
  have hT := tdm_shift68 m.natAbs e (by omega) hlo
  have hneg : truncShift m (shift68 m.natAbs e) < 0 ↔ m < 0 := by
    rcases truncShift_cases m (shift68 m.natAbs e) with ⟨h, hM⟩ | ⟨h, hM⟩ <;> omega
  unfold to68 frexpExp enc68
  simp only [hm, show ¬ e + (bitLen m.natAbs : Int) ≤ -(128 + 23) by omega,
    show ¬ e + (bitLen m.natAbs : Int) > 127 by omega, if_false, hneg]
  clear hT hneg
  rw [pyAnd_ff, pyAnd_m23, word_assemble _ _ _ (toNat_emod_ff _) (toNat_emod_m23 _),
    show (23 : Int) - bitLen m.natAbs - (if e + bitLen m.natAbs < -128 then -128 - (e + bitLen m.natAbs) else 0)
      = shift68 m.natAbs e by unfold shift68; omega]
  rw [show (if e + (bitLen m.natAbs : Int) < -128 then (-128 : Int) else e + bitLen m.natAbs)
      = e - shift68 m.natAbs e + 23 by unfold shift68; omega]
  generalize e - shift68 m.natAbs e = x
  congr 3
  split
  · omega
  · omega

theorem from68_to68_between (m e : Int) (hm : m ≠ 0) (hlo : -151 < e + bitLen m.natAbs) (hhi : e + bitLen m.natAbs ≤ 127) :
    from68 (to68 m e : Nat) = .fin ⟨truncShift m (shift68 m.natAbs e), e - shift68 m.natAbs e⟩ := by
  have hT := tdm_shift68 m.natAbs e (by omega) hlo
  rw [to68_between m e hm hlo hhi]
  rcases truncShift_cases m (shift68 m.natAbs e) with ⟨_, hM⟩ | ⟨_, hM⟩ <;>
    exact from68_enc68 _ _ (by omega) (by omega) (by unfold shift68; omega) (by unfold shift68; omega)

theorem truncShift_zero (m : Int) : truncShift m 0 = m := by
  unfold truncShift; simp

theorem to68_fixed_iff (m e : Int) (hm : m ≠ 0) (hM1 : -8388608 ≤ m) (hM2 : m < 8388608) (he1 : -151 ≤ e) (he2 : e ≤ 104)
    (hlo : -151 < e + bitLen m.natAbs) (hhi : e + bitLen m.natAbs ≤ 127) :
    to68 m e = enc68 m e ↔ shift68 m.natAbs e = 0 := by
  constructor
  · intro h
    have h1 := from68_to68_between m e hm hlo hhi
    rw [h, from68_enc68 m e hM1 hM2 he1 he2] at h1
    injection h1 with h1
    injection h1 with _ h2
    omega
  · intro h
    rw [to68_between m e hm hlo hhi, h, truncShift_zero, Int.sub_zero]

theorem to68_zero (e : Int) : to68 0 e = 0x40000000 := by
  unfold to68 frexpExp
  simp [bitLen, truncShift, pyAnd_ff, pyAnd_m23]

theorem from68_zero_word : from68 ((0x40000000 : Nat) : Int) = .fin ⟨0, -23⟩ := by
  have := from68_assembled 0 128 0 (by omega) (by omega) (by omega)
  simpa [dec68] using this

/-! ### value equivalence of dyadics without leaving the integers -/

/-- `d₁` and `d₂` denote the same number: `m₁·2^e₁ = m₂·2^e₂`, witnessed by a common scaling. -/
def Dy.Eqv (d₁ d₂ : Dy) : Prop := ∃ a b : Nat, d₁.m * 2 ^ a = d₂.m * 2 ^ b ∧ d₁.e - a = d₂.e - b

theorem dec68_range (s E F : Nat) (hE : E < 256) (hF : F < 8388608) :
    -8388608 ≤ (dec68 s E F).m ∧ (dec68 s E F).m < 8388608 ∧ -151 ≤ (dec68 s E F).e ∧ (dec68 s E F).e ≤ 104 ∧
      ((dec68 s E F).m = -8388608 → (dec68 s E F).e = 104 - E ∧ s = 1 ∧ F = 0) := by
  unfold dec68
  split <;> dsimp only <;> omega

/-- **core of `from68_to68`**: re-encoding what a word decodes to gives a word that decodes to the same number,
for every sign / exponent / fraction except the single word `0x80000000` (= -2^127). -/
theorem from68_to68_fields (s E F : Nat) (hE : E < 256) (hF : F < 8388608)
    (hne : ¬ (s = 1 ∧ E = 0 ∧ F = 0)) :
    ∃ d, from68 (to68 (dec68 s E F).m (dec68 s E F).e : Nat) = .fin d ∧ Dy.Eqv d (dec68 s E F) := by
  obtain ⟨h1, h2, h3, h4, h5⟩ := dec68_range s E F hE hF
  generalize dec68 s E F = d at *
  obtain ⟨m, e⟩ := d
  dsimp only at h1 h2 h3 h4 h5 ⊢
  by_cases hm : m = 0
  · subst hm
    exact ⟨_, by rw [to68_zero]; exact from68_zero_word, (-23 - e).toNat, (e + 23).toNat, by simp, by simp only; omega⟩
  · have h23 := bitLen_le_iff m.natAbs 23
    have h24 := bitLen_le_iff m.natAbs 24
    have hbp := bitLen_pos m.natAbs (by omega)
    simp only [Nat.reducePow] at h23 h24
    refine ⟨_, from68_to68_between m e hm (by omega) (by omega), ?_⟩
    by_cases hsh : 0 ≤ shift68 m.natAbs e
    · refine ⟨0, (shift68 m.natAbs e).toNat, ?_, by simp only; omega⟩
      unfold truncShift
      rw [if_pos hsh]; simp
    · have : m = -8388608 := by unfold shift68 at hsh; omega
      subst this
      have : shift68 (-8388608 : Int).natAbs e = -1 := by
        unfold shift68 at hsh ⊢
        rw [show bitLen (-8388608 : Int).natAbs = 24 by decide] at hsh ⊢; omega
      rw [this]
      exact ⟨1, 0, show truncShift (-8388608) (-1) * 2 ^ 1 = (-8388608 : Int) * 2 ^ 0 by decide, by simp only; omega⟩

/-- the 23-bit truncation of a magnitude `A` against `A` itself, both scaled to a common exponent: exact up to
23 bits, else short by less than one part in `2^22` — the `k` dropped bits are below `2^k`, and `A` has
`22 + k` bits above them, so `2^k · 2^22 ≤ A` -/
theorem tdm_error_scaled (A : Nat) (hA : A ≠ 0) :
    ∃ a b : Nat, (bitLen A : Int) - 23 = (a : Int) - b ∧
      ((tdm A (23 - (bitLen A : Int)) : Int) * 2 ^ a - (A : Int) * 2 ^ b).natAbs * 2 ^ 22 < A * 2 ^ b := by
  have hb := (bitLen_bounds A hA).1
  generalize bitLen A = n at *
  unfold tdm
  split
  · refine ⟨0, (23 - (n : Int)).toNat, by omega, ?_⟩
    have : 0 < A * 2 ^ (23 - (n : Int)).toNat := Nat.mul_pos (by omega) (Nat.pos_of_ne_zero (by simp))
    simpa using this
  · generalize hk : (-(23 - (n : Int))).toNat = k
    refine ⟨k, 0, by omega, ?_⟩
    have hp : 0 < 2 ^ k := Nat.pos_of_ne_zero (by simp)
    have hdm := Nat.div_add_mod A (2 ^ k)
    have hz : (((A / 2 ^ k : Nat) : Int) * 2 ^ k - (A : Int) * 2 ^ 0).natAbs = A % 2 ^ k := by
      have : ((A / 2 ^ k : Nat) : Int) * 2 ^ k = ((2 ^ k * (A / 2 ^ k) : Nat) : Int) := by simp [Int.mul_comm]
      rw [this]; omega
    rw [hz, Nat.pow_zero, Nat.mul_one]
    calc A % 2 ^ k * 2 ^ 22 < 2 ^ k * 2 ^ 22 := Nat.mul_lt_mul_of_pos_right (Nat.mod_lt A hp) (by simp)
      _ = 2 ^ (n - 1) := by rw [← Nat.pow_add]; congr 1; omega
      _ ≤ A := hb

/-- **core of `to68_error`**: in the normal range the decoded re-encoding is the mantissa truncated to 23 bits. -/
theorem to68_error_core (m e : Int) (hm : m ≠ 0) (hlo : -128 ≤ frexpExp m e) (hhi : frexpExp m e ≤ 127) :
    ∃ (t : Int) (a b : Nat), from68 (to68 m e : Nat) = .fin ⟨t, e + a - b⟩ ∧
      (t * 2 ^ a - m * 2 ^ b).natAbs * 2 ^ 22 < m.natAbs * 2 ^ b := by
  unfold frexpExp at hlo hhi
  rw [if_neg hm] at hlo hhi
  obtain ⟨a, b, hab, herr⟩ := tdm_error_scaled m.natAbs (by omega)
  have hsh : shift68 m.natAbs e = 23 - bitLen m.natAbs := by unfold shift68; omega
  refine ⟨_, a, b, by rw [from68_to68_between m e hm (by omega) hhi, hsh, show e - (23 - (bitLen m.natAbs : Int)) = e + a - b by omega], ?_⟩
  rcases truncShift_cases m (23 - bitLen m.natAbs) with ⟨h, hM⟩ | ⟨h, hM⟩ <;> rw [hM] <;>
    generalize hA : m.natAbs = A at * <;> clear hM
  · obtain rfl : m = -(A : Int) := by omega
    rw [Int.neg_mul, Int.neg_mul, show ∀ X Y : Int, (-X - -Y).natAbs = (X - Y).natAbs from fun X Y => by omega]
    exact herr
  · obtain rfl : m = (A : Int) := by omega
    exact herr
end TD.C07
