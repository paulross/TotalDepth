import TD.C07.Canon68
import TD.C07.Rp66b
import Mathlib.Algebra.Order.Field.Rat
import Mathlib.Algebra.Order.Field.Power
import Mathlib.Algebra.Order.Ring.Abs
import Mathlib.Data.Int.Cast.Lemmas
import Mathlib.Data.Nat.Cast.Order.Ring
import Mathlib.Tactic.Ring
import Mathlib.Tactic.Positivity
import Mathlib.Tactic.Linarith
import Mathlib.Tactic.NormNum

/-!
# C07 — the rational value of a dyadic (Mathlib: ℚ, zpow) and the bridge from the integer-level lemmas
-/
namespace TD.C07

/-- the rational number a dyadic stands for -/
def Dy.val (d : Dy) : ℚ := (d.m : ℚ) * (2 : ℚ) ^ d.e

theorem Dy.Eqv.val_eq {d₁ d₂ : Dy} (h : Dy.Eqv d₁ d₂) : d₁.val = d₂.val := by
  obtain ⟨a, b, hm, he⟩ := h
  unfold Dy.val
  have h2 : (2 : ℚ) ≠ 0 := by norm_num
  have e1 : d₁.e = (d₂.e - b) + a := by omega
  have e2 : d₂.e = (d₂.e - b) + b := by omega
  have hmq : (d₁.m : ℚ) * (2 : ℚ) ^ a = (d₂.m : ℚ) * (2 : ℚ) ^ b := by exact_mod_cast hm
  rw [e1, zpow_add₀ h2, zpow_natCast]
  conv_rhs => rw [e2, zpow_add₀ h2, zpow_natCast]
  calc (d₁.m : ℚ) * ((2 : ℚ) ^ (d₂.e - b) * 2 ^ a) = ((d₁.m : ℚ) * 2 ^ a) * (2 : ℚ) ^ (d₂.e - b) := by ring
    _ = ((d₂.m : ℚ) * 2 ^ b) * (2 : ℚ) ^ (d₂.e - b) := by rw [hmq]
    _ = _ := by ring

theorem val_error {m t e : Int} {a b : Nat}
    (h : (t * 2 ^ a - m * 2 ^ b).natAbs * 2 ^ 22 < m.natAbs * 2 ^ b) :
    |(Dy.val ⟨t, e + a - b⟩) - Dy.val ⟨m, e⟩| < |Dy.val ⟨m, e⟩| * (2 : ℚ) ^ (-22 : ℤ) := by
  obtain ⟨E, rfl⟩ : ∃ E : Int, e = E + b := ⟨e - b, by omega⟩
  have e1 : E + (b : Int) + a - b = E + a := by omega
  unfold Dy.val
  simp only [e1]
  have h2 : (2 : ℚ) ≠ 0 := by norm_num
  have hpos : (0 : ℚ) < (2 : ℚ) ^ E := by positivity
  have lhs : (t : ℚ) * (2 : ℚ) ^ (E + (a : Int)) - (m : ℚ) * (2 : ℚ) ^ (E + (b : Int))
      = (((t * 2 ^ a - m * 2 ^ b : Int) : ℚ)) * (2 : ℚ) ^ E := by
    rw [zpow_add₀ h2, zpow_add₀ h2, zpow_natCast, zpow_natCast]
    push_cast; ring
  have rhs : (m : ℚ) * (2 : ℚ) ^ (E + (b : Int)) = ((m * 2 ^ b : Int) : ℚ) * (2 : ℚ) ^ E := by
    rw [zpow_add₀ h2, zpow_natCast]
    push_cast; ring
  rw [lhs, rhs, abs_mul, abs_mul, abs_of_pos hpos]
  have hq : ((t * 2 ^ a - m * 2 ^ b : Int).natAbs : ℚ) * 2 ^ 22 < ((m.natAbs * 2 ^ b : Nat) : ℚ) := by
    exact_mod_cast h
  rw [Nat.cast_natAbs, Int.cast_abs] at hq
  have hm : ((m.natAbs * 2 ^ b : Nat) : ℚ) = |((m * 2 ^ b : Int) : ℚ)| := by
    push_cast
    rw [abs_mul, abs_of_pos (by positivity : (0 : ℚ) < 2 ^ b), Nat.cast_natAbs, Int.cast_abs]
  rw [hm] at hq
  have h22 : (2 : ℚ) ^ (-22 : ℤ) = 1 / 2 ^ 22 := by norm_num
  rw [h22]
  have : |((t * 2 ^ a - m * 2 ^ b : Int) : ℚ)| < |((m * 2 ^ b : Int) : ℚ)| * (1 / 2 ^ 22) := by
    rw [mul_one_div, lt_div_iff₀ (by positivity)]; exact hq
  calc _ < |((m * 2 ^ b : Int) : ℚ)| * (1 / 2 ^ 22) * 2 ^ E := by
        exact mul_lt_mul_of_pos_right this hpos
    _ = _ := by ring

theorem Dy.val_mk (m e : Int) : Dy.val ⟨m, e⟩ = (m : ℚ) * (2 : ℚ) ^ e := rfl

/-- scaling the mantissa by `2^k` and lowering the exponent by `k` does not change the value -/
theorem Dy.val_scale (m e : Int) (k : Nat) : Dy.val ⟨m * 2 ^ k, e - k⟩ = Dy.val ⟨m, e⟩ :=
  Dy.Eqv.val_eq ⟨0, k, by simp, by simp⟩

end TD.C07
