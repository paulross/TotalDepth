import TD.C07.To68

/-!
# C07 — which code-68 words are fixed points of `to68 ∘ from68` (core Lean only)
-/
namespace TD.C07

/-- The canonical (normalised) code-68 words, on the fields sign `s`, exponent `E`, fraction `F`:
positive: top fraction bit set, or the smallest exponent with a non-zero fraction (denormal), or the zero word
`0x40000000`; negative: fraction in `1 … 2^22` (mantissa in `[-1, -1/2)`), or the largest exponent field (= smallest
exponent, denormal) with a fraction above `2^22`. -/
def Canon68 (s E F : Nat) : Prop :=
  (s = 0 ∧ (4194304 ≤ F ∨ (E = 0 ∧ F ≠ 0) ∨ (E = 128 ∧ F = 0))) ∨
  (s = 1 ∧ ((1 ≤ F ∧ F ≤ 4194304) ∨ (E = 255 ∧ 4194304 < F)))

/-- the word `to68` produces for the value that the fields `(s, E, F)` decode to -/
def reenc (s E F : Nat) : Nat := to68 (dec68 s E F).m (dec68 s E F).e

/-- **canonical-word lemma, precise form**: a word is reproduced by `to68 ∘ from68` exactly when it is canonical —
between the clamps, exactly when `to68` does not shift the decoded mantissa. -/
theorem reenc_fixed_iff (s E F : Nat) (hs : s ≤ 1) (hE : E < 256) (hF : F < 8388608) :
    reenc s E F = s * 2147483648 + E * 8388608 + F ↔ Canon68 s E F := by
  unfold reenc
  rw [← enc68_dec68 s E F hs hE hF]
  have hs' : s = 0 ∨ s = 1 := by omega
  rcases hs' with rfl | rfl
  · simp only [dec68, Nat.zero_ne_one, if_false]
    by_cases hF0 : F = 0
    · -- mantissa 0: `to68` answers the zero word `0x40000000`, exponent field 128 (third disjunct)
      subst hF0
      rw [enc68_pos 0 ((E : Int) - 151) (by omega) (by omega) (by omega), show ((0 : Nat) : Int) = 0 from rfl, to68_zero]
      unfold Canon68
      omega
    · have h22 := bitLen_le_iff F 22
      have h23 := bitLen_le_iff F 23
      have hbp := bitLen_pos F hF0
      simp only [Nat.reducePow] at h22 h23
      rw [to68_fixed_iff _ _ (by omega) (by omega) (by omega) (by omega) (by omega)
        (by rw [Int.natAbs_natCast]; omega) (by rw [Int.natAbs_natCast]; omega), Int.natAbs_natCast]
      -- the mantissa `F` is stored unshifted when it has 23 bits (`2^22 ≤ F`, first disjunct) or sits at the
      -- exponent floor -151 (`E = 0`, second disjunct)
      unfold shift68 Canon68
      omega
  · simp only [dec68, if_true]
    by_cases hcl : E = 0 ∧ F = 0
    · -- `0x80000000` = -2^127 falls into the negative clamp
      obtain ⟨rfl, rfl⟩ := hcl
      unfold Canon68
      decide
    · have hA : ((F : Int) - 8388608).natAbs = 8388608 - F := by omega
      have h22 := bitLen_le_iff (8388608 - F) 22
      have h23 := bitLen_le_iff (8388608 - F) 23
      have h24 := bitLen_le_iff (8388608 - F) 24
      have hbp := bitLen_pos (8388608 - F) (by omega)
      simp only [Nat.reducePow] at h22 h23 h24
      rw [to68_fixed_iff _ _ (by omega) (by omega) (by omega) (by omega) (by omega)
        (by rw [hA]; omega) (by rw [hA]; omega), hA]
      -- the magnitude `2^23 - F` has 23 bits for `1 ≤ F ≤ 2^22` (fourth disjunct; `F = 0` gives 24 bits and a shift
      -- of -1), and sits at the floor -151 for `E = 255` (fifth disjunct, the smaller magnitudes)
      unfold shift68 Canon68
      omega

/-! ### every output of `to68` is a canonical word -/

theorem to68_clamps (m e : Int) :
    (frexpExp m e ≤ -151 → to68 m e = 0x40000000) ∧
    (127 < frexpExp m e → to68 m e = if m < 0 then 0xFFC00000 else 0x7FFFFFFF) := by
  unfold to68
  generalize frexpExp m e = x
  constructor
  · intro h
    have : x ≤ -(128 + 23) := by omega
    simp only [this, if_true]
  · intro h
    have h1 : ¬ x ≤ -(128 + 23) := by omega
    have h2 : x > 127 := by omega
    simp only [h1, h2, if_false, if_true]

/-- the fields of a word (`sign·2^31 + E·2^23 + F`) satisfy `Canon68` -/
def CanonWord (u : Nat) : Prop := Canon68 (fld u 31 1) (fld u 23 8) (fld u 0 23)

theorem canonWord_assembled (s E F : Nat) (hs : s ≤ 1) (hE : E < 256) (hF : F < 8388608) (h : Canon68 s E F) :
    CanonWord (s * 2147483648 + E * 8388608 + F) := by
  unfold CanonWord
  obtain ⟨h1, h2, h3⟩ := fld_assembled s E F hs hE hF
  rw [h1, h2, h3]; exact h

/-- **every word `to68` produces is an assembled canonical word** (all `m·2^e`, including the clamps) -/
theorem to68_fields (m e : Int) :
    ∃ s E F, s ≤ 1 ∧ E < 256 ∧ F < 8388608 ∧ to68 m e = s * 2147483648 + E * 8388608 + F ∧ Canon68 s E F := by
  have hz : Canon68 0 128 0 := Or.inl ⟨rfl, Or.inr (Or.inr ⟨rfl, rfl⟩)⟩
  by_cases hm : m = 0
  · exact ⟨0, 128, 0, by omega, by omega, by omega, by rw [hm, to68_zero], hz⟩
  · have hcl := to68_clamps m e
    unfold frexpExp at hcl
    rw [if_neg hm] at hcl
    by_cases hu : e + bitLen m.natAbs ≤ -151
    · exact ⟨0, 128, 0, by omega, by omega, by omega, hcl.1 hu, hz⟩
    · by_cases ho : 127 < e + bitLen m.natAbs
      · rw [hcl.2 ho]
        split
        · exact ⟨1, 255, 4194304, by omega, by omega, by omega, rfl, Or.inr ⟨rfl, Or.inl ⟨by omega, by omega⟩⟩⟩
        · exact ⟨0, 255, 8388607, by omega, by omega, by omega, rfl, Or.inl ⟨rfl, Or.inl (by omega)⟩⟩
      · have hT := tdm_shift68 m.natAbs e (by omega) (by omega)
        have hM := truncShift_cases m (shift68 m.natAbs e)
        rw [to68_between m e hm (by omega) (by omega)]
        have hx : -151 ≤ e - shift68 m.natAbs e ∧ e - shift68 m.natAbs e ≤ 104 ∧
            (e + bitLen m.natAbs < -128 → e - shift68 m.natAbs e = -151) := by unfold shift68; omega
        generalize e - shift68 m.natAbs e = x at hx ⊢
        generalize tdm m.natAbs (shift68 m.natAbs e) = T at *
        unfold Canon68
        rcases hM with ⟨h, hM⟩ | ⟨h, hM⟩ <;> rw [hM]
        · rw [enc68_neg T x (by omega) (by omega) hx.1 hx.2.1]
          exact ⟨_, _, _, by omega, by omega, by omega, rfl, .inr ⟨rfl, by omega⟩⟩
        · rw [enc68_pos T x (by omega) hx.1 hx.2.1]
          exact ⟨_, _, _, by omega, by omega, by omega, rfl, .inl ⟨rfl, by omega⟩⟩

theorem to68_canonical (m e : Int) : CanonWord (to68 m e) ∧ to68 m e < 2 ^ 32 := by
  obtain ⟨s, E, F, hs, hE, hF, hw, hc⟩ := to68_fields m e
  rw [hw]
  exact ⟨canonWord_assembled s E F hs hE hF hc, by simp only [Nat.reducePow]; omega⟩

end TD.C07
