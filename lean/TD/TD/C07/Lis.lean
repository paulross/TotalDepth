import TD.C07.Bits

/-!
# C07 — the LIS decoders in closed form on the bit fields of the argument (core Lean only)

Every statement is about an arbitrary Python int `w`; `low64 w` is its two's complement low 64 bits, so the same
statement covers the unsigned word and the (possibly negative) value that `struct.unpack` produces.
-/
namespace TD.C07

theorem from49_dy (w : Int) :
    from49 w = .fin ⟨16 * twos 12 (fld (low64 w) 4 12), (fld (low64 w) 0 4 : Int) - 15⟩ := by
  unfold from49
  have ht := twos_fld (low64 w) 4 11
  have hS := fld_lt (low64 w) 15 1
  simp only [Nat.reduceAdd, Nat.reducePow] at ht hS
  rw [ldexp_exact _ _ (by omega), pyAnd_fld w 12 4 0xFFF0 rfl, pyAnd_fld w 1 15 0x8000 rfl, pyAnd_fld w 4 0 0xF rfl, ht]
  generalize fld (low64 w) 15 1 = S at *
  generalize fld (low64 w) 4 12 = X
  generalize fld (low64 w) 0 4 = E
  simp only [Nat.reducePow]
  split <;> simp only [FV.fin.injEq, Dy.mk.injEq] <;> omega

/-- the exponent that `from50` uses, as coded: 10 bits of the field, minus 65536 when bit 31 is set -/
theorem from50_as_coded (w : Int) :
    from50 w = ldexp (twos 16 (fld (low64 w) 0 16))
      ((fld (low64 w) 16 10 : Int) - 15 - (if fld (low64 w) 31 1 = 1 then 65536 else 0)) := by
  unfold from50
  have ht := twos_fld (low64 w) 0 15
  have hS := fld_lt (low64 w) 15 1
  have hS' := fld_lt (low64 w) 31 1
  simp only [Nat.reduceAdd, Nat.reducePow] at ht hS hS'
  rw [pyAnd_fld w 16 0 0xFFFF rfl, pyAnd_fld (pyShr w 16) 10 0 0x03FF rfl, pyAnd_fld w 1 15 0x8000 rfl,
    pyAnd_fld w 1 31 0x80000000 rfl, show fld (low64 (pyShr w 16)) 0 10 = fld (low64 w) 16 10 from fld_shr w 16 0 10 (by omega), ht]
  generalize fld (low64 w) 15 1 = S at *
  generalize fld (low64 w) 31 1 = S' at *
  generalize fld (low64 w) 0 16 = X
  generalize fld (low64 w) 16 10 = E
  simp only [Nat.reducePow]
  congr 1
  · split <;> omega
  · split <;> split <;> omega

/-- `from50` is right when the 16-bit exponent field is in `0 … 1023`. -/
theorem from50_dy_partial (w : Int) (hE : fld (low64 w) 16 16 ≤ 1023) :
    from50 w = .fin ⟨twos 16 (fld (low64 w) 0 16), twos 16 (fld (low64 w) 16 16) - 15⟩ := by
  rw [from50_as_coded]
  have h31 : fld (low64 w) 31 1 = 0 := by unfold fld at *; simp only [Nat.reducePow] at *; omega
  have h10 : fld (low64 w) 16 10 = fld (low64 w) 16 16 := by unfold fld at *; simp only [Nat.reducePow] at *; omega
  have hs : twos 16 (fld (low64 w) 16 16) = fld (low64 w) 16 16 := by
    unfold twos; simp only [Nat.reducePow, Nat.reduceSub]; split <;> omega
  rw [h31, h10, hs, ldexp_exact _ _ (by omega)]
  simp

theorem from56_spec (w : Int) : from56 w = twos 8 (fld (low64 w) 0 8) := by
  unfold from56
  have ht := twos_fld (low64 w) 0 7
  have hS := fld_lt (low64 w) 7 1
  simp only [Nat.reduceAdd, Nat.reducePow] at ht hS
  rw [pyAnd_fld w 1 7 0x80 rfl, pyAnd_fld w 8 0 0xFF rfl, ht]
  generalize fld (low64 w) 7 1 = S at *
  generalize fld (low64 w) 0 8 = X
  simp only [Nat.reducePow]
  split <;> omega

theorem from66_spec (w : Int) : from66 w = fld (low64 w) 0 8 := by
  unfold from66
  rw [pyAnd_fld w 8 0 0xFF rfl]
  simp

theorem from77_spec (w : Int) : from77 w = fld (low64 w) 0 8 := from66_spec w

/-- closed form of code 68 on the fields of the word: sign `s`, exponent `E`, fraction `F` -/
def dec68 (s E F : Nat) : Dy :=
  if s = 1 then ⟨(F : Int) - 8388608, 104 - (E : Int)⟩ else ⟨F, (E : Int) - 151⟩

/-- the Cython / C++ algorithm computes the same function as the Python one, on every Python int. -/
theorem from68c_eq (w : Int) : from68c w = from68 w := by
  -- the two differ only in how the sign goes into the mantissa: `(-(w & 2^31)) >> 8` against the literal `-2^23`
  have hA : pyAnd w 0x80000000 = 0 ∨ pyAnd w 0x80000000 = 2147483648 := by
    have := fld_lt (low64 w) 31 1
    rw [pyAnd_fld w 1 31 0x80000000 rfl]; omega
  unfold from68c from68
  rcases hA with h | h <;> rw [h]
  · rfl
  · rfl

theorem from68_dy (w : Int) :
    from68 w = .fin (dec68 (fld (low64 w) 31 1) (fld (low64 w) 23 8) (fld (low64 w) 0 23)) := by
  rw [← from68c_eq]
  unfold from68c
  have hs := fld_lt (low64 w) 31 1
  have hF := fld_lt (low64 w) 0 23
  have hE := fld_lt (low64 w) 23 8
  rw [pyAnd_fld w 1 31 0x80000000 rfl, pyAnd_fld w 23 0 0x007FFFFF rfl, pyAnd_fld w 8 23 0x7F800000 rfl]
  simp only []
  rw [exp68, Nat.pow_zero, Nat.mul_one]
  generalize fld (low64 w) 0 23 = F at *
  generalize fld (low64 w) 23 8 = E at *
  obtain h | h : fld (low64 w) 31 1 = 0 ∨ fld (low64 w) 31 1 = 1 := by omega
  · rw [h, if_neg (by decide), if_neg (by decide), pyOr_zero, ldexp_exact _ _ (by omega)]
    rfl
  · rw [h, if_pos (by decide), if_pos (by decide), pyOr_neg23 _ hF, ldexp_exact _ _ (by omega)]
    rfl
theorem from68_word (u : Nat) : from68 (u : Int) = .fin (dec68 (fld u 31 1) (fld u 23 8) (fld u 0 23)) := by
  rw [from68_dy, fld_arg 64 u 31 1 _ (Nat.le_refl _) (.inl rfl) (by omega),
    fld_arg 64 u 23 8 _ (Nat.le_refl _) (.inl rfl) (by omega), fld_arg 64 u 0 23 _ (Nat.le_refl _) (.inl rfl) (by omega)]

theorem fld_word32 (u : Nat) (hu : u < 2 ^ 32) :
    fld u 31 1 * 2147483648 + fld u 23 8 * 8388608 + fld u 0 23 = u ∧
      fld u 31 1 ≤ 1 ∧ fld u 23 8 < 256 ∧ fld u 0 23 < 8388608 := by
  have h1 := fld_concat u 0 23 8
  have h2 := fld_concat u 0 31 1
  have h3 : fld u 0 32 = u := by unfold fld; rw [Nat.pow_zero, Nat.div_one, Nat.mod_eq_of_lt hu]
  have hs := fld_lt u 31 1
  have hE := fld_lt u 23 8
  have hF := fld_lt u 0 23
  simp only [Nat.zero_add, Nat.reduceAdd, Nat.reducePow] at h1 h2 hs hE hF
  omega

theorem from70_dy (w : Int) : from70 w = .fin ⟨twos 32 (fld (low64 w) 0 32), -16⟩ := by
  unfold from70
  have ht := twos_fld (low64 w) 0 31
  have hc := fld_concat (low64 w) 0 16 16
  have hS := fld_lt (low64 w) 31 1
  simp only [Nat.reduceAdd, Nat.reducePow] at ht hc hS
  rw [pyAnd_fld (pyShr w 16) 16 0 0xFFFF rfl, pyAnd_fld w 16 0 0xFFFF rfl, pyAnd_fld w 1 31 0x80000000 rfl,
    show fld (low64 (pyShr w 16)) 0 16 = fld (low64 w) 16 16 from fld_shr w 16 0 16 (by omega), ht, hc]
  generalize fld (low64 w) 31 1 = S at *
  generalize fld (low64 w) 16 16 = H
  generalize fld (low64 w) 0 16 = L
  simp only [Nat.reducePow]
  split <;> simp only [FV.fin.injEq, Dy.mk.injEq, and_true] <;> omega
end TD.C07
