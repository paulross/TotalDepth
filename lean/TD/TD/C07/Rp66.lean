import TD.C07.Bits

/-!
# C07 — RP66V1 Appendix B, part 1 (core Lean only)
-/
namespace TD.C07

/-- every element is a byte -/
def Bytes.wf (bs : List Nat) : Prop := ∀ b ∈ bs, b < 256

theorem wf_get {bs : List Nat} (h : Bytes.wf bs) {i b : Nat} (hb : bs[i]? = some b) : b < 256 :=
  h b (List.mem_of_getElem? hb)

theorem shl8_or (x b : Nat) (hb : b < 256) : (x <<< 8) ||| b = x * 256 + b := by
  rw [← Nat.shiftLeft_add_eq_or_of_lt (by simpa using hb), Nat.shiftLeft_eq]

theorem and_c0 (c : Nat) : c &&& 0xc0 = (c / 64 % 4) * 64 := and_mask c 2 6
theorem and_7f (c : Nat) : c &&& 0x7f = c % 128 := Nat.and_two_pow_sub_one_eq_mod c 7
theorem and_3f (c : Nat) : c &&& 0x3f = c % 64 := Nat.and_two_pow_sub_one_eq_mod c 6
theorem and_f (v : Nat) : v &&& 0xf = v % 16 := Nat.and_two_pow_sub_one_eq_mod v 4

theorem ldRead_some {bs : List Nat} {i b : Nat} (h : bs[i]? = some b) : ldRead bs i = .ok (b, i + 1) := by
  unfold ldRead; rw [h]

theorem ldRead_none {bs : List Nat} {i : Nat} (h : bs[i]? = none) : ldRead bs i = .error .indexError := by
  unfold ldRead; rw [h]

theorem ldRead_inv {bs : List Nat} {j b k : Nat} (h : ldRead bs j = .ok (b, k)) : bs[j]? = some b ∧ k = j + 1 := by
  unfold ldRead at h
  cases hb : bs[j]? with
  | none => rw [hb] at h; cases h
  | some c => rw [hb] at h; cases h; exact ⟨rfl, rfl⟩

theorem bind_ok {α β : Type} {x : Except Err α} {f : α → Except Err β} {b : β} (h : x >>= f = .ok b) :
    ∃ a, x = .ok a ∧ f a = .ok b := by
  cases x with
  | error e => cases h
  | ok a => exact ⟨a, rfl, h⟩

theorem ldChunk_inv {n : Nat} {bs : List Nat} {j k : Nat} {v : List Nat} (h : ldChunk n bs j = .ok (v, k)) :
    v = (bs.drop j).take n ∧ v.length = n ∧ k = j + n ∧ (j ≤ bs.length → k ≤ bs.length) := by
  unfold ldChunk at h
  split at h
  · cases h
  · cases h
    exact ⟨rfl, by rw [List.length_take, List.length_drop]; omega, rfl, by omega⟩

/-! ### UVARI (B.18): 1, 2 or 4 bytes selected by the two top bits of the first byte -/

theorem top2_lo {c : Nat} (h : c < 128) : c &&& 0xc0 ≠ 0x80 ∧ c &&& 0xc0 ≠ 0xc0 := by
  rw [and_c0]; omega

theorem top2_mid {c : Nat} (h1 : 128 ≤ c) (h2 : c < 192) : c &&& 0xc0 = 0x80 := by
  rw [and_c0]; omega

theorem top2_hi {c : Nat} (h1 : 192 ≤ c) (h2 : c < 256) : c &&& 0xc0 = 0xc0 ∧ c &&& 0xc0 ≠ 0x80 := by
  rw [and_c0]; omega


/-- the standard's UVARI at offset `i`: value and length, `none` when the bytes are not all there -/
def uvariSpec (bs : List Nat) (i : Nat) : Option (Nat × Nat) :=
  match bs[i]? with
  | none => none
  | some c =>
    if c < 128 then some (c, 1)
    else if c < 192 then
      match bs[i + 1]? with
      | some b => some ((c - 128) * 256 + b, 2)
      | none => none
    else
      match bs[i + 1]?, bs[i + 2]?, bs[i + 3]? with
      | some b1, some b2, some b3 => some ((c - 192) * 16777216 + b1 * 65536 + b2 * 256 + b3, 4)
      | _, _, _ => none

theorem uvari_spec (bs : List Nat) (i : Nat) (wf : Bytes.wf bs) :
    UVARI bs i = match uvariSpec bs i with
      | some (v, n) => .ok (v, i + n)
      | none => .error .indexError := by
  unfold UVARI uvariSpec
  cases h0 : bs[i]? with
  | none => rw [ldRead_none h0]; rfl
  | some c =>
    have hc := wf_get wf h0
    rw [ldRead_some h0]
    simp only [bind, Except.bind]
    by_cases h1 : c < 128
    · rw [if_neg (top2_lo h1).1, if_neg (top2_lo h1).2, if_pos h1]; rfl
    · rw [if_neg h1]
      by_cases h2 : c < 192
      · rw [if_pos (top2_mid (by omega) h2), if_pos h2, and_7f]
        cases h : bs[i + 1]? with
        | none => rw [ldRead_none h]
        | some b =>
          rw [ldRead_some h]
          show Except.ok (_, _) = Except.ok (_, _)
          rw [shl8_or _ _ (wf_get wf h), show c % 128 = c - 128 by omega]
      · rw [if_neg (top2_hi (by omega) hc).2, if_pos (top2_hi (by omega) hc).1, if_neg h2, and_3f]
        cases h : bs[i + 1]? with
        | none => rw [ldRead_none h]
        | some b1 =>
          cases h' : bs[i + 2]? with
          | none =>
            have r2 : ldRead bs (i + 1 + 1) = .error .indexError := ldRead_none h'
            simp only [ldRead_some h, r2]
          | some b2 =>
            have r2 : ldRead bs (i + 1 + 1) = .ok (b2, i + 1 + 1 + 1) := ldRead_some h'
            cases h'' : bs[i + 3]? with
            | none =>
              have r3 : ldRead bs (i + 1 + 1 + 1) = .error .indexError := ldRead_none h''
              simp only [ldRead_some h, r2, r3]
            | some b3 =>
              have r3 : ldRead bs (i + 1 + 1 + 1) = .ok (b3, i + 1 + 1 + 1 + 1) := ldRead_some h''
              simp only [ldRead_some h, r2, r3, pure, Except.pure, shl8_or _ _ (wf_get wf h), shl8_or _ _ (wf_get wf h'), shl8_or _ _ (wf_get wf h'')]
              refine congrArg Except.ok (Prod.ext ?_ rfl)
              show ((c % 64 * 256 + b1) * 256 + b2) * 256 + b3 = (c - 192) * 16777216 + b1 * 65536 + b2 * 256 + b3
              omega

theorem uvari_ok {bs : List Nat} {i v j : Nat} (wf : Bytes.wf bs) (h : UVARI bs i = .ok (v, j)) :
    ∃ n, uvariSpec bs i = some (v, n) ∧ j = i + n := by
  rw [uvari_spec bs i wf] at h
  cases hu : uvariSpec bs i with
  | none => rw [hu] at h; cases h
  | some r => rw [hu] at h; cases h; exact ⟨r.2, rfl, rfl⟩

theorem uvariSpec_some {bs : List Nat} {i v n : Nat} (wf : Bytes.wf bs) (h : uvariSpec bs i = some (v, n)) :
    ∃ c, bs[i]? = some c ∧ i + n ≤ bs.length ∧
      ((c < 128 ∧ n = 1 ∧ v < 2 ^ 7) ∨ (128 ≤ c ∧ c < 192 ∧ n = 2 ∧ v < 2 ^ 14) ∨ (192 ≤ c ∧ n = 4 ∧ v < 2 ^ 30)) := by
  unfold uvariSpec at h
  cases h0 : bs[i]? with
  | none => rw [h0] at h; cases h
  | some c =>
    have hc := wf_get wf h0
    have hi := (List.getElem?_eq_some_iff.1 h0).1
    refine ⟨c, rfl, ?_⟩
    simp only [h0] at h
    split at h
    · cases h; exact ⟨hi, .inl ⟨by assumption, rfl, by assumption⟩⟩
    · split at h
      · split at h
        · rename_i b hb
          have := wf_get wf hb
          have := (List.getElem?_eq_some_iff.1 hb).1
          cases h; exact ⟨by omega, .inr (.inl ⟨by omega, by assumption, rfl, by omega⟩)⟩
        · cases h
      · split at h
        · rename_i b1 b2 b3 hb1 hb2 hb3
          have := wf_get wf hb1
          have := wf_get wf hb2
          have := wf_get wf hb3
          have := (List.getElem?_eq_some_iff.1 hb3).1
          cases h; exact ⟨by omega, .inr (.inr ⟨by omega, rfl, by omega⟩)⟩
        · cases h

theorem uvari_len_spec (bs : List Nat) (i : Nat) (wf : Bytes.wf bs) :
    UVARI_len bs (i : Int) = .ok (match bs[i]? with
      | none => 0
      | some c => if c < 128 then 1 else if c < 192 then 2 else 4) := by
  unfold UVARI_len
  rw [if_neg (by omega), Int.toNat_natCast]
  cases h0 : bs[i]? with
  | none => rfl
  | some c =>
    have hc := wf_get wf h0
    show (if c &&& 0xc0 = 0x80 then _ else if c &&& 0xc0 = 0xc0 then _ else _) =
      Except.ok (if c < 128 then 1 else if c < 192 then 2 else 4)
    by_cases h1 : c < 128
    · rw [if_neg (top2_lo h1).1, if_neg (top2_lo h1).2, if_pos h1]
    · by_cases h2 : c < 192
      · rw [if_pos (top2_mid (by omega) h2), if_neg h1, if_pos h2]
      · rw [if_neg (top2_hi (by omega) hc).2, if_pos (top2_hi (by omega) hc).1, if_neg h1, if_neg h2]

theorem uvari_len_agrees (bs : List Nat) (i v j : Nat) (wf : Bytes.wf bs) (h : UVARI bs i = .ok (v, j)) :
    UVARI_len bs (i : Int) = .ok (j - i) ∧ i < j ∧ j ≤ bs.length := by
  obtain ⟨n, hu, rfl⟩ := uvari_ok wf h
  obtain ⟨c, h0, hle, hf⟩ := uvariSpec_some wf hu
  rw [uvari_len_spec bs i wf, h0, Nat.add_sub_cancel_left]
  show Except.ok (if c < 128 then 1 else if c < 192 then 2 else 4) = _ ∧ _
  rcases hf with ⟨h1, rfl, _⟩ | ⟨h1, h2, rfl, _⟩ | ⟨h1, rfl, _⟩
  · exact ⟨by rw [if_pos h1], by omega, hle⟩
  · exact ⟨by rw [if_neg (by omega), if_pos h2], by omega, hle⟩
  · exact ⟨by rw [if_neg (by omega), if_neg (by omega)], by omega, hle⟩

/-! ### IDENT / UNITS (B.19, B.27): one length byte, then that many bytes -/

theorem ident_spec (bs : List Nat) (i : Nat) :
    IDENT bs i = match bs[i]? with
      | none => .error .indexError
      | some n => if n > bs.length - (i + 1) then .error .indexError
                  else .ok ((bs.drop (i + 1)).take n, i + 1 + n) := by
  unfold IDENT pascalString ldRead ldChunk
  cases bs[i]? <;> rfl

theorem units_eq_ident : UNITS = IDENT := rfl

theorem ident_consumes (bs : List Nat) (i j : Nat) (v : List Nat) (h : IDENT bs i = .ok (v, j)) :
    bs[i]? = some v.length ∧ j = i + 1 + v.length ∧ j ≤ bs.length ∧ v = (bs.drop (i + 1)).take v.length ∧
      IDENT_len bs (i : Int) = .ok (j - i) := by
  obtain ⟨⟨n, j1⟩, hr, h⟩ := bind_ok h
  obtain ⟨hb, rfl⟩ := ldRead_inv hr
  obtain ⟨hv, rfl, rfl, hle⟩ := ldChunk_inv h
  have hi := (List.getElem?_eq_some_iff.1 hb).1
  refine ⟨hb, rfl, hle (by omega), hv, ?_⟩
  unfold IDENT_len
  rw [if_neg (by omega), Int.toNat_natCast, hb, show i + 1 + v.length - i = 1 + v.length by omega]

/-! ### IEEE-754 and IBM fields -/

/-- IEEE-754 binary interchange format on its three fields (sign, biased exponent, fraction) -/
def ieeeSpec (eb fb : Nat) (s E F : Nat) : FV :=
  let bias : Int := ((2 ^ (eb - 1) - 1 : Nat) : Int)
  let sg : Int := if s = 1 then -1 else 1
  if E = 2 ^ eb - 1 then (if F = 0 then .inf (s = 1) else .nan)
  else if E = 0 then (if F = 0 then (if s = 1 then .negZero else .fin ⟨0, 0⟩) else .fin ⟨sg * F, 1 - bias - fb⟩)
  else .fin ⟨sg * ((2 ^ fb + F : Nat) : Int), (E : Int) - bias - fb⟩

theorem ieee_fields (eb fb w : Nat) :
    ieee eb fb w = ieeeSpec eb fb (fld w (eb + fb) 1) (fld w fb eb) (fld w 0 fb) := by
  unfold ieee ieeeSpec fld
  simp only [Nat.and_two_pow_sub_one_eq_mod, Nat.shiftRight_eq_div_pow, Nat.pow_zero, Nat.div_one, Nat.pow_one,
    Nat.and_one_is_mod]

/-- `mantissa = b1<<16 | b2<<8 | b3` -/
theorem be3 (b1 b2 b3 : Nat) (h2 : b2 < 256) (h3 : b3 < 256) :
    (b1 <<< 16) ||| (b2 <<< 8) ||| b3 = b1 * 65536 + b2 * 256 + b3 := by
  rw [Nat.or_assoc, shl8_or _ _ h3, ← Nat.shiftLeft_add_eq_or_of_lt (by simp only [Nat.reducePow]; omega),
    Nat.shiftLeft_eq]
  simp only [Nat.reducePow]; omega

/-- IBM System/360 single precision: `(-1)^s · 0.F · 16^(E-64)` with a 24-bit fraction -/
theorem ibm4_spec (b0 b1 b2 b3 : Nat) (h0 : b0 < 256) (h1 : b1 < 256) (h2 : b2 < 256) (h3 : b3 < 256) :
    ibm4 b0 b1 b2 b3 =
      (let F := b1 * 65536 + b2 * 256 + b3
       let E : Int := (b0 % 128 : Nat)
       if b0 < 128 then .fin ⟨F, 4 * (E - 64) - 24⟩
       else if F = 0 then .negZero else .fin ⟨-(F : Int), 4 * (E - 64) - 24⟩) := by
  unfold ibm4
  have e1 : b0 &&& 0x80 = (b0 / 128 % 2) * 128 := and_mask b0 1 7
  have hs : b0 / 128 % 2 * 128 = 0 ↔ b0 < 128 := by omega
  simp only [e1, and_7f, be3 _ _ _ h2 h3, hs, ne_eq, ite_not]

end TD.C07
