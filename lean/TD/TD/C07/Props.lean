import TD.C07.Lemmas

/-!
# C07 — representation codes decode per the standards; encoders invert decoders

Property theorems only.  The model (`TD.C07.Model`) transcribes `LIS/core/pRepCode.py`, `cRepCode.pyx`,
`LISRepCode.cpp`, `LIS/core/RepCode.py` and `RP66V1/core/pRepCode.py`; it is tied to the three implementations by the
correspondence run of `./check C07` (the Cython and C++ extensions are rebuilt from the current sources on every run).

Vocabulary.  `fld u lo n` is the `n`-bit field of the word `u` starting at bit `lo`; `twos n x` is the two's complement
reading of an `n`-bit field; `Dy.val ⟨m, e⟩ = m·2^e : ℚ`.  A decoder argument `w : Int` is either the unsigned word
`u` or the signed value `toSigned bits u` that `struct.unpack` produces — every `decode_spec` covers both.
All statements are for ALL words / byte strings (no size bound other than the width of the code).

Two statements of the property are FALSE on the code as it is; they are proved in the partial form given here, their
negations are proved on a witness, and they are registered as known findings in `known_findings.d/C07.json`:
* code 50 (`F8-from50-exponent-mask`): only `from50_decode_spec_partial` (exponent field 0 … 1023);
* `to68` clamps `v ≤ -2^127` to a word that decodes to `-2^-129`; hence `from68_to68_partial` excludes `0x80000000`.
-/
namespace TD.C07

/-- the two ways a `bits`-bit word `u` reaches a decoder -/
def IsArg (bits u : Nat) (w : Int) : Prop := w = (u : Int) ∨ w = toSigned bits u

/-! ## LIS-79 -/

/-- **Code 49** (16-bit float): 12-bit two's complement fraction `M/2^11` (bits 15…4) times `2^E` (bits 3…0). -/
theorem from49_decode_spec (u : Nat) (hu : u < 2 ^ 16) (w : Int) (hw : IsArg 16 u w) :
    ∃ d, from49 w = .fin d ∧ d.val = (twos 12 (fld u 4 12) : ℚ) * (2 : ℚ) ^ ((fld u 0 4 : ℤ) - 11) := by
  refine ⟨_, from49_dy w, ?_⟩
  rw [fld_arg 16 u 4 12 w (by omega) hw (by omega), fld_arg 16 u 0 4 w (by omega) hw (by omega)]
  have := Dy.val_scale (twos 12 (fld u 4 12)) ((fld u 0 4 : ℤ) - 11) 4
  rw [show (twos 12 (fld u 4 12)) * 2 ^ 4 = 16 * twos 12 (fld u 4 12) by omega,
    show ((fld u 0 4 : ℤ) - 11 - (4 : ℕ)) = (fld u 0 4 : ℤ) - 15 by omega] at this
  rw [this, Dy.val_mk]

example : IsArg 16 0xB388 (-19576) ∧ from49 (-19576) = .fin ⟨-19584, -7⟩ ∧ from49 0xB388 = .fin ⟨-19584, -7⟩ :=
  ⟨Or.inr (by decide), by decide, by decide⟩

/-- **Code 50, partial** (32-bit low resolution float): `M/2^15 · 2^E` with `M` the 16-bit two's complement
mantissa (bits 15…0) and `E` the 16-bit two's complement exponent (bits 31…16) — proved only for `0 ≤ E ≤ 1023`.
FULL STATEMENT (false, finding F8): the same conclusion for every `u < 2^32`.  Missing: every negative exponent and
every exponent above 1023 (the code masks the exponent with `0x3FF` and subtracts 65536 when bit 31 is set). -/
theorem from50_decode_spec_partial (u : Nat) (hu : u < 2 ^ 32) (w : Int) (hw : IsArg 32 u w) (hE : fld u 16 16 ≤ 1023) :
    ∃ d, from50 w = .fin d ∧
      d.val = (twos 16 (fld u 0 16) : ℚ) * (2 : ℚ) ^ ((twos 16 (fld u 16 16) : ℤ) - 15) := by
  have h1 := fld_arg 32 u 16 16 w (by omega) hw (by omega)
  have h0 := fld_arg 32 u 0 16 w (by omega) hw (by omega)
  refine ⟨_, from50_dy_partial w (by rw [h1]; exact hE), ?_⟩
  rw [h1, h0, Dy.val_mk]

example : fld 0x00084C80 16 16 ≤ 1023 ∧ from50 0x00084C80 = .fin ⟨19584, -7⟩ := by decide

/-- **Code 50, the full statement fails** (F8): `0xFFFF4000` is `0.5·2^-1 = 2^-2` by the standard, the code
returns `0.0`; the same for the signed argument that `struct.unpack('>i')` produces. -/
theorem from50_full_statement_false :
    twos 16 (fld 0xFFFF4000 0 16) = 16384 ∧ twos 16 (fld 0xFFFF4000 16 16) - 15 = -16 ∧
    from50 0xFFFF4000 = .fin ⟨0, 0⟩ ∧ from50 (toSigned 32 0xFFFF4000) = .fin ⟨0, 0⟩ := by decide

/-- **Code 56** (8-bit two's complement). -/
theorem from56_decode_spec (u : Nat) (hu : u < 2 ^ 8) (w : Int) (hw : IsArg 8 u w) : from56 w = twos 8 u := by
  rw [from56_spec, fld_arg 8 u 0 8 w (by omega) hw (by omega)]
  unfold fld; simp only [Nat.pow_zero, Nat.div_one]; rw [Nat.mod_eq_of_lt hu]

/-- **Codes 66 and 77** (unsigned byte / 8-bit mask). -/
theorem from66_decode_spec (u : Nat) (hu : u < 2 ^ 8) (w : Int) (hw : IsArg 8 u w) :
    from66 w = u ∧ from77 w = u := by
  rw [from66_spec, from77_spec, fld_arg 8 u 0 8 w (by omega) hw (by omega)]
  unfold fld; simp only [Nat.pow_zero, Nat.div_one]; rw [Nat.mod_eq_of_lt hu]; exact ⟨rfl, rfl⟩

/-- **Codes 73 and 79** (32/16-bit two's complement): the decoder is the identity on the value `struct` unpacked,
which is the two's complement reading of the word. -/
theorem from73_79_decode_spec (u : Nat) :
    from73 (toSigned 32 u) = twos 32 u ∧ from79 (toSigned 16 u) = twos 16 u := by
  unfold from73 from79 toSigned twos
  exact ⟨rfl, rfl⟩

/-- **Code 68** (32-bit float): sign `S` (bit 31), exponent `E` (bits 30…23, excess 128, one's complemented when
negative), 23-bit fraction `F` (two's complemented together with the sign):
`S = 0`: `F/2^23 · 2^(E-128)`;  `S = 1`: `(F - 2^23)/2^23 · 2^((255-E)-128)`. -/
theorem from68_decode_spec (u : Nat) (hu : u < 2 ^ 32) (w : Int) (hw : IsArg 32 u w) :
    ∃ d, from68 w = .fin d ∧
      d.val = if fld u 31 1 = 1
        then (((fld u 0 23 : ℤ) - 2 ^ 23 : ℤ) : ℚ) * (2 : ℚ) ^ (((255 : ℤ) - fld u 23 8) - 128 - 23)
        else ((fld u 0 23 : ℤ) : ℚ) * (2 : ℚ) ^ ((fld u 23 8 : ℤ) - 128 - 23) := by
  refine ⟨_, from68_dy w, ?_⟩
  rw [fld_arg 32 u 31 1 w (by omega) hw (by omega), fld_arg 32 u 23 8 w (by omega) hw (by omega),
    fld_arg 32 u 0 23 w (by omega) hw (by omega)]
  unfold dec68
  split
  · rw [Dy.val_mk]; congr 2; omega
  · rw [Dy.val_mk]; congr 2; omega

example : from68 0xBBB38000 = .fin ⟨-5013504, -15⟩ ∧ from68 0x444C8000 = .fin ⟨5013504, -15⟩ := by decide

/-- **Code 68, three implementations**: the Cython / C++ algorithm (`cRepCode.from68`, `_from68`) and the Python
algorithm (`pRepCode.from68`) are the same function on every Python int. -/
theorem from68c_eq_from68 (w : Int) : from68c w = from68 w := from68c_eq w

/-- **Code 68, re-encoding a decoded word gives an equivalent word (partial)**: for every 32-bit word except
`0x80000000`, `from68 (to68 (from68 u))` is the same number as `from68 u`.
FULL STATEMENT (false): the same for every `u < 2^32`.  Missing: `u = 0x80000000` (= -2^127), see
`from68_to68_fails_at_min`. -/
theorem from68_to68_partial (u : Nat) (hu : u < 2 ^ 32) (hne : u ≠ 0x80000000) :
    ∃ d d', from68 (u : Int) = .fin d ∧ from68 ((to68 d.m d.e : Nat) : Int) = .fin d' ∧ d'.val = d.val := by
  have hd := from68_word u
  obtain ⟨hdec, hs, hE, hF⟩ := fld_word32 u hu
  have hn : ¬ (fld u 31 1 = 1 ∧ fld u 23 8 = 0 ∧ fld u 0 23 = 0) := by omega
  obtain ⟨d', h1, h2⟩ := from68_to68_fields _ _ _ hE hF hn
  exact ⟨_, d', hd, h1, h2.val_eq⟩

example : (0x444C8000 : Nat) < 2 ^ 32 ∧ (0x444C8000 : Nat) ≠ 0x80000000 ∧ to68 5013504 (-15) = 0x444C8000 := by decide

/-- **Code 68, the excluded word**: `0x80000000` decodes to `-2^23·2^104 = -2^127`, `to68` sends that to
`0xFFC00000`, which decodes to `-2^22·2^-151 = -2^-129` (finding `C07-to68-negative-clamp`, pinned by
`TestRepCodeTo68Basic.test_minmax`). -/
theorem from68_to68_fails_at_min :
    from68 0x80000000 = .fin ⟨-8388608, 104⟩ ∧ to68 (-8388608) 104 = 0xFFC00000 ∧
    from68 0xFFC00000 = .fin ⟨-4194304, -151⟩ := by decide

/-- **Code 68, canonical-word lemma (precise equivalence)**: `to68 (from68 u) = u` holds exactly for the canonical
words (`Canon68`: positive — top fraction bit set, or exponent field 0 with a non-zero fraction, or the zero word
`0x40000000`; negative — fraction in `1 … 2^22`, or exponent field 255 with a fraction above `2^22`); every other
word is re-encoded to a different (normalised) word of the same value (`from68_to68_partial`). -/
theorem to68_from68_fixed_iff (u : Nat) (hu : u < 2 ^ 32) :
    (∃ d, from68 (u : Int) = .fin d ∧ to68 d.m d.e = u) ↔ Canon68 (fld u 31 1) (fld u 23 8) (fld u 0 23) := by
  have hd := from68_word u
  obtain ⟨hdec, hs, hE, hF⟩ := fld_word32 u hu
  have key := reenc_fixed_iff _ _ _ hs hE hF
  rw [hdec] at key
  unfold reenc at key
  constructor
  · rintro ⟨d, h1, h2⟩
    rw [hd] at h1
    cases h1
    exact key.1 h2
  · intro hc
    exact ⟨_, hd, key.2 hc⟩

example : Canon68 (fld 0xBBB38000 31 1) (fld 0xBBB38000 23 8) (fld 0xBBB38000 0 23) := by
  unfold Canon68; decide
example : ¬ Canon68 (fld 0x44000001 31 1) (fld 0x44000001 23 8) (fld 0x44000001 0 23) := by
  unfold Canon68; decide

/-- **Code 68, every encoder output is canonical and `to68 ∘ from68` is the identity on the image of `to68`**:
for every dyadic `m·2^e` (every finite double; clamps included) the word `to68 v` is a 32-bit canonical word, and
decoding it and encoding again gives back the same word. -/
theorem to68_from68_to68 (m e : Int) :
    to68 m e < 2 ^ 32 ∧ Canon68 (fld (to68 m e) 31 1) (fld (to68 m e) 23 8) (fld (to68 m e) 0 23) ∧
    ∃ d, from68 ((to68 m e : Nat) : Int) = .fin d ∧ to68 d.m d.e = to68 m e := by
  obtain ⟨hc, hlt⟩ := to68_canonical m e
  exact ⟨hlt, hc, (to68_from68_fixed_iff _ hlt).2 hc⟩

example : to68 1 (-2) = 0x3FC00000 ∧ from68 0x3FC00000 = .fin ⟨4194304, -24⟩ ∧ to68 4194304 (-24) = 0x3FC00000 := by decide

/-- the range in which `to68` neither clamps nor depresses the mantissa: `2^-129 ≤ |m·2^e| < 2^127`, expressed
through the exponent that `frexp` returns -/
def InRange68 (m e : Int) : Prop := m ≠ 0 ∧ -128 ≤ frexpExp m e ∧ frexpExp m e ≤ 127

/-- **Code 68, encoding error**: for every dyadic `v = m·2^e` in range (every finite double is a dyadic),
`|from68 (to68 v) - v| < |v|·2^-22`. -/
theorem to68_error (m e : Int) (h : InRange68 m e) :
    ∃ d, from68 ((to68 m e : Nat) : Int) = .fin d ∧
      |d.val - Dy.val ⟨m, e⟩| < |Dy.val ⟨m, e⟩| * (2 : ℚ) ^ (-22 : ℤ) := by
  obtain ⟨t, a, b, h1, h2⟩ := to68_error_core m e h.1 h.2.1 h.2.2
  exact ⟨_, h1, val_error h2⟩

example : InRange68 (-153) 0 ∧ to68 (-153) 0 = 0xBBB38000 := ⟨⟨by decide, by decide, by decide⟩, by decide⟩
example : InRange68 6004799503160661 (-54) := ⟨by decide, by decide, by decide⟩   -- 1/3 as a double

/-- `InRange68` really is `2^-129 ≤ |v| < 2^127` (one direction: the bounds that the frexp exponent gives). -/
theorem inRange68_bounds (m e : Int) (h : InRange68 m e) :
    (2 : ℚ) ^ (-129 : ℤ) ≤ |Dy.val ⟨m, e⟩| ∧ |Dy.val ⟨m, e⟩| < (2 : ℚ) ^ (127 : ℤ) := by
  obtain ⟨hm, hlo, hhi⟩ := h
  unfold frexpExp at hlo hhi
  rw [if_neg hm] at hlo hhi
  have hA0 : m.natAbs ≠ 0 := by omega
  obtain ⟨hb1, hb2⟩ := bitLen_bounds _ hA0
  have hbp := bitLen_pos _ hA0
  rw [Dy.val_mk, abs_mul, abs_of_pos (by positivity : (0 : ℚ) < 2 ^ e)]
  have habs : ((m.natAbs : ℕ) : ℚ) = |(m : ℚ)| := by rw [Nat.cast_natAbs, Int.cast_abs]
  rw [← habs]
  have h2 : (2 : ℚ) ≠ 0 := by norm_num
  have c1 : ((2 ^ (bitLen m.natAbs - 1) : ℕ) : ℚ) ≤ ((m.natAbs : ℕ) : ℚ) := by exact_mod_cast hb1
  have c2 : ((m.natAbs : ℕ) : ℚ) < ((2 ^ bitLen m.natAbs : ℕ) : ℚ) := by exact_mod_cast hb2
  push_cast at c1 c2 ⊢
  have hp : (0 : ℚ) < 2 ^ e := by positivity
  constructor
  · calc (2 : ℚ) ^ (-129 : ℤ) ≤ (2 : ℚ) ^ (((bitLen m.natAbs - 1 : ℕ) : ℤ) + e) :=
          zpow_le_zpow_right₀ (by norm_num) (by omega)
      _ = (2 : ℚ) ^ (bitLen m.natAbs - 1) * 2 ^ e := by rw [zpow_add₀ h2, zpow_natCast]
      _ ≤ _ := mul_le_mul_of_nonneg_right c1 hp.le
  · calc ((m.natAbs : ℕ) : ℚ) * 2 ^ e < (2 : ℚ) ^ (bitLen m.natAbs) * 2 ^ e := mul_lt_mul_of_pos_right c2 hp
      _ = (2 : ℚ) ^ (((bitLen m.natAbs : ℕ) : ℤ) + e) := by rw [zpow_add₀ h2, zpow_natCast]
      _ ≤ (2 : ℚ) ^ (127 : ℤ) := zpow_le_zpow_right₀ (by norm_num) (by omega)

/-- **Code 68, the negative clamp is wrong**: `to68 (-2^127) = 0xFFC00000`, and so is `to68` of anything below
(e.g. `-2^130`); the word decodes to `-2^-129`, while `0x80000000` is the word of the minimum `-2^127`. -/
theorem to68_negative_clamp_defect :
    to68 (-1) 127 = 0xFFC00000 ∧ to68 (-1) 130 = 0xFFC00000 ∧ from68 0xFFC00000 = .fin ⟨-4194304, -151⟩ := by decide

/-- **Code 70** (32-bit two's complement fixed point, binary point in the middle): `twos 32 u / 2^16`. -/
theorem from70_decode_spec (u : Nat) (hu : u < 2 ^ 32) (w : Int) (hw : IsArg 32 u w) :
    ∃ d, from70 w = .fin d ∧ d.val = (twos 32 u : ℚ) * (2 : ℚ) ^ (-16 : ℤ) := by
  refine ⟨_, from70_dy w, ?_⟩
  rw [fld_arg 32 u 0 32 w (by omega) hw (by omega)]
  have : fld u 0 32 = u := by unfold fld; simp only [Nat.pow_zero, Nat.div_one]; exact Nat.mod_eq_of_lt hu
  rw [this, Dy.val_mk]

/-- **Code 70 through `RepCode.readBytes`** (the public read path: `struct.unpack('>I')`, then the Cython
`from70(unsigned int)`): every four bytes decode to `twos32(word)/2^16`, negative values included
(`STRUCT_RC_70 = STRUCT_RC_UINT_4`: the word is unpacked unsigned, as `from70` expects). -/
theorem readBytes70_decode_spec (b0 b1 b2 b3 : Nat) (h0 : b0 < 256) (h1 : b1 < 256) (h2 : b2 < 256) (h3 : b3 < 256) :
    ∃ d, readBytes 70 [b0, b1, b2, b3] = .ok (.flt (.fin d)) ∧
      d.val = (twos 32 (((b0 * 256 + b1) * 256 + b2) * 256 + b3) : ℚ) * (2 : ℚ) ^ (-16 : ℤ) := by
  have hu : ((b0 * 256 + b1) * 256 + b2) * 256 + b3 < 2 ^ 32 := by simp only [Nat.reducePow]; omega
  obtain ⟨d, hd, hv⟩ := from70_decode_spec _ hu _ (Or.inl rfl)
  refine ⟨d, ?_, hv⟩
  have hw : beWord [b0, b1, b2, b3] = ((b0 * 256 + b1) * 256 + b2) * 256 + b3 := by
    simp [beWord]
  have hok : cArgOk 70 ((((b0 * 256 + b1) * 256 + b2) * 256 + b3 : Nat) : Int) = true := by
    simp only [Nat.reducePow] at hu
    simp only [cArgOk, decide_eq_true_eq]
    omega
  simp only [readBytes, lisSize, structSigned, rcFrom, cFrom, pFrom, hw]
  push_cast at hok hd ⊢
  simp [hok, hd]

example : readBytes 70 [0xFF, 0x66, 0xC0, 0x00] = .ok (.flt (.fin ⟨-10043392, -16⟩)) ∧
    readBytes 70 [0x00, 0x99, 0x40, 0x00] = .ok (.flt (.fin ⟨10043392, -16⟩)) := ⟨by rfl, by rfl⟩

/-! ## RP66V1 Appendix B -/

/-- **UVARI, decode_spec + consumes_exactly**: 1, 2 or 4 bytes selected by the two top bits of the first byte; the
value is the remaining 7, 14 or 30 bits; `IndexError` exactly when the bytes of the selected form are not all there. -/
theorem uvari_decode_spec (bs : List Nat) (i : Nat) (wf : Bytes.wf bs) :
    UVARI bs i = match uvariSpec bs i with
      | some (v, n) => .ok (v, i + n)
      | none => .error .indexError := uvari_spec bs i wf

example : UVARI [0xC0, 0, 0, 1, 0xFF] 0 = .ok (1, 4) ∧ UVARI [7, 0x81, 0x02] 1 = .ok (258, 3) := ⟨by rfl, by rfl⟩

/-- **UVARI / ORIGIN, len_helper_agrees**: whenever decoding succeeds, `UVARI_len` is the number of bytes consumed. -/
theorem uvari_len_helper_agrees (bs : List Nat) (i v j : Nat) (wf : Bytes.wf bs) (h : UVARI bs i = .ok (v, j)) :
    UVARI_len bs (i : Int) = .ok (j - i) ∧ ORIGIN_len bs (i : Int) = .ok (j - i) ∧ i < j ∧ j ≤ bs.length := by
  obtain ⟨h1, h2, h3⟩ := uvari_len_agrees bs i v j wf h
  exact ⟨h1, h1, h2, h3⟩

/-- **IDENT / UNITS, consumes_exactly + len_helper_agrees**: a length byte `n` and the next `n` bytes; the helper
returns `1 + n`. -/
theorem ident_consumes_exactly (bs : List Nat) (i j : Nat) (v : List Nat) (h : IDENT bs i = .ok (v, j)) :
    bs[i]? = some v.length ∧ j = i + 1 + v.length ∧ j ≤ bs.length ∧ v = (bs.drop (i + 1)).take v.length ∧
      IDENT_len bs (i : Int) = .ok (j - i) ∧ UNITS bs i = .ok (v, j) := by
  obtain ⟨h1, h2, h3, h4, h5⟩ := ident_consumes bs i j v h
  exact ⟨h1, h2, h3, h4, h5, by rw [units_eq_ident]; exact h⟩

example : IDENT [3, 65, 66, 67, 9] 0 = .ok ([65, 66, 67], 4) := by rfl

/-- **OBNAME, len_helper_agrees**: whenever an OBNAME (ORIGIN + USHORT + IDENT) decodes, `OBNAME_len` is the number
of bytes consumed. -/
theorem obname_len_helper_agrees (bs : List Nat) (i j : Nat) (o : ObName) (wf : Bytes.wf bs)
    (h : OBNAME bs i = .ok (o, j)) : OBNAME_len bs (i : Int) = .ok (j - i) ∧ i + 3 ≤ j ∧ j ≤ bs.length := by
  obtain ⟨⟨ov, j1⟩, hu, h⟩ := bind_ok h
  obtain ⟨⟨cv, j2⟩, hc, h⟩ := bind_ok h
  obtain ⟨⟨iv, j3⟩, hid, h⟩ := bind_ok h
  cases h
  obtain ⟨hlen1, hlt1, hle1⟩ := uvari_len_agrees bs i ov j1 wf hu
  obtain ⟨hb1, rfl⟩ := ldRead_inv hc
  obtain ⟨hb0, hj3, hle3, _, hilen⟩ := ident_consumes bs (j1 + 1) j iv hid
  have hlt := (List.getElem?_eq_some_iff.1 hb1).1
  unfold OBNAME_len ORIGIN_len
  have hneg : ¬ ((i : Int) < 0) := by omega
  simp only [hneg, if_false, hlen1, bind, Except.bind]
  have h1 : j1 - i ≠ 0 := by omega
  have h2 : (bs.length : Int) ≥ ((j1 - i + 1 : Nat) : Int) + (i : Int) := by omega
  simp only [h1, ne_eq, not_false_eq_true, if_true, h2]
  have h3 : (i : Int) + ((j1 - i + 1 : Nat) : Int) = ((j1 + 1 : Nat) : Int) := by omega
  rw [h3, hilen]
  have h4 : j - (j1 + 1) ≠ 0 := by omega
  simp only [h4, not_false_eq_true, if_true, pure, Except.pure]
  exact ⟨by congr 1; omega, by omega, hle3⟩

example : OBNAME [0x80, 1, 2, 3, 0x41, 0x42, 0x43, 0x44] 0 = .ok (⟨1, 2, [0x41, 0x42, 0x43]⟩, 7) := by rfl

/-- **Integer codes SSHORT, USHORT, STATUS, SNORM, UNORM, SLONG, ULONG — decode_spec + consumes_exactly**: the `n`
bytes at the index, big-endian, two's complement for the signed codes; exactly `n` bytes consumed; `IndexError`
exactly when fewer than `n` bytes remain (`byteAt bs k` is byte `k` of the buffer). -/
theorem rp66_int_decode_spec (bs : List Nat) (i : Nat) (wf : Bytes.wf bs) :
    SSHORT bs i = (if i + 1 ≤ bs.length then .ok (twos 8 (byteAt bs i), i + 1) else .error .indexError) ∧
    USHORT bs i = (if i + 1 ≤ bs.length then .ok (byteAt bs i, i + 1) else .error .indexError) ∧
    STATUS bs i = USHORT bs i ∧
    SNORM bs i = (if i + 2 ≤ bs.length then .ok (twos 16 (byteAt bs i * 256 + byteAt bs (i + 1)), i + 2)
      else .error .indexError) ∧
    UNORM bs i = (if i + 2 ≤ bs.length then .ok (byteAt bs i * 256 + byteAt bs (i + 1), i + 2)
      else .error .indexError) ∧
    SLONG bs i = (if i + 4 ≤ bs.length then
        .ok (twos 32 (((byteAt bs i * 256 + byteAt bs (i + 1)) * 256 + byteAt bs (i + 2)) * 256 + byteAt bs (i + 3)), i + 4)
      else .error .indexError) ∧
    ULONG bs i = (if i + 4 ≤ bs.length then
        .ok (((byteAt bs i * 256 + byteAt bs (i + 1)) * 256 + byteAt bs (i + 2)) * 256 + byteAt bs (i + 3), i + 4)
      else .error .indexError) :=
  ⟨sshort_spec bs i, ldRead_eq bs i, rfl, snorm_spec bs i, unorm_spec bs i wf,
    (slong_ulong_spec bs i).1, (slong_ulong_spec bs i).2⟩

example : SNORM [9, 0xFF, 0x67] 1 = .ok (-153, 3) ∧ SLONG [0xFF, 0xFF, 0xFF, 0x67] 0 = .ok (-153, 4) ∧
    SSHORT [0x99] 0 = .ok (-103, 1) ∧ ULONG [0, 0, 0, 0x99] 1 = .error .indexError := ⟨by rfl, by rfl, by rfl, by rfl⟩

/-- **DTIME, decode_spec + consumes_exactly** (B.21): eight bytes — year − 1900, time zone (high nibble) and month
(low nibble), day, hour, minute, second, milliseconds (2 bytes, big-endian); `IndexError` exactly when fewer than
eight bytes remain. -/
theorem dtime_decode_spec (bs : List Nat) (i : Nat) (wf : Bytes.wf bs) :
    DTIME bs i = if i + 8 ≤ bs.length then
        .ok (⟨byteAt bs i + 1900, byteAt bs (i + 1) / 16, byteAt bs (i + 1) % 16, byteAt bs (i + 2), byteAt bs (i + 3),
              byteAt bs (i + 4), byteAt bs (i + 5), byteAt bs (i + 6) * 256 + byteAt bs (i + 7)⟩, i + 8)
      else .error .indexError := by
  unfold DTIME USHORT
  simp only [ldRead_eq, unorm_spec _ _ wf, bind_ite, Nat.add_assoc, Nat.reduceAdd]
  simp (disch := omega) only [ite_ite_of_imp]
  have hb := byteAt_lt bs wf (i + 1)
  rw [and_f, and_f, Nat.shiftRight_eq_div_pow, Nat.mod_eq_of_lt (by omega : byteAt bs (i + 1) / 2 ^ 4 < 16)]
  rfl

example : DTIME [0x57, 0x14, 0x13, 0x0F, 0x14, 0x2B, 0x00, 0x21] 0 = .ok (⟨1987, 1, 4, 19, 15, 20, 43, 33⟩, 8) := by rfl

/-- **ASCII, decode_spec** (B.20): a UVARI length `n` (occupying `k` bytes) and the next `n` bytes. -/
theorem ascii_decode_spec (bs : List Nat) (i : Nat) (wf : Bytes.wf bs) :
    ASCII bs i = match uvariSpec bs i with
      | none => .error .indexError
      | some (n, k) => if n > bs.length - (i + k) then .error .indexError
                       else .ok ((bs.drop (i + k)).take n, i + k + n) := by
  unfold ASCII
  rw [uvari_spec bs i wf]
  cases uvariSpec bs i with
  | none => rfl
  | some r => obtain ⟨n, k⟩ := r; rfl

/-- **ASCII, consumes_exactly**: a decoded string of length `n` consumed the `k` bytes of its UVARI length
(`k = UVARI_len`) plus `n`, all inside the buffer. -/
theorem ascii_consumes_exactly (bs : List Nat) (i j : Nat) (v : List Nat) (wf : Bytes.wf bs)
    (h : ASCII bs i = .ok (v, j)) :
    ∃ k, uvariSpec bs i = some (v.length, k) ∧ j = i + k + v.length ∧ j ≤ bs.length ∧
      v = (bs.drop (i + k)).take v.length ∧ UVARI_len bs (i : Int) = .ok k := by
  obtain ⟨⟨n, j1⟩, hu, h⟩ := bind_ok h
  obtain ⟨hv, rfl, rfl, hle⟩ := ldChunk_inv h
  obtain ⟨hlen, _, hle1⟩ := uvari_len_agrees bs i _ j1 wf hu
  obtain ⟨k, hs, rfl⟩ := uvari_ok wf hu
  exact ⟨k, hs, rfl, hle hle1, hv, by rw [hlen, Nat.add_sub_cancel_left]⟩

example : ASCII [0x80, 0x03, 65, 66, 67, 9] 0 = .ok ([65, 66, 67], 5) := by rfl

/-- **IDENT / UNITS, decode_spec**: `UNITS` is read exactly like `IDENT` (disallowed characters are only logged):
one length byte `n`, then `n` bytes; `IndexError` exactly when they are not all there. -/
theorem ident_units_decode_spec (bs : List Nat) (i : Nat) :
    UNITS bs i = IDENT bs i ∧
    IDENT bs i = (match bs[i]? with
      | none => .error .indexError
      | some n => if n > bs.length - (i + 1) then .error .indexError
                  else .ok ((bs.drop (i + 1)).take n, i + 1 + n)) := ⟨rfl, ident_spec bs i⟩

/-- **OBNAME, decode_spec + consumes_exactly** (B.23): ORIGIN (a UVARI of `k` bytes), copy number (one byte),
IDENT; consumed `k + 1 + 1 + len(identifier)` bytes, all inside the buffer. -/
theorem obname_consumes_exactly (bs : List Nat) (i j : Nat) (o : ObName) (wf : Bytes.wf bs)
    (h : OBNAME bs i = .ok (o, j)) :
    ∃ k, uvariSpec bs i = some (o.o, k) ∧ bs[i + k]? = some o.c ∧ IDENT bs (i + k + 1) = .ok (o.i, j) ∧
      j = i + k + 1 + 1 + o.i.length ∧ j ≤ bs.length := by
  obtain ⟨⟨ov, j1⟩, hu, h⟩ := bind_ok h
  obtain ⟨k, hs, rfl⟩ := uvari_ok wf hu
  obtain ⟨⟨c, j2⟩, hc, h⟩ := bind_ok h
  obtain ⟨⟨iv, j3⟩, hid, h⟩ := bind_ok h
  cases h
  obtain ⟨hb, rfl⟩ := ldRead_inv hc
  obtain ⟨_, hj3, hle3, _, _⟩ := ident_consumes bs (i + k + 1) j iv hid
  exact ⟨k, hs, hb, hid, by simp only; omega, hle3⟩

/-- **OBJREF, decode_spec + consumes_exactly** (B.24): an IDENT (object type) followed by an OBNAME; the bytes
consumed are `IDENT_len` plus `OBNAME_len` at the following index. -/
theorem objref_consumes_exactly (bs : List Nat) (i j : Nat) (t : List Nat) (o : ObName) (wf : Bytes.wf bs)
    (h : OBJREF bs i = .ok ((t, o), j)) :
    IDENT bs i = .ok (t, i + 1 + t.length) ∧ OBNAME bs (i + 1 + t.length) = .ok (o, j) ∧
      IDENT_len bs (i : Int) = .ok (1 + t.length) ∧
      OBNAME_len bs ((i + 1 + t.length : Nat) : Int) = .ok (j - (i + 1 + t.length)) ∧ j ≤ bs.length := by
  obtain ⟨⟨tv, j1⟩, hid, h⟩ := bind_ok h
  obtain ⟨⟨ov, j2⟩, hob, h⟩ := bind_ok h
  cases h
  obtain ⟨_, hj1, _, _, hlen⟩ := ident_consumes bs i j1 t hid
  subst hj1
  obtain ⟨hol, _, hle⟩ := obname_len_helper_agrees bs _ j o wf hob
  exact ⟨hid, hob, by rw [hlen]; congr 1; omega, hol, hle⟩


example : OBJREF [2, 70, 71, 0x05, 1, 1, 72] 0 = .ok (([70, 71], ⟨5, 1, [72]⟩), 7) := by rfl

/-- **FSINGL / FDOUBL, decode_spec + consumes_exactly**: four (eight) bytes, big-endian, IEEE-754 fields
(sign, biased exponent, fraction) incl. subnormals, signed zero, infinities and NaN. -/
theorem fsingl_fdoubl_decode_spec (bs : List Nat) (i : Nat) :
    FSINGL bs i = (if 4 > bs.length - i then .error .indexError else
      .ok (let w := beWord ((bs.drop i).take 4); ieeeSpec 8 23 (fld w 31 1) (fld w 23 8) (fld w 0 23), i + 4)) ∧
    FDOUBL bs i = (if 8 > bs.length - i then .error .indexError else
      .ok (let w := beWord ((bs.drop i).take 8); ieeeSpec 11 52 (fld w 63 1) (fld w 52 11) (fld w 0 52), i + 8)) := by
  unfold FSINGL FDOUBL ldChunk
  constructor
  · split
    · rfl
    · simp only [bind, Except.bind, pure, Except.pure, ieee_fields]
  · split
    · rfl
    · simp only [bind, Except.bind, pure, Except.pure, ieee_fields]

example : FSINGL [0x43, 0x19, 0, 0] 0 = .ok (.fin ⟨10027008, -16⟩, 4) := by rfl

/-- **ISINGL (IBM System/360 single) and `ReadBIT.bytes_to_float`**: `(-1)^S · F/2^24 · 16^(E-64)`. -/
theorem isingl_decode_spec (b0 b1 b2 b3 : Nat) (h0 : b0 < 256) (h1 : b1 < 256) (h2 : b2 < 256) (h3 : b3 < 256) :
    ISINGL [b0, b1, b2, b3] 0 = .ok (ibm4 b0 b1 b2 b3, 4) ∧ ibmBytes [b0, b1, b2, b3] = .ok (ibm4 b0 b1 b2 b3) ∧
    ibm4 b0 b1 b2 b3 =
      (let F := b1 * 65536 + b2 * 256 + b3
       let E : Int := (b0 % 128 : Nat)
       if b0 < 128 then .fin ⟨F, 4 * (E - 64) - 24⟩
       else if F = 0 then .negZero else .fin ⟨-(F : Int), 4 * (E - 64) - 24⟩) :=
  ⟨by rfl, by rfl, ibm4_spec b0 b1 b2 b3 h0 h1 h2 h3⟩

example : ISINGL [0xC2, 0x76, 0xA0, 0x00] 0 = .ok (.fin ⟨-7774208, -16⟩, 4) := by rfl

/-- **VSINGL, decode_spec as the repository codes it** (DESIGN F9: the fraction has weight `2^-23`, following the
repository's / RP66V1's printed vector `0C 44 00 80 → 153`; a VAX F_floating fraction has weight `2^-24`):
`(-1)^S · (0.5 + F/2^23) · 2^(E-128)`, `0` when `E = 0 ∧ S = 0`; four bytes consumed. -/
theorem vsingl_decode_spec (b0 b1 b2 b3 : Nat) (h0 : b0 < 256) (h1 : b1 < 256) (h2 : b2 < 256) (h3 : b3 < 256) :
    VSINGL [b0, b1, b2, b3] 0 = .ok (vax4 b0 b1 b2 b3, 4) ∧
    vax4 b0 b1 b2 b3 =
      (let F := (b0 % 128) * 65536 + b3 * 256 + b2
       let E := (b1 % 128) * 2 + b0 / 128
       if E = 0 ∧ b1 < 128 then .fin ⟨0, 0⟩
       else .fin ⟨if b1 < 128 then ((4194304 + F : Nat) : Int) else -((4194304 + F : Nat) : Int), (E : Int) - 151⟩) :=
  ⟨by rfl, vax4_spec b0 b1 b2 b3 h0 h1 h2 h3⟩

example : VSINGL [0x0C, 0x44, 0x00, 0x80] 0 = .ok (.fin ⟨5013504, -15⟩, 4) := by rfl   -- 153

/-! ## Output ranges (for ALL arguments, no hypothesis on the word) -/

/-- **Codes 56, 66, 77, output range**: whatever Python int reaches the decoder (any width, either sign), the result is
a value of the code: a signed char for 56, an unsigned byte for 66 and 77.  (A decoder that forgot the mask, or
sign-extended from the wrong bit, leaves the range for some word.) -/
theorem from56_66_77_range (w : Int) :
    (-128 ≤ from56 w ∧ from56 w ≤ 127) ∧ (0 ≤ from66 w ∧ from66 w ≤ 255) ∧ (0 ≤ from77 w ∧ from77 w ≤ 255) := by
  rw [from56_spec, from66_spec, from77_spec]
  have hb : fld (low64 w) 0 8 < 256 := by unfold fld; omega
  generalize fld (low64 w) 0 8 = x at hb
  refine ⟨?_, by omega, by omega⟩
  unfold twos
  split <;> omega

example : from56 0x80 = -128 ∧ from56 0x17F = 127 ∧ from66 (-1) = 255 := by decide

/-- **UVARI, width and value range**: a successful decode consumed 1, 2 or 4 bytes and the value fits the 7, 14 or
30 bits of that form — never more (so `UVARI` can never report a length that overruns a 2^30-byte record). -/
theorem uvari_value_bound (bs : List Nat) (i v j : Nat) (wf : Bytes.wf bs) (h : UVARI bs i = .ok (v, j)) :
    (j = i + 1 ∧ v < 2 ^ 7) ∨ (j = i + 2 ∧ v < 2 ^ 14) ∨ (j = i + 4 ∧ v < 2 ^ 30) := by
  obtain ⟨n, hu, rfl⟩ := uvari_ok wf h
  obtain ⟨c, -, -, hf⟩ := uvariSpec_some wf hu
  rcases hf with ⟨-, rfl, hv⟩ | ⟨-, -, rfl, hv⟩ | ⟨-, rfl, hv⟩
  · exact .inl ⟨rfl, hv⟩
  · exact .inr (.inl ⟨rfl, hv⟩)
  · exact .inr (.inr ⟨rfl, hv⟩)

example : UVARI [0xFF, 0xFF, 0xFF, 0xFF] 0 = .ok (2 ^ 30 - 1, 4) ∧ UVARI [0xBF, 0xFF] 0 = .ok (2 ^ 14 - 1, 2) :=
  ⟨by rfl, by rfl⟩

end TD.C07
