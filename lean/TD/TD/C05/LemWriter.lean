import TD.C05.LemLayout
/-! C05: the writer model produces the spec encoding. -/
namespace TD.C05

theorem attr_eq (r f c s p : Bool) :
    (let a := ((0 ||| (if r then 1 <<< 9 else 0)) ||| (if f then 1 <<< 10 else 0)) ||| (if c then 1 <<< 12 else 0)
     let a := if s then a ||| (1 <<< 0) else a
     if p then a ||| (1 <<< 1) else a)
    = (if r then 0x200 else 0) + (if f then 0x400 else 0) + (if c then 0x1000 else 0)
      + (if s then 1 else 0) + (if p then 2 else 0) := by
  cases r <;> cases f <;> cases c <;> cases s <;> cases p <;> rfl

theorem normalise_eq (n : Int) : normalise n = n % 65536 := by
  unfold normalise; simp

/-- `PhysRecTail` after `n` PRs; the lazily normalised counter may stand at 65536 -/
structure PInv (L : Layout) (n : Nat) (p : Prt) : Prop where
  hasRec : p.hasRec = L.hasRec
  hasChk : p.hasCheck = L.hasChk
  fnum : p.fileNum = L.fileNum.map (fun n => n % 65536)
  rn0 : 0 ≤ p.recNum ∧ p.recNum ≤ 65536
  rn : L.hasRec = true → p.recNum.toNat % 65536 = n % 65536

theorem PInv.prtLen {L : Layout} {n : Nat} {p : Prt} (h : PInv L n p) : p.prtLen = L.prtLen := by
  unfold Prt.prtLen Layout.prtLen
  rw [h.hasRec, h.hasChk, h.fnum]
  cases L.fileNum <;> rfl

theorem PInv.fileNumBytes {L : Layout} {n : Nat} {p : Prt} (h : PInv L n p) : p.fileNumBytes = fileNumBytes L := by
  unfold Prt.fileNumBytes TD.C05.fileNumBytes
  rw [h.fnum]; cases L.fileNum <;> rfl

theorem recNumBytes_spec {L : Layout} {n : Nat} {p : Prt} (h : PInv L n p) :
    p.recNumBytes.1 = (if L.hasRec then u16be (n % 65536) else []) ∧ PInv L (n + 1) p.recNumBytes.2 := by
  have h0 := h.rn0
  unfold Prt.recNumBytes
  rw [h.hasRec]
  cases hr : L.hasRec with
  | false => exact ⟨rfl, h.hasRec, h.hasChk, h.fnum, h0, fun x => by rw [hr] at x; cases x⟩
  | true =>
    have hrn := h.rn hr
    obtain ⟨k, hk⟩ := Int.eq_ofNat_of_zero_le h0.1
    rw [hk] at h0 hrn ⊢
    rw [Int.toNat_natCast] at hrn
    -- the counter lies in [0, 65536]: normalising it out of range is reduction mod 2^16
    have key : (if (k : Int) < 0 ∨ (k : Int) > 65535 then normalise k else k) = ((k % 65536 : Nat) : Int) := by
      split
      · rw [normalise_eq]; rfl
      · rw [Nat.mod_eq_of_lt (by omega)]
    simp only [if_true, key]
    refine ⟨?_, hr.symm, h.hasChk, h.fnum, ?_, fun _ => ?_⟩
    · rw [Int.toNat_natCast, hrn]
    · show 0 ≤ ((k % 65536 : Nat) : Int) + 1 ∧ ((k % 65536 : Nat) : Int) + 1 ≤ 65536
      have hlt := Nat.mod_lt k (show 65536 > 0 by decide)
      generalize k % 65536 = m at hlt ⊢
      omega
    · show (((k % 65536 + 1 : Nat) : Int)).toNat % 65536 = (n + 1) % 65536
      rw [Int.toNat_natCast, hrn]; exact Nat.mod_add_mod n 65536 1

theorem fileNumBytes_ok (L : Layout) : BytesOK (fileNumBytes L) := by
  unfold fileNumBytes; cases L.fileNum with
  | none => exact BytesOK_nil
  | some n => exact u16be_ok _

theorem prAttr_eq {L : Layout} {n : Nat} {p : Prt} (h : PInv L n p) (succ pred : Prop) [Decidable succ] [Decidable pred] :
    (let attr := p.prhAttr
     let attr := if succ then attr ||| (1 <<< 0) else attr
     if pred then attr ||| (1 <<< 1) else attr)
    = attrOf L (decide (¬ pred)) (decide (¬ succ)) := by
  have e : (Option.map (fun n : Int => n % 65536) L.fileNum).isSome = L.fileNum.isSome := by
    cases L.fileNum <;> rfl
  have := attr_eq L.hasRec L.fileNum.isSome L.hasChk (decide succ) (decide pred)
  simp only [decide_eq_true_eq] at this
  unfold Prt.prhAttr attrOf
  rw [h.hasRec, h.hasChk, h.fnum, e, this]
  by_cases h1 : succ <;> by_cases h2 : pred <;> simp only [h1, h2, not_true_eq_false, not_false_eq_true,
    decide_true, decide_false, if_true, if_false, Bool.false_eq_true]

/-- relation between the writer object and the spec encoder state -/
structure WInv (L : Layout) (st : ES) (w : Wr) : Prop where
  mp : w.maxPayloadLen = L.maxPayload
  prt : PInv L st.recNo w.prt
  len : w.out.length = st.pos
  back : st.back ≤ st.pos
  tif : w.tif = if L.tif = .off then none else some ⟨0, st.back, st.pos, st.pos - st.back⟩

theorem prBytes_spec {L : Layout} {st : ES} {w : Wr} (h : WInv L st w) (lr : Bytes) (ofs : Nat) (hb : BytesOK lr) :
    (prBytes w lr ofs).1 = prBody L st (decide (ofs = 0)) (decide (¬ (ofs + L.maxPayload < lr.length)))
        ((lr.drop ofs).take L.maxPayload)
    ∧ PInv L (st.recNo + 1) (prBytes w lr ofs).2 := by
  obtain ⟨r1, r2⟩ := recNumBytes_spec h.prt
  have hattr := prAttr_eq h.prt (ofs + L.maxPayload < lr.length) (ofs > 0)
  have e0 : decide (¬ ofs > 0) = decide (ofs = 0) := by congr 1; exact propext (by omega)
  rw [e0] at hattr
  simp only [] at hattr
  unfold prBytes prBody prCovered
  simp only []
  rw [h.mp, hattr, h.prt.prtLen, r1, r2.fileNumBytes, r2.hasChk]
  refine ⟨?_, r2⟩
  unfold prLenOf computeCheckSum
  rw [r2.hasChk]
  cases hc : L.hasChk with
  | false => rfl
  | true =>
    simp only [if_true]
    rw [checksum_eq]
    refine BytesOK_append (BytesOK_append (BytesOK_append (BytesOK_append (u16be_ok _) (u16be_ok _)) ?_) ?_) (fileNumBytes_ok L)
    · exact fun x hx => hb x (List.mem_of_mem_drop (List.mem_of_mem_take hx))
    · split
      · exact u16be_ok _
      · exact BytesOK_nil

theorem tifWrite_spec (ty back pos len : Nat) (hb : back ≤ pos) (h : pos + 12 + len < 4294967296) :
    TifW.write ⟨ty, back, pos, pos - back⟩ len
      = .ok (u32le ty ++ u32le back ++ u32le (pos + 12 + len), ⟨ty, pos, pos + 12 + len, pos + 12 + len - pos⟩) := by
  unfold TifW.write
  have e1 : pos + (len + 12) = pos + 12 + len := by omega
  have e2 : back + (pos - back) = pos := by omega
  have e3 : len + 12 = pos + 12 + len - pos := by omega
  simp only [e1, e2]
  rw [if_neg (by omega), e3]

theorem writeLoop_step {L : Layout} (hbe : L.tif ≠ .be) {w : Wr} {st : ES} {lr : Bytes} {ofs : Nat} (n : Nat)
    (hinv : WInv L st w) (hb : BytesOK lr) (hofs : ofs < lr.length)
    (hsz : L.tif = .le → (st.next L ((lr.drop ofs).take L.maxPayload)).pos < 4294967296) :
    ∃ w1, writeLoop (n + 1) w lr ofs = writeLoop n w1 lr (ofs + ((lr.drop ofs).take L.maxPayload).length)
      ∧ w1.out = w.out ++ encPR L st (decide (ofs = 0)) (decide (¬ (ofs + L.maxPayload < lr.length)))
          ((lr.drop ofs).take L.maxPayload)
      ∧ WInv L (st.next L ((lr.drop ofs).take L.maxPayload)) w1 := by
  obtain ⟨hb1, hb2⟩ := prBytes_spec hinv lr ofs hb
  have hblen : (prBytes w lr ofs).1.length = prLenOf L ((lr.drop ofs).take L.maxPayload) := by
    rw [hb1, prBody_length]
  have hback := hinv.back
  rw [writeLoop, if_pos hofs, hinv.tif, hinv.mp]
  cases htif : L.tif with
  | be => exact absurd htif hbe
  | off =>
    refine ⟨_, rfl, ?_, rfl, hb2, ?_, ?_, ?_⟩
    · simp only [encPR, tifMarker, htif, List.nil_append]; rw [hb1]
    · simp only [List.length_append, hblen, hinv.len, next_pos, Layout.tifLen, htif]; omega
    · simp only [ES.next]; omega
    · rw [htif]; rfl
  | le =>
    have hnp : (st.next L ((lr.drop ofs).take L.maxPayload)).pos
        = st.pos + 12 + prLenOf L ((lr.drop ofs).take L.maxPayload) := by
      simp only [next_pos, Layout.tifLen, htif]
    have hs := hsz htif
    rw [hnp] at hs
    simp only [reduceCtorEq, if_false]
    rw [hblen, tifWrite_spec 0 st.back st.pos _ hback hs]
    refine ⟨_, rfl, ?_, rfl, hb2, ?_, ?_, ?_⟩
    · simp only [encPR, tifMarker, htif, List.append_assoc]; rw [hb1]
    · simp only [List.length_append, hblen, hinv.len, hnp, u32le, List.length_cons, List.length_nil]
    · simp only [ES.next]; omega
    · rw [htif, hnp]; rfl

theorem writeLoop_spec (L : Layout) (hL : L.Valid) (hbe : L.tif ≠ .be) :
    ∀ (fuel : Nat) (w : Wr) (st : ES) (lr : Bytes) (ofs : Nat),
    WInv L st w → BytesOK lr → lr.length - ofs < fuel →
    (L.tif = .le → (stAfterChunks L st (chunks L.maxPayload (lr.drop ofs))).pos < 4294967296) →
    ∃ w', writeLoop fuel w lr ofs = .ok w'
      ∧ w'.out = w.out ++ encChunks L st (decide (ofs = 0)) (chunks L.maxPayload (lr.drop ofs))
      ∧ WInv L (stAfterChunks L st (chunks L.maxPayload (lr.drop ofs))) w' := by
  have hmp := maxPayload_pos hL
  intro fuel
  induction fuel with
  | zero => intro w st lr ofs _ _ hf; omega
  | succ n ih =>
    intro w st lr ofs hinv hb hf hsz
    by_cases hofs : ofs < lr.length
    · have hne : lr.drop ofs ≠ [] := fun h0 => by rw [List.drop_eq_nil_iff] at h0; omega
      rw [chunks_cons _ hmp _ hne, List.drop_drop] at hsz ⊢
      have hclen : ((lr.drop ofs).take L.maxPayload).length = min L.maxPayload (lr.length - ofs) := by
        rw [List.length_take, List.length_drop]
      -- the chunk just written is the last one iff the loop condition fails next time
      have hlast : (chunks L.maxPayload (lr.drop (ofs + ((lr.drop ofs).take L.maxPayload).length))).isEmpty
          = decide (¬ (ofs + L.maxPayload < lr.length)) := by
        rw [Bool.eq_iff_iff]
        simp only [List.isEmpty_iff, decide_eq_true_eq]
        rw [chunks_eq_nil _ hmp, List.drop_eq_nil_iff, hclen]; omega
      have hofs1 : decide (ofs + ((lr.drop ofs).take L.maxPayload).length = 0) = false := by
        simp only [decide_eq_false_iff_not]; omega
      simp only [encChunks, stAfterChunks] at hsz ⊢
      have hposge := stAfterChunks_pos_ge L (chunks L.maxPayload (lr.drop (ofs + ((lr.drop ofs).take L.maxPayload).length)))
        (st.next L ((lr.drop ofs).take L.maxPayload))
      obtain ⟨w1, e0, o1, hinv1⟩ := writeLoop_step hbe n hinv hb hofs (fun h => by have := hsz h; omega)
      obtain ⟨w', e1, e2, e3⟩ := ih w1 _ lr _ hinv1 hb (by omega) hsz
      exact ⟨w', e0.trans e1, by rw [e2, o1, hofs1, hlast, List.append_assoc], e3⟩
    · have h0 : lr.drop ofs = [] := List.drop_eq_nil_of_le (by omega)
      rw [h0, chunks_nil]
      exact ⟨w, by rw [writeLoop, if_neg hofs], (List.append_nil _).symm, hinv⟩

theorem tellOf_cons_succ (L : Layout) (r : Bytes) (rs : List Bytes) (i : Nat) :
    tellOf L (r :: rs) (i + 1) = recSize L r + tellOf L rs i := by
  simp [tellOf, List.take_succ_cons]

theorem writeLr_spec (L : Layout) (hL : L.Valid) (hbe : L.tif ≠ .be) (w : Wr) (st : ES) (lr : Bytes)
    (hinv : WInv L st w) (hb : BytesOK lr) (hsz : L.tif = .le → (stAfterRec L st lr).pos < 4294967296) :
    ∃ w', w.writeLr lr = .ok (st.pos, w') ∧ w'.out = w.out ++ encRec L st lr ∧ WInv L (stAfterRec L st lr) w' := by
  have := writeLoop_spec L hL hbe (lr.length + 1) w st lr 0 hinv hb (by omega)
    (by simpa [stAfterRec] using hsz)
  obtain ⟨w', e1, e2, e3⟩ := this
  refine ⟨w', ?_, by simpa [encRec] using e2, by simpa [stAfterRec] using e3⟩
  unfold Wr.writeLr; rw [e1, hinv.len]; rfl

theorem writeAll_spec (L : Layout) (hL : L.Valid) (hbe : L.tif ≠ .be) : ∀ (rs : List Bytes) (w : Wr) (st : ES),
    WInv L st w → (∀ r ∈ rs, BytesOK r) → (L.tif = .le → (stAfterRecs L st rs).pos < 4294967296) →
    ∃ w', writeAll w rs = .ok ((List.range rs.length).map (fun i => st.pos + tellOf L rs i), w')
      ∧ w'.out = w.out ++ encRecs L st rs ∧ WInv L (stAfterRecs L st rs) w' := by
  intro rs
  induction rs with
  | nil => intro w st hinv _ _; exact ⟨w, rfl, by simp [encRecs], by simpa [stAfterRecs] using hinv⟩
  | cons r rs ih =>
    intro w st hinv hb hsz
    simp only [stAfterRecs] at hsz
    have hge := stAfterRecs_pos_ge L rs (stAfterRec L st r)
    obtain ⟨w1, e1, e2, e3⟩ := writeLr_spec L hL hbe w st r hinv (hb r (by simp)) (fun h => by have := hsz h; omega)
    obtain ⟨w2, f1, f2, f3⟩ := ih w1 _ e3 (fun x hx => hb x (by simp [hx])) hsz
    refine ⟨w2, ?_, ?_, by simpa [stAfterRecs] using f3⟩
    · simp only [writeAll, e1, f1, List.length_cons, List.range_succ_eq_map, List.map_cons, List.map_map,
        stAfterRec_pos]
      congr 4
      funext i
      simp only [Function.comp, tellOf_cons_succ, Nat.add_assoc]
    · rw [f2, e2]; simp [encRecs]

theorem new_spec (L : Layout) (hL : L.Valid) (hbe : L.tif ≠ .be) :
    ∃ w, Wr.new (L.tif != .off) L.prMax (Prt.mk' L.hasRec L.fileNum L.hasChk) = .ok w ∧ w.out = []
      ∧ WInv L ES.init w := by
  have hp : PInv L 0 (Prt.mk' L.hasRec L.fileNum L.hasChk) := by
    refine ⟨rfl, rfl, ?_, by show (0 : Int) ≤ 0 ∧ (0 : Int) ≤ 65536; omega, fun _ => rfl⟩
    unfold Prt.mk'
    cases L.fileNum with
    | none => rfl
    | some n =>
      simp only [Option.map_some]
      split
      · rw [normalise_eq]
      · congr 1; omega
  have h1 := hL.1
  have h2 := hL.2
  unfold Wr.new
  simp only [hp.prtLen]
  rw [if_neg (by omega), if_neg (by omega)]
  refine ⟨_, rfl, rfl, ?_, hp, rfl, Nat.le_refl _, ?_⟩
  · simp only [Layout.maxPayload]; omega
  · cases ht : L.tif with
    | be => exact absurd ht hbe
    | _ => rfl

theorem writeRecs_spec (L : Layout) (rs : List Bytes) (hL : L.Valid) (hbe : L.tif ≠ .be)
    (hb : ∀ r ∈ rs, BytesOK r) (hsz : L.tif = .le → fileSize L rs < 4294967296) :
    ∃ w0 w1, Wr.new (L.tif != .off) L.prMax (Prt.mk' L.hasRec L.fileNum L.hasChk) = .ok w0
      ∧ writeAll w0 rs = .ok ((List.range rs.length).map (tellOf L rs), w1)
      ∧ w1.out = encRecs L ES.init rs ∧ WInv L (stAfterRecs L ES.init rs) w1
      ∧ (L.tif = .le → (stAfterRecs L ES.init rs).pos + 24 < 4294967296) := by
  obtain ⟨w0, e0, o0, i0⟩ := new_spec L hL hbe
  have hpos : (stAfterRecs L ES.init rs).pos = tellOf L rs rs.length := by
    rw [stAfterRecs_pos]; simp [tellOf, ES.init]
  have hbound : L.tif = .le → (stAfterRecs L ES.init rs).pos + 24 < 4294967296 := by
    intro h; have := hsz h; unfold fileSize at this; rw [h] at this; rw [hpos]; exact this
  obtain ⟨w1, e1, o1, i1⟩ := writeAll_spec L hL hbe rs w0 ES.init i0 hb (fun h => by have := hbound h; omega)
  rw [o0, List.nil_append] at o1
  exact ⟨w0, w1, e0, by rw [e1]; simp [ES.init], o1, i1, hbound⟩

theorem close_spec (L : Layout) (hbe : L.tif ≠ .be) (w : Wr) (st : ES) (hinv : WInv L st w)
    (hsz : L.tif = .le → st.pos + 24 < 4294967296) :
    w.close = .ok (w.out ++ eofMarkers L st) := by
  have hb := hinv.back
  unfold Wr.close eofMarkers
  rw [hinv.tif]
  cases htif : L.tif with
  | be => exact absurd htif hbe
  | off => simp [tifMarker]
  | le =>
    have hs := hsz htif
    simp only [reduceCtorEq, if_false]
    rw [tifWrite_spec 1 st.back st.pos 0 hb (by omega)]
    simp only []
    rw [tifWrite_spec 1 st.pos (st.pos + 12 + 0) 0 (by omega) (by omega)]
    simp only [tifMarker, Nat.add_zero, List.append_assoc]

end TD.C05
