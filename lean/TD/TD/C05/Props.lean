import TD.C05.LemWriter
import TD.C05.LemStrip
import TD.C05.LemInit
import TD.C05.LemScan
/-!
C05 — property theorems (LIS physical records: what is written is what is read, at any position; TIF stripping).

`Spec.lean`  : LIS-79 layout `encode`, positions `tellOf`, abstract reader `absStep/absRun`.
`Model.lean` : the code as it is (writer, reader state machine, strip_tif).
-/
namespace TD.C05

/-- **writer_layout.** For every valid layout (TIF off or normal), every list of logical records made of bytes, and —
with TIF markers — a file shorter than 2^32 bytes, `FileWrite(...)`, `write(r)` for every record and `close()` produce
exactly the LIS-79 encoding of the records (header length/attributes with successor and predecessor bits, trailer fields
with the running record number, the file number, the checksum; TIF markers with type/previous/next and the two EOF
markers), and the value returned by the i-th `write` is the sum of the sizes of the records before it. -/
theorem writer_layout (L : Layout) (rs : List Bytes) (hL : L.Valid) (hbe : L.tif ≠ .be)
    (hb : ∀ r ∈ rs, ∀ x ∈ r, x < 256) (hsz : L.tif = .le → fileSize L rs < 4294967296) :
    writeFile (L.tif != .off) L.prMax L.hasRec L.fileNum L.hasChk rs
      = .ok (encode L rs, (List.range rs.length).map (tellOf L rs)) := by
  obtain ⟨w0, w1, e0, e1, o1, i1, hbound⟩ := writeRecs_spec L rs hL hbe hb hsz
  unfold writeFile
  rw [e0]; simp only []
  rw [e1]; simp only []
  rw [close_spec L hbe w1 _ i1 hbound, o1]
  rfl

/-- the hypotheses of `writer_layout` are satisfiable by a non-trivial case: PR length 12 with a record number
trailer (payload 6), TIF on, a 13-byte record (three PRs) and a 2-byte record -/
example : let L : Layout := ⟨12, true, none, false, .le⟩
    L.Valid ∧ L.tif ≠ .be ∧ (L.tif = .le → fileSize L [[1,2,3,4,5,6,7,8,9,10,11,12,13],[1,2]] < 4294967296)
    ∧ tellOf L [[1,2,3,4,5,6,7,8,9,10,11,12,13],[1,2]] 1 = 67 := by decide +kernel


/-- **strip_tif_open.** `strip_tif` of a TIF-marked file that ends with `k` = 0 (not closed), 1 or 2 (closed)
end-of-file markers is the unmarked file of the same records; it reports one marker per physical record plus `k`. -/
theorem strip_tif_open (L : Layout) (rs : List Bytes) (k : Nat) (hL : L.Valid) (hle : L.tif = .le) (hk : k ≤ 2)
    (hne : rs ≠ []) (hr : ∀ r ∈ rs, r ≠ []) (hsz : (encodeN L rs k).length < 4294967296) :
    stripTif (encodeN L rs k) = .ok (encode L.noTif rs, numPRs L rs + k, (encode L.noTif rs).length) := by
  have hmp := maxPayload_pos hL
  have hlen : (tifChain 0 0 (recBlocks L 0 rs ++ List.replicate k (1, []))).length < 4294967296 := by
    rw [← encodeN_chain L hle rs k hk]; exact hsz
  rw [encodeN_chain L hle rs k hk]
  -- the first block exists
  obtain ⟨r, rs', hrs⟩ := List.exists_cons_of_ne_nil hne
  have hrne : r ≠ [] := hr r (by rw [hrs]; simp)
  have hcs : chunks L.maxPayload r ≠ [] := fun h => hrne ((chunks_eq_nil _ hmp r).mp h)
  obtain ⟨c, cs, hc⟩ := List.exists_cons_of_ne_nil hcs
  subst hrs
  obtain ⟨b0, rest, hbl⟩ : ∃ b0 rest, recBlocks L 0 (r :: rs') ++ List.replicate k (1, []) = (0, b0) :: rest :=
    ⟨_, _, by simp only [recBlocks, hc, chunkBlocks, List.cons_append, List.append_assoc]; rfl⟩
  have h2 : (b0 ++ (rest.map (·.2)).flatten, rest.length + 1, b0.length + (rest.map (·.2.length)).sum)
      = ((((0, b0) :: rest).map (·.2)).flatten, ((0, b0) :: rest).length, (((0, b0) :: rest).map (·.2.length)).sum) := rfl
  rw [hbl] at hlen ⊢
  rw [stripTif_chain b0 rest hlen, h2, ← hbl, encode_noTif]
  -- the `k` end-of-file blocks have empty bodies
  simp only [List.map_append, List.flatten_append, List.length_append, recBlocks_length, List.sum_append,
    List.length_replicate]
  simp
  rfl

/-- **strip_tif.** For a layout with (normal) TIF markers, at least one record, no empty record and a file shorter
than 2^32 bytes, `DeTif.strip_tif` applied to the TIF-marked encoding returns exactly the encoding of the same records
under the same layout without TIF markers; it reports one stripped marker per physical record plus the two EOF markers
and the size of the unmarked file as the number of bytes written. -/
theorem strip_tif_encode (L : Layout) (rs : List Bytes) (hL : L.Valid) (hle : L.tif = .le)
    (hne : rs ≠ []) (hr : ∀ r ∈ rs, r ≠ []) (hsz : fileSize L rs < 4294967296) :
    stripTif (encode L rs) = .ok (encode L.noTif rs, numPRs L rs + 2, (encode L.noTif rs).length) :=
  strip_tif_open L rs 2 hL hle (Nat.le_refl _) hne hr (by rw [← encode_length] at hsz; exact hsz)

/-- **writer_layout_open.** The bytes in the stream BEFORE `close()` (a legal state of a file being written, and how
the project's tests build in-memory files) are the encoding without the two TIF end-of-file markers. -/
theorem writer_layout_open (L : Layout) (rs : List Bytes) (hL : L.Valid) (hbe : L.tif ≠ .be)
    (hb : ∀ r ∈ rs, ∀ x ∈ r, x < 256) (hsz : L.tif = .le → fileSize L rs < 4294967296) :
    writeFileOpen (L.tif != .off) L.prMax L.hasRec L.fileNum L.hasChk rs
      = .ok (encodeN L rs 0, (List.range rs.length).map (tellOf L rs)) := by
  obtain ⟨w0, w1, e0, e1, o1, _, _⟩ := writeRecs_spec L rs hL hbe hb hsz
  unfold writeFileOpen
  rw [e0]; simp only []
  rw [e1]; simp only []
  rw [o1, encodeN, eofMarkersN, List.append_nil]

/-- **strip_tif (write tif rs) = write noTif rs**, on the writer model: stripping what the writer produced with TIF
markers gives byte for byte what the writer produces without them. -/
theorem strip_tif_write (L : Layout) (rs : List Bytes) (hL : L.Valid) (hle : L.tif = .le)
    (hne : rs ≠ []) (hr : ∀ r ∈ rs, r ≠ []) (hb : ∀ r ∈ rs, ∀ x ∈ r, x < 256)
    (hsz : fileSize L rs < 4294967296) :
    ∃ fTif fPlain tells tells' n w,
      writeFile true L.prMax L.hasRec L.fileNum L.hasChk rs = .ok (fTif, tells)
      ∧ writeFile false L.prMax L.hasRec L.fileNum L.hasChk rs = .ok (fPlain, tells')
      ∧ stripTif fTif = .ok (fPlain, n, w) := by
  have h1 := writer_layout L rs hL (by rw [hle]; intro h; cases h) hb (fun _ => hsz)
  have hL' : L.noTif.Valid := hL
  have h2 := writer_layout L.noTif rs hL' (by intro h; cases h) hb (by intro h; cases h)
  have e1 : (L.tif != TifMode.off) = true := by rw [hle]; rfl
  have e2 : (L.noTif.tif != TifMode.off) = false := rfl
  rw [e1] at h1
  rw [e2] at h2
  exact ⟨_, _, _, _, _, _, h1, h2, strip_tif_encode L rs hL hle hne hr hsz⟩

/-- hypotheses of `strip_tif_encode` are satisfiable (record-number and checksum trailers, two records, 3+1 PRs) -/
example : let L : Layout := ⟨14, true, none, true, .le⟩
    let rs : List Bytes := [[1,2,3,4,5,6,7,8,9,10,11,12,13],[1,2]]
    L.Valid ∧ L.tif = .le ∧ rs ≠ [] ∧ (∀ r ∈ rs, r ≠ []) ∧ fileSize L rs < 4294967296 ∧ numPRs L rs = 4 := by decide +kernel


/-- **read_refines** (simulation, unbounded in records, lengths, layout and history length).
Take any valid layout (all trailer combinations, TIF off / normal / byte-reversed), any list of non-empty logical
records, and the LIS-79 encoding `encode L rs` of it. For EVERY history of operations
`read n | skip n | read rest (n<0) | skip rest | skipToNextLr | seekLr(position of record i) | tellLr`
the replies of the reader model (`PhysRecRead` through `File.FileRead`, constructed on the file with `pad_modulo = 0` and
any `keepGoing` — `Cfg.plain` is `FileRead(f)`) are exactly the
replies of the abstract semantics on `(records, cursor = (record, offset))`: bytes are the bytes of the records,
counts are the numbers of bytes left, positions are the sums of the record sizes, `None` comes once at the end of a
record, operations at end of file raise the EOF error — and no other exception ever occurs.
Hypotheses: records non-empty; a TIF file has at least one record; byte-reversed TIF excludes the two first `next`
words 0x100 and 0x10000 whose byte orders are indistinguishable; the file is shorter than 2^32 − 24 bytes.
The proof is `init_rel` (invariant holds initially), `step_sim` (every operation preserves the invariant `Rel` and
answers like the abstract step) and induction over the history (`run_sim`). -/
theorem read_refines (cfg : Cfg) [Pad0 cfg] (L : Layout) (rs : List Bytes) (ops : List Op)
    (hL : L.Valid) (hr : ∀ r ∈ rs, r ≠ []) (hne : L.tif ≠ .off → rs ≠ [])
    (hbe : L.tif = .be → firstNext L rs ≠ 0x100 ∧ firstNext L rs ≠ 0x10000)
    (hsz : fileSize L rs + 24 < 4294967296) (hops : HistOK rs ops) :
    run cfg (encode L rs) (some (Rd.new (encode L rs))) (ops.map (concOp L rs)) = absRun L rs AState.init ops := by
  have g : Good L rs := ⟨hL, hr, by unfold fileSize at hsz; omega⟩
  exact run_sim (cfg := cfg) g ops _ _ (init_rel g hne hbe) hops

/-- **seek_any_order.** After ANY history (any interleaving of reads, skips, seeks in any order), seeking to the reported
start of record `i`, reading it whole and asking for the position answers: that position, exactly the bytes of record
`i`, that position. -/
theorem seek_any_order (cfg : Cfg) [Pad0 cfg] (L : Layout) (rs : List Bytes) (ops : List Op) (i : Nat)
    (hL : L.Valid) (hr : ∀ r ∈ rs, r ≠ []) (hne : L.tif ≠ .off → rs ≠ [])
    (hbe : L.tif = .be → firstNext L rs ≠ 0x100 ∧ firstNext L rs ≠ 0x10000)
    (hsz : fileSize L rs + 24 < 4294967296) (hops : HistOK rs ops) (hi : i < rs.length) :
    (run cfg (encode L rs) (some (Rd.new (encode L rs)))
        ((ops ++ ([Op.seek i, Op.read (-1), Op.tell] : List Op)).map (concOp L rs))).drop ops.length
      = [.pos (tellOf L rs i), .bytes (recAt rs i), .pos (tellOf L rs i)] := by
  have hops' : HistOK rs (ops ++ ([Op.seek i, Op.read (-1), Op.tell] : List Op)) := by
    intro op hop j hj
    rcases List.mem_append.mp hop with h | h
    · exact hops op h j hj
    · subst hj
      simp only [List.mem_cons, Op.seek.injEq, reduceCtorEq, List.mem_nil_iff, or_false] at h
      omega
  rw [read_refines cfg L rs _ hL hr hne hbe hsz hops', absRun_append]
  have hl := absRun_length L rs ops AState.init
  rw [← hl, List.drop_left]
  exact abs_seek_read L rs _ i hi (hr _ (by unfold recAt; simp [hi]))

/-- **pad_tie_order** (`ret_padding_options_with_max_records` + `best_physical_record_pad_settings`): the options are
scanned in the order (0,F) (0,T) (2,F) (2,T) (4,F) (4,T) and among those with the maximal count the FIRST is chosen —
so whenever the first option counts at least one record and none counts more, the first option is returned. -/
theorem pad_tie_order (o : Nat × Bool) (c : Nat) (t : List ((Nat × Bool) × Nat)) (hc : 0 < c)
    (h : ∀ x ∈ t, x.2 ≤ c) : pickBest ((o, c) :: t) = some o :=
  best_first o c t hc h

/-- **scan_counts_records**: scanning (`scan_file_no_output` / `genPr`) a file written without padding with
`pad_modulo = 0` (any `keepGoing`) counts exactly its physical records, up to `pr_limit`. -/
theorem scan_counts_records (cfg : Cfg) [Pad0 cfg] (L : Layout) (rs : List Bytes) (limit : Nat)
    (hL : L.Valid) (hr : ∀ r ∈ rs, r ≠ []) (hne : L.tif ≠ .off → rs ≠ [])
    (hbe : L.tif = .be → firstNext L rs ≠ 0x100 ∧ firstNext L rs ≠ 0x10000)
    (hsz : fileSize L rs + 24 < 4294967296) :
    scanFile cfg (encode L rs) limit = if limit = 0 then numPRs L rs else min limit (numPRs L rs) := by
  have g : Good L rs := ⟨hL, hr, by unfold fileSize at hsz; omega⟩
  have hrel := seek_sim g (init_rel g hne hbe) 0 (Nat.zero_le _)
  have ht0 : tellOf L rs 0 = 0 := rfl
  rw [ht0] at hrel
  obtain ⟨_, _, _, hst⟩ := hrel
  have hat : AtHead cfg L (encode L rs) (numPRs L rs) (seekLr (Rd.new (encode L rs)) 0).1 := by
    simpa using atHead_start (cfg := cfg) g.valid hst
  have hfuel : numPRs L rs < (encode L rs).length + 1 := by
    rw [encode_length]; unfold fileSize tellOf
    have := numPRs_le_size L rs
    simp only [List.take_length]; omega
  unfold scanFile
  rw [genPrLoop_ok (cfg := cfg) g.valid limit _ _ _ 0 hat hfuel (by omega)]
  simp

/-- **pad_reader_refines_cond** — the same for every `pr_limit` (0 = scan the whole file) under the explicit hypothesis
that no padding option makes the scan count more records than the file has (within the limit). The hypothesis cannot be
dropped: the scan is a heuristic, a payload that looks like physical records after a mis-consumed byte can make a
padding option count more (the full statement "for every unpadded written file the choice is (0, False)" is false for
`pr_limit = 0` and for `pr_limit` above the number of records). -/
theorem pad_reader_refines_cond (L : Layout) (rs : List Bytes) (ops : List Op) (limit : Nat)
    (hL : L.Valid) (hr : ∀ r ∈ rs, r ≠ []) (hrs : rs ≠ [])
    (hbe : L.tif = .be → firstNext L rs ≠ 0x100 ∧ firstNext L rs ≠ 0x10000)
    (hsz : fileSize L rs + 24 < 4294967296) (hops : HistOK rs ops)
    (hle : ∀ o ∈ padOptions, scanFile ⟨true, o.1, o.2⟩ (encode L rs) limit
        ≤ (if limit = 0 then numPRs L rs else min limit (numPRs L rs))) :
    bestPad (encode L rs) limit = some (0, false)
    ∧ ∃ cfg, bestReaderCfg (encode L rs) limit = some cfg
        ∧ run cfg (encode L rs) (some (Rd.new (encode L rs))) (ops.map (concOp L rs)) = absRun L rs AState.init ops := by
  have g : Good L rs := ⟨hL, hr, by unfold fileSize at hsz; omega⟩
  have hb := bestPad_first _ limit _ (by have := numPRs_pos g hrs; split <;> omega)
    (scan_counts_records ⟨true, 0, false⟩ L rs limit hL hr (fun _ => hrs) hbe hsz) hle
  refine ⟨hb, ⟨true, 0, false⟩, by unfold bestReaderCfg; rw [hb]; rfl, ?_⟩
  exact read_refines ⟨true, 0, false⟩ L rs ops hL hr (fun _ => hrs) hbe hsz hops

/-- **pad_reader_refines** — the reader obtained through `file_read_with_best_physical_record_pad_settings(f, id,
pr_limit)` on an unpadded written file is `FileRead(f, id, keepGoing=True, pad_modulo=0, pad_non_null=False)` and
answers every history like the abstract semantics, provided `0 < pr_limit ≤ number of physical records` (then no padding
option can count more than `pr_limit` records, and (0, False) is first among the tied best options). -/
theorem pad_reader_refines (L : Layout) (rs : List Bytes) (ops : List Op) (limit : Nat)
    (hL : L.Valid) (hr : ∀ r ∈ rs, r ≠ []) (hne : L.tif ≠ .off → rs ≠ [])
    (hbe : L.tif = .be → firstNext L rs ≠ 0x100 ∧ firstNext L rs ≠ 0x10000)
    (hsz : fileSize L rs + 24 < 4294967296) (hops : HistOK rs ops)
    (hl : 0 < limit) (hn : limit ≤ numPRs L rs) :
    bestPad (encode L rs) limit = some (0, false)
    ∧ ∃ cfg, bestReaderCfg (encode L rs) limit = some cfg
        ∧ run cfg (encode L rs) (some (Rd.new (encode L rs))) (ops.map (concOp L rs)) = absRun L rs AState.init ops := by
  have hrs : rs ≠ [] := by intro h; subst h; simp [numPRs] at hn; omega
  refine pad_reader_refines_cond L rs ops limit hL hr hrs hbe hsz hops (fun o _ => ?_)
  rw [if_neg (by omega), Nat.min_eq_left hn]
  exact scanFile_le_limit _ _ _ hl

/-- hypotheses of `pad_reader_refines` are satisfiable (5 physical records, pr_limit 5), and the model computes the
choice: all six options tie at 5 records and (0, False) is returned -/
example : let L : Layout := ⟨8, false, none, false, .off⟩
    let rs : List Bytes := [[1,2,3,4],[5,6,7,8,9,10,11,12],[13,14,15,16],[17]]
    numPRs L rs = 5 ∧ (scanAll true (encode L rs) 5).map (·.2) = [5, 5, 5, 5, 5, 5]
    ∧ bestPad (encode L rs) 5 = some (0, false) := by decide +kernel

/-- the hypotheses of `read_refines` are satisfiable by a non-trivial instance: reversed TIF, record-number and
file-number trailers, maximum payload 3, records of 7 and 2 bytes, a history that reads across PR boundaries, seeks
backwards and runs into the end of the file -/
example : let L : Layout := ⟨11, true, some 7, false, .be⟩
    let rs : List Bytes := [[1,2,3,4,5,6,7],[8,9]]
    let ops : List Op := [.read 2, .skip 3, .read 5, .read 1, .tell, .seek 1, .next, .read 1, .seek 0, .read (-1)]
    L.Valid ∧ (∀ r ∈ rs, r ≠ []) ∧ (L.tif ≠ .off → rs ≠ []) ∧
    (L.tif = .be → firstNext L rs ≠ 0x100 ∧ firstNext L rs ≠ 0x10000) ∧ fileSize L rs + 24 < 4294967296
    ∧ HistOK rs ops
    ∧ absRun L rs AState.init ops = [.bytes [1,2], .count 3, .bytes [6,7], .none, .pos 0, .pos 67, .count 2,
        .eofError, .pos 0, .bytes [1,2,3,4,5,6,7]] := by
  refine ⟨by decide +kernel, by decide +kernel, by decide +kernel, by decide +kernel, by decide +kernel, ?_, by decide +kernel⟩
  intro op hop i hi
  subst hi
  simp only [List.mem_cons, Op.seek.injEq, reduceCtorEq, List.mem_nil_iff, or_false, false_or] at hop
  rcases hop with h | h <;> (subst h; decide)

/-- the exclusion for byte-reversed TIF markers is necessary: with a first marker `next = 0x100` (first PR of 244 bytes)
the constructor takes the file for a normal TIF file and the second marker is refused — the model's replies differ
from the abstract ones. (The second excluded value 0x10000 is finding F22: it needs a 65 524 byte PR and is shown
on the real code by the harness.) -/
example : let L : Layout := ⟨244, false, none, false, .be⟩
    let rs : List Bytes := [List.replicate 240 65, [1, 2]]
    firstNext L rs = 0x100 ∧
    run Cfg.plain (encode L rs) (some (Rd.new (encode L rs))) ([.read (-1), .read (-1)].map (concOp L rs))
      ≠ absRun L rs AState.init [.read (-1), .read (-1)] := by
  decide +kernel

end TD.C05
