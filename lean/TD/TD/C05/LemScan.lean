import TD.C05.LemInit
import TD.C05.LemStrip
/-! C05: the padding-settings heuristic of File.py on a file written without padding. -/
namespace TD.C05

variable {cfg : Cfg} [Pad0 cfg]

/-! ### tie order of `ret_padding_options_with_max_records` / `best_physical_record_pad_settings` -/

theorem foldl_max_le (t : List ((Nat × Bool) × Nat)) : ∀ (a : Nat), (∀ x ∈ t, x.2 ≤ a) →
    t.foldl (fun a x => max a x.2) a = a := by
  induction t with
  | nil => intro a _; rfl
  | cons x t ih =>
    intro a h
    have hx := h x (by simp)
    simp only [List.foldl_cons, Nat.max_eq_left hx]
    exact ih a (fun y hy => h y (List.mem_cons_of_mem _ hy))

/-- the first option wins every tie: if no option counts more records than the first and the first counts at least
one, the first is returned -/
theorem best_first (o : Nat × Bool) (c : Nat) (t : List ((Nat × Bool) × Nat)) (hc : 0 < c) (h : ∀ x ∈ t, x.2 ≤ c) :
    pickBest ((o, c) :: t) = some o := by
  have hmx : ((o, c) :: t).foldl (fun a x => max a x.2) 0 = c := by
    simp only [List.foldl_cons, Nat.zero_max]
    exact foldl_max_le t c h
  unfold pickBest retMax
  simp only [hmx, List.filter_cons, decide_true, if_true, List.map_cons]
  simp [List.lookup, hc]

/-! ### the scan never counts more than `pr_limit` -/

theorem scanFile_le_limit (c : Cfg) (f : Bytes) (limit : Nat) (hl : 0 < limit) : scanFile c f limit ≤ limit := by
  unfold scanFile
  split
  · rename_i n h
    -- no `Pad0` here: the loop returns as soon as the count reaches the limit
    have : ∀ (fuel : Nat) (s : Rd) (cnt n : Nat), cnt < limit → genPrLoop c f fuel s cnt limit = .ok n → n ≤ limit := by
      intro fuel
      induction fuel with
      | zero => intro s cnt n _ h; simp [genPrLoop] at h
      | succ k ih =>
        intro s cnt n hc h
        unfold genPrLoop at h
        split at h
        · simp only [Except.ok.injEq] at h; omega
        · split at h
          · simp at h
          · split at h
            · simp only [Except.ok.injEq] at h; omega
            · split at h
              · simp at h
              · split at h
                · simp only [Except.ok.injEq] at h; omega
                · exact ih _ _ _ (by omega) h
    exact this _ _ 0 n hl h
  · exact Nat.zero_le _

theorem numPRs_cons (L : Layout) (r : Bytes) (rs : List Bytes) :
    numPRs L (r :: rs) = (chunks L.maxPayload r).length + numPRs L rs := by
  simp [numPRs]

/-- before a `_readHead` of the scan loop with `n` physical records to come -/
def AtHead (cfg : Cfg) (L : Layout) (f : Bytes) (n : Nat) (s : Rd) : Prop :=
  s.isEOF = false ∧ ∃ s2, readHead cfg f s = .ok s2 ∧
    match n with
    | 0 => s2.isEOF = true
    | n + 1 => ∃ z, n = z.cs.length + numPRs L z.rrs ∧ 0 < z.c.length ∧ z.j = 0 ∧ CInside L f z s2

omit [Pad0 cfg] in
theorem atHead_start {L : Layout} (hL : L.Valid) {f : Bytes} {st : ES} {rrs : List Bytes} {s : Rd}
    (h : CStart L f st rrs s) : AtHead cfg L f (numPRs L rrs) s := by
  have hmp := maxPayload_pos hL
  refine ⟨h.eof, ?_⟩
  cases rrs with
  | nil =>
    obtain ⟨s', e1, hp⟩ := headAtEnd (cfg := cfg) h
    exact ⟨s', e1, hp.eof⟩
  | cons r t =>
    obtain ⟨c, cs, s2, hch, e1, hin, _⟩ := openRecC (cfg := cfg) hL h
    have hcne := (chunks_all L.maxPayload hmp _ c (by rw [hch]; simp)).1
    rw [numPRs_cons, hch, List.length_cons, Nat.add_right_comm]
    exact ⟨s2, e1, ⟨st, [], c, cs, 0, t⟩, rfl, List.length_pos_iff.mpr hcne, rfl, hin⟩

/-- the body of a `genPr` iteration from the start of a chunk: the whole payload is skipped, the trailer read -/
theorem genPrBody_ok {L : Layout} (hL : L.Valid) {f : Bytes} {z : Z} {s : Rd} (h : CInside L f z s) (hj : z.j = 0)
    (hc : 0 < z.c.length) :
    ∃ s1, genPrBody cfg f s = .ok s1 ∧ AtHead cfg L f (z.cs.length + numPRs L z.rrs) s1 := by
  obtain ⟨e1, h1⟩ := advanceZ h (.cnt 0) z.c.length (by omega)
  have hld : s.hasLd = true := by
    unfold Rd.hasLd; rw [h.ldLen, h.ldIndex, hj]; simp [hc]
  have hskip : skipLrBytes cfg f s (s.ldLen : Int)
      = .ok ({ s with ldIndex := s.ldIndex + z.c.length, ldTell := s.ldTell + z.c.length, pos := s.pos + z.c.length },
             z.c.length) := by
    unfold skipLrBytes preamble
    simp only [h.eof, Bool.false_eq_true, if_false, h.mrh, hld, not_true_eq_false]
    unfold readOrSkip
    have hnn : ¬ ((s.ldLen : Int) < 0) := by omega
    simp only [h.eof, Bool.false_eq_true, if_false, hnn, Int.toNat_natCast]
    unfold sizedLoop
    rw [h.ldLen, h.ldIndex, hj]
    simp only [hc, if_true, Nat.sub_zero, Nat.le_refl, e1]
    have : ((z.c.drop z.j).take z.c.length).length = z.c.length := by
      rw [hj, List.drop_zero, List.take_length]
    simp [Acc.app, h.ldLen, h.eof, h.ldIndex, hj, h.mrh]
  have hj1 : ({ z with j := z.j + z.c.length } : Z).j = ({ z with j := z.j + z.c.length } : Z).c.length := by
    simp only [hj, Nat.zero_add]
  unfold genPrBody
  rw [hskip]
  cases hcs : z.cs with
  | nil =>
    obtain ⟨s1, e2, h2, _⟩ := finishRec (cfg := cfg) h1 hj1 hcs
    exact ⟨s1, e2, by simpa using atHead_start (cfg := cfg) hL h2⟩
  | cons c2 cs2 =>
    obtain ⟨s1, s2, e2, _, e4, h3, _, _, heof1⟩ := nextChunk (cfg := cfg) hL h1 hj1 c2 cs2 hcs
    rw [List.length_cons, Nat.add_right_comm]
    exact ⟨s1, e2, heof1, s2, e4, _, rfl, List.length_pos_iff.mpr (h.csz c2 (by rw [hcs]; simp)).1, rfl, h3⟩

theorem genPrLoop_ok {L : Layout} (hL : L.Valid) {f : Bytes} (limit : Nat) : ∀ (n fuel : Nat) (s : Rd) (cnt : Nat),
    AtHead cfg L f n s → n < fuel → (limit = 0 ∨ cnt < limit) →
    genPrLoop cfg f fuel s cnt limit = .ok (if limit = 0 then cnt + n else min limit (cnt + n)) := by
  intro n
  induction n with
  | zero =>
    intro fuel s cnt ⟨he, s2, e1, e2⟩ hf hl
    obtain ⟨k, rfl⟩ : ∃ k, fuel = k + 1 := ⟨fuel - 1, by omega⟩
    unfold genPrLoop
    simp only [he, Bool.false_eq_true, if_false, e1, e2, if_true, Nat.add_zero]
    split
    · rfl
    · congr 1; omega
  | succ n ih =>
    intro fuel s cnt ⟨he, s2, e1, z, hn, hc, hj, hin⟩ hf hl
    obtain ⟨k, rfl⟩ : ∃ k, fuel = k + 1 := ⟨fuel - 1, by omega⟩
    obtain ⟨s1, e2, hat1⟩ := genPrBody_ok (cfg := cfg) hL hin hj hc
    rw [← hn] at hat1
    unfold genPrLoop
    simp only [he, Bool.false_eq_true, if_false, e1, hin.eof, e2]
    by_cases hstop : limit ≠ 0 ∧ cnt + 1 ≥ limit
    · rw [if_pos hstop, if_neg hstop.1]
      congr 1; omega
    · rw [if_neg hstop, ih k s1 (cnt + 1) hat1 (by omega) (by omega)]
      split
      · congr 1; omega
      · congr 2; omega

theorem numPRs_le_size (L : Layout) : ∀ (rs : List Bytes), numPRs L rs ≤ (rs.map (recSize L)).sum := by
  intro rs; induction rs with
  | nil => exact Nat.le_refl _
  | cons r rs ih =>
    rw [numPRs_cons]
    simp only [List.map_cons, List.sum_cons]
    have h2 : (chunks L.maxPayload r).length ≤ recSize L r := sum_ge_length L (chunks L.maxPayload r)
    omega

/-- the options are tried in the order of `padOptions` and the FIRST of the best ones is taken -/
theorem bestPad_first (f : Bytes) (limit c : Nat) (hc : 0 < c) (h0 : scanFile ⟨true, 0, false⟩ f limit = c)
    (hle : ∀ o ∈ padOptions, scanFile ⟨true, o.1, o.2⟩ f limit ≤ c) : bestPad f limit = some (0, false) := by
  unfold bestPad scanAll padOptions
  rw [List.map_cons, h0]
  apply best_first (0, false) _ _ hc
  intro x hx
  obtain ⟨o, ho, rfl⟩ := List.mem_map.mp hx
  exact hle o (List.mem_cons_of_mem _ ho)

theorem numPRs_pos {L : Layout} {rs : List Bytes} (g : Good L rs) (hrs : rs ≠ []) : 0 < numPRs L rs := by
  have hmp := maxPayload_pos g.valid
  obtain ⟨r, t, rfl⟩ := List.exists_cons_of_ne_nil hrs
  have : chunks L.maxPayload r ≠ [] := fun h0 => g.rne r (by simp) ((chunks_eq_nil _ hmp r).mp h0)
  have : 0 < (chunks L.maxPayload r).length := List.length_pos_iff.mpr this
  rw [numPRs_cons]; omega

end TD.C05
