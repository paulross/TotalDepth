import TD.C05.LemSim
/-! C05: the reader's constructor on an encoded file (TIF detection); abstract histories. -/
namespace TD.C05

variable {cfg : Cfg} [Pad0 cfg]

/-- `next` word of the first TIF marker of a file -/
def firstNext (L : Layout) : List Bytes → Nat
  | [] => 0
  | r :: _ => 12 + prLenOf L (r.take L.maxPayload)

theorem tifInit_eq (f : Bytes) : ∃ h r, Tif.init f = ⟨h, r, 0, 0, 0, some 0⟩ := by
  unfold Tif.init
  simp only []
  split
  · exact ⟨_, _, rfl⟩
  · split
    · exact ⟨_, _, rfl⟩
    · split <;> exact ⟨_, _, rfl⟩

theorem unpack3_type0 (a b : Nat) (t : Bytes) (ty bk nx : Nat)
    (h : unpack3 false (a :: b :: t) = some (ty, bk, nx)) (h0 : ty = 0) : a = 0 ∧ b = 0 := by
  unfold unpack3 at h
  split at h
  · rename_i heq
    simp only [List.cons.injEq] at heq
    obtain ⟨ha, hb, _⟩ := heq
    simp only [Bool.false_eq_true, if_false, Option.some.injEq, Prod.mk.injEq, le32] at h
    subst ha hb
    omega
  · simp at h

/-- the encoding of a non-empty file starts with the first PR -/
theorem encode_cons (L : Layout) (hL : L.Valid) (r : Bytes) (rs : List Bytes) (hr : r ≠ []) :
    ∃ last R, encode L (r :: rs) = encPR L ES.init true last (r.take L.maxPayload) ++ R := by
  have hmp := maxPayload_pos hL
  unfold encode
  simp only [encRecs, encRec]
  rw [chunks_cons _ hmp r hr]
  simp only [encChunks, List.append_assoc]
  exact ⟨_, _, rfl⟩

theorem tifInit_some {f : Bytes} {ty bk nx : Nat} (h : unpack3 false (rdBytes f 0 12) = some (ty, bk, nx)) :
    (Tif.init f).hasTif = decide (ty = 0 ∧ bk = 0)
    ∧ (Tif.init f).isReversed = decide ((ty = 0 ∧ bk = 0) ∧ nx > 0xFFFF + 12) := by
  unfold Tif.init
  simp only [h]
  by_cases h1 : ty = 0 ∧ bk = 0
  · by_cases h2 : nx > 0xFFFF + 12 <;> simp [h1, h2]
  · simp [h1]

theorem tifInit_none {f : Bytes} (h : unpack3 false (rdBytes f 0 12) = none) :
    (Tif.init f).hasTif = false ∧ (Tif.init f).isReversed = false := by
  unfold Tif.init
  simp only [h, and_self]

/-- 0x100 and 0x10000 are each other's byte swap: read in the wrong order both stay below `0xFFFF + 12` -/
theorem swapped_next_gt (n : Nat) (h0 : 0 < n) (h : n < 65548) (h1 : n ≠ 0x100) (h2 : n ≠ 0x10000) :
    le32 (n / 16777216 % 256) (n / 65536 % 256) (n / 256 % 256) (n % 256) > 0xFFFF + 12 := by
  unfold le32; omega

theorem tifInit_mode (L : Layout) (hL : L.Valid) (rs : List Bytes) (hrne : ∀ r ∈ rs, r ≠ [])
    (hne : L.tif ≠ .off → rs ≠ [])
    (hbe : L.tif = .be → firstNext L rs ≠ 0x100 ∧ firstNext L rs ≠ 0x10000) :
    TifMode' L (Tif.init (encode L rs)) := by
  unfold TifMode'
  cases rs with
  | nil =>
    have hoff : L.tif = .off := Classical.byContradiction (fun h => hne h rfl)
    have : encode L [] = [] := by simp [encode, encRecs, eofMarkers, tifMarker, hoff]
    rw [this, hoff]
    exact tifInit_none rfl
  | cons r rs' =>
    have hmp := maxPayload_pos hL
    obtain ⟨last, R, he⟩ := encode_cons L hL r rs' (hrne r (by simp))
    have hpl := prLenOf_lt L hL (r.take L.maxPayload) (by rw [List.length_take]; omega)
    have hc1 : 1 ≤ (r.take L.maxPayload).length := by
      have := List.length_pos_iff.mpr (hrne r (by simp))
      rw [List.length_take]; omega
    have hX : ∃ t, prBody L ES.init true last (r.take L.maxPayload) ++ R
        = (prLenOf L (r.take L.maxPayload) / 256 % 256) :: (prLenOf L (r.take L.maxPayload) % 256) :: t :=
      ⟨_, by rw [prBody_split]; rfl⟩
    rw [he, encPR, List.append_assoc]
    generalize prBody L ES.init true last (r.take L.maxPayload) ++ R = X at *
    cases htif : L.tif with
    | off =>
      -- no marker: the file starts with the PR length, whose two bytes are not both 0
      cases hu : unpack3 false (rdBytes (tifMarker .off 0 ES.init.back (ES.init.pos + 12 + prLenOf L (r.take L.maxPayload)) ++ X) 0 12) with
      | none => exact tifInit_none hu
      | some x =>
        obtain ⟨ty, bk, nx⟩ := x
        obtain ⟨h1, h2⟩ := tifInit_some hu
        obtain ⟨t, rfl⟩ := hX
        have hn : ¬ (ty = 0 ∧ bk = 0) := fun ⟨h0, _⟩ => by
          have := unpack3_type0 _ _ (t.take 10) ty bk nx hu h0
          unfold prLenOf at this hpl
          omega
        rw [h1, h2]
        exact ⟨decide_eq_false hn, decide_eq_false (fun h => hn h.1)⟩
    | le =>
      have e := rdBytes_of_drop (f := tifMarker .le 0 ES.init.back (ES.init.pos + 12 + prLenOf L (r.take L.maxPayload)) ++ X)
        (pos := 0) (d := u32le 0 ++ u32le 0 ++ u32le (0 + 12 + prLenOf L (r.take L.maxPayload))) rfl
      obtain ⟨h1, h2⟩ := tifInit_some (e ▸ unpack3_le 0 0 _ (by omega) (by omega) (by omega))
      rw [h1, h2]
      exact ⟨rfl, by simp only [reduceCtorEq, decide_false, decide_eq_false_iff_not]; omega⟩
    | be =>
      obtain ⟨hb1, hb2⟩ := hbe htif
      have e := rdBytes_of_drop (f := tifMarker .be 0 ES.init.back (ES.init.pos + 12 + prLenOf L (r.take L.maxPayload)) ++ X)
        (pos := 0) (d := u32be 0 ++ u32be 0 ++ u32be (0 + 12 + prLenOf L (r.take L.maxPayload))) rfl
      have hu : unpack3 false (u32be 0 ++ u32be 0 ++ u32be (0 + 12 + prLenOf L (r.take L.maxPayload)))
          = some (0, 0, _) := rfl
      obtain ⟨h1, h2⟩ := tifInit_some (e ▸ hu)
      rw [h1, h2]
      have := swapped_next_gt (0 + 12 + prLenOf L (r.take L.maxPayload)) (by omega) (by omega)
        (by simpa only [firstNext, Nat.zero_add] using hb1) (by simpa only [firstNext, Nat.zero_add] using hb2)
      exact ⟨rfl, by rw [decide_eq_true ⟨⟨rfl, rfl⟩, this⟩]; rfl⟩

theorem init_rel {L : Layout} {rs : List Bytes} (g : Good L rs) (hne : L.tif ≠ .off → rs ≠ [])
    (hbe : L.tif = .be → firstNext L rs ≠ 0x100 ∧ firstNext L rs ≠ 0x10000) :
    Rel L rs (encode L rs) AState.init (Rd.new (encode L rs)) := by
  have htm := tifInit_mode L g.valid rs g.rne hne hbe
  obtain ⟨h, r, ht⟩ := tifInit_eq (encode L rs)
  refine ⟨rfl, htm, Nat.zero_le _, ?_⟩
  have h0 : stAt L rs 0 = ES.init := rfl
  have hd := drop_tell L rs 0
  have ht0 : tellOf L rs 0 = 0 := rfl
  rw [ht0] at hd
  refine ⟨rfl, hd, rfl, rfl, by simp [Rd.new, Rd.hasSuccessor, bitSet], Nat.le_refl _, htm, ?_, stAt_backLe L rs 0,
    fits_at g 0, fun r hr => g.rne r (List.mem_of_mem_drop hr)⟩
  intro _
  rw [show (Rd.new (encode L rs)).tif = _ from ht]
  exact ⟨fun x hx => by rw [← Option.some.inj hx]; rfl, fun hp => by simp [Tif.hasPrevious] at hp⟩

/-- state of the abstract reader after a history -/
def absFinal (L : Layout) (rs : List Bytes) : AState → List Op → AState
  | a, [] => a
  | a, op :: ops => absFinal L rs (absStep L rs a op).1 ops

theorem absRun_append (L : Layout) (rs : List Bytes) : ∀ (o1 o2 : List Op) (a : AState),
    absRun L rs a (o1 ++ o2) = absRun L rs a o1 ++ absRun L rs (absFinal L rs a o1) o2 := by
  intro o1
  induction o1 with
  | nil => intro o2 a; rfl
  | cons op o1 ih => intro o2 a; simp only [List.cons_append, absRun, absFinal, ih]

theorem absRun_length (L : Layout) (rs : List Bytes) : ∀ (ops : List Op) (a : AState),
    (absRun L rs a ops).length = ops.length := by
  intro ops
  induction ops with
  | nil => intro a; rfl
  | cons op ops ih => intro a; simp [absRun, ih]

/-- whatever happened before: seek to record `i`, read it whole, ask for the position -/
theorem abs_seek_read (L : Layout) (rs : List Bytes) (a : AState) (i : Nat) (hi : i < rs.length)
    (hne : recAt rs i ≠ []) :
    absRun L rs a [.seek i, .read (-1), .tell]
      = [.pos (tellOf L rs i), .bytes (recAt rs i), .pos (tellOf L rs i)] := by
  have hlen : 0 < (recAt rs i).length := List.length_pos_iff.mpr hne
  have hnot : ¬ (0 ≥ (recAt rs i).length) := by omega
  simp [absRun, absStep, absRead, openRec, hi, hnot]

/-- what a history may contain: seeks go to the reported start position of a record (or to the end position) -/
def HistOK (rs : List Bytes) (ops : List Op) : Prop := ∀ op ∈ ops, ∀ i, op = .seek i → i ≤ rs.length

end TD.C05
