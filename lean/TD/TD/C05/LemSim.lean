import TD.C05.LemLoop
/-! C05: simulation between the abstract reader and the reader model on an encoded file. -/
namespace TD.C05

variable {cfg : Cfg} [Pad0 cfg]

/-- encoder state at the start of record `i` -/
def stAt (L : Layout) (rs : List Bytes) (i : Nat) : ES := stAfterRecs L ES.init (rs.take i)

theorem stAt_pos (L : Layout) (rs : List Bytes) (i : Nat) : (stAt L rs i).pos = tellOf L rs i := by
  unfold stAt tellOf; rw [stAfterRecs_pos]; simp [ES.init]

theorem drop_recAt (rs : List Bytes) (i : Nat) (h : i < rs.length) : rs.drop i = recAt rs i :: rs.drop (i + 1) := by
  rw [List.drop_eq_getElem_cons h]
  congr 1
  unfold recAt; simp [h]

theorem stAt_succ (L : Layout) (rs : List Bytes) (i : Nat) (h : i < rs.length) :
    stAt L rs (i + 1) = stAfterRec L (stAt L rs i) (recAt rs i) := by
  unfold stAt
  have : rs.take (i + 1) = rs.take i ++ [recAt rs i] := by
    rw [List.take_succ_eq_append_getElem h]; congr 2; unfold recAt; simp [h]
  rw [this, stAfterRecs_append]; rfl

theorem stAt_end (L : Layout) (rs : List Bytes) (i : Nat) :
    stAfterRecs L (stAt L rs i) (rs.drop i) = stAfterRecs L ES.init rs := by
  unfold stAt; rw [← stAfterRecs_append, List.take_append_drop]

theorem stAt_backLe (L : Layout) (rs : List Bytes) (i : Nat) : (stAt L rs i).BackLe :=
  stAfterRecs_backLe L _ _ (Nat.le_refl 0)

theorem drop_tell (L : Layout) (rs : List Bytes) (i : Nat) :
    (encode L rs).drop (tellOf L rs i) = tailStart L (stAt L rs i) (rs.drop i) := by
  unfold encode tailStart
  rw [stAt_end]
  have e : encRecs L ES.init rs = encRecs L ES.init (rs.take i) ++ encRecs L (stAt L rs i) (rs.drop i) := by
    conv => lhs; rw [← List.take_append_drop i rs]
    rw [encRecs_append]; rfl
  have hl : (encRecs L ES.init (rs.take i)).length = tellOf L rs i := by rw [encRecs_length]; rfl
  rw [e, List.append_assoc, ← hl, List.drop_left]

/-- `fits` leaves room for the two EOF markers below 2^32 -/
structure Good (L : Layout) (rs : List Bytes) : Prop where
  valid : L.Valid
  rne : ∀ r ∈ rs, r ≠ []
  fits : tellOf L rs rs.length + 24 < 4294967296

theorem fits_at {L : Layout} {rs : List Bytes} (g : Good L rs) (i : Nat) : Fits L (stAt L rs i) (rs.drop i) := by
  unfold Fits; rw [stAt_end]
  have := stAt_pos L rs rs.length
  unfold stAt at this; rw [List.take_length] at this
  rw [this]; exact g.fits

/-- what `tellLr` reports for the abstract `cur` -/
def curVal (L : Layout) (rs : List Bytes) : Option Nat → Nat
  | none => 0
  | some j => tellOf L rs j

/-- `start i`: before record `i`, a header to read; `inside i off`: a zipper position in record `i` with `off`
payload bytes before it; `eof`: flag set, stream at the end. `ldTell`, `isLrStart`, `startPrPos` are free. -/
def Rel (L : Layout) (rs : List Bytes) (f : Bytes) (a : AState) (s : Rd) : Prop :=
  s.startOfLr = curVal L rs a.cur ∧ TifMode' L s.tif ∧
  match a.ph with
  | .start i => i ≤ rs.length ∧ CStart L f (stAt L rs i) (rs.drop i) s
  | .inside i off => i < rs.length ∧ ∃ z, CInside L f z s ∧ z.stR = stAt L rs i ∧ z.rrs = rs.drop (i + 1)
      ∧ z.pre ++ z.c :: z.cs = chunks L.maxPayload (recAt rs i) ∧ off = z.pre.flatten.length + z.j
  | .eof => s.isEOF = true ∧ f.drop s.pos = [] ∧ (L.tif ≠ .off → s.tif.tifNext = s.pos)

variable {L : Layout} {rs : List Bytes} {f : Bytes} {a : AState} {s : Rd}

omit [Pad0 cfg] in
/-- reading a header at the start of record `k` (or at the end of the file) -/
theorem headAt (g : Good L rs) (k : Nat) (cur : Option Nat)
    (hk : k ≤ rs.length) (h : CStart L f (stAt L rs k) (rs.drop k) s) (hcur : s.startOfLr = curVal L rs cur) :
    ∃ s', readHead cfg f s = .ok s' ∧ Rel L rs f (openRec rs ⟨.start k, cur⟩) s'
      ∧ s'.hasLd = decide (k < rs.length) ∧ (¬ k < rs.length → s'.isEOF = true) := by
  have hmp := maxPayload_pos g.valid
  by_cases hlt : k < rs.length
  · have hdrop := drop_recAt rs k hlt
    rw [hdrop] at h
    obtain ⟨c, cs, s', hc, e1, hin, e2⟩ := openRecC (cfg := cfg) g.valid h
    have hcne := (chunks_all L.maxPayload hmp _ c (by rw [hc]; simp)).1
    have hclen : 0 < c.length := List.length_pos_iff.mpr hcne
    refine ⟨s', e1, ?_, ?_, fun hh => absurd hlt hh⟩
    · simp only [openRec, hlt, if_true]
      refine ⟨?_, hin.tm, hlt, _, hin, rfl, rfl, ?_, ?_⟩
      · rw [e2, h.pos, stAt_pos]; rfl
      · simp only [List.nil_append]; exact hc.symm
      · simp
    · unfold Rd.hasLd
      rw [hin.ldLen, hin.ldIndex]
      simp [hclen, hlt]
  · rw [List.drop_eq_nil_of_le (by omega)] at h
    obtain ⟨s', e1, hp⟩ := headAtEnd (cfg := cfg) h
    refine ⟨s', e1, ?_, ?_, fun _ => hp.eof⟩
    · simp only [openRec, hlt, if_false]
      exact ⟨by rw [hp.sol]; exact hcur, hp.tm, hp.eof, hp.atEnd, hp.tn⟩
    · unfold Rd.hasLd
      rw [hp.ldLen, hp.ldIndex, show s'.hasSuccessor = s.hasSuccessor from congrArg (bitSet · 0) hp.attr, h.succ]
      have := h.ld
      simp [hlt]; omega

theorem fuel_ok {z : Z} (h : CInside L f z s) : z.cs.length < f.length + 1 := by
  have := congrArg List.length h.drop
  unfold tailInside at this
  simp only [List.length_drop, List.length_append] at this
  have := sum_ge_length L z.cs
  rw [← encChunks_length L z.cs ((z.st L).next L z.c) false] at this
  omega

theorem flatten_len_ge : ∀ (cs : List Bytes), (∀ x ∈ cs, x ≠ []) → cs.length ≤ cs.flatten.length := by
  intro cs; induction cs with
  | nil => intro _; exact Nat.le_refl _
  | cons c cs ih =>
    intro h
    have h1 := ih (fun x hx => h x (List.mem_cons_of_mem _ hx))
    have h2 : 0 < c.length := List.length_pos_iff.mpr (h c (by simp))
    simp only [List.flatten_cons, List.length_append, List.length_cons]; omega

/-- list facts that connect a zipper position with the abstract offset -/
theorem zip_facts {L : Layout} (hL : L.Valid) {z : Z} {r : Bytes} (hch : z.pre ++ z.c :: z.cs = chunks L.maxPayload r)
    (hj : z.j ≤ z.c.length) (hcs : ∀ x ∈ z.cs, x ≠ []) :
    r.drop (z.pre.flatten.length + z.j) = z.c.drop z.j ++ z.cs.flatten
    ∧ r.length = z.pre.flatten.length + z.c.length + z.cs.flatten.length
    ∧ (z.pre.flatten.length + z.j ≥ r.length ↔ z.j = z.c.length ∧ z.cs = []) := by
  have hmp := maxPayload_pos hL
  have hfl := chunks_flatten L.maxPayload hmp r
  rw [← hch] at hfl
  simp only [List.flatten_append, List.flatten_cons] at hfl
  have hlen : r.length = z.pre.flatten.length + z.c.length + z.cs.flatten.length := by
    rw [← hfl]; simp only [List.length_append]; omega
  refine ⟨?_, hlen, ?_⟩
  · rw [← hfl, ← List.drop_drop, List.drop_left, List.drop_append_of_le_length hj]
  · have hge := flatten_len_ge z.cs hcs
    constructor
    · intro h
      have h1 : z.cs.flatten.length = 0 := by omega
      have h2 : z.cs.length = 0 := by omega
      exact ⟨by omega, List.eq_nil_of_length_eq_zero h2⟩
    · intro ⟨h1, h2⟩
      rw [hlen, h1, h2]; simp

theorem st2_eq {L : Layout} {rs : List Bytes} {z : Z} {i : Nat} (hi : i < rs.length) (hst : z.stR = stAt L rs i)
    (hch : z.pre ++ z.c :: z.cs = chunks L.maxPayload (recAt rs i)) : z.st2 L = stAt L rs (i + 1) := by
  rw [stAt_succ L rs i hi]
  unfold Z.st2 Z.st stAfterRec
  rw [← hch, stAfterChunks_append, hst]
  rfl

/-- `__readOrSkip` from inside a record that is not exhausted -/
theorem inside_go (g : Good L rs) {i off : Nat}
    {cur : Option Nat} (acc : Acc) (n : Int)
    (hrel : Rel L rs f ⟨.inside i off, cur⟩ s) :
    ∃ s', readOrSkip cfg f s acc n
        = .ok (s', acc.app (if n < 0 then (recAt rs i).drop off else ((recAt rs i).drop off).take n.toNat))
      ∧ Rel L rs f (if n < 0 then ⟨.start (i + 1), cur⟩
                    else ⟨.inside i (off + min n.toNat ((recAt rs i).length - off)), cur⟩) s' := by
  obtain ⟨hsol, htm, hi, z, hin, hst, hrrs, hch, hoff⟩ := hrel
  obtain ⟨zf1, zf2, _⟩ := zip_facts g.valid hch hin.jle (fun x hx => (hin.csz x hx).1)
  unfold readOrSkip
  simp only [hin.eof, Bool.false_eq_true, if_false]
  by_cases hn : n < 0
  · simp only [hn, if_true]
    obtain ⟨s', e1, h1, e2⟩ := allLoop_ok (cfg := cfg) g.valid (f.length + 1) z s acc hin (fuel_ok hin)
    refine ⟨s', ?_, ?_, h1.tm, by omega, ?_⟩
    · rw [e1, hoff, zf1]
    · rw [e2]; exact hsol
    · rw [st2_eq hi hst hch, hrrs] at h1; exact h1
  · simp only [hn, if_false]
    obtain ⟨s', z', e1, h1, a1, e2⟩ := sizedLoop_ok (cfg := cfg) g.valid (f.length + 1) z s acc 0 n.toNat hin
      (fuel_ok hin) (Nat.zero_le _)
    refine ⟨s', ?_, ?_, h1.tm, hi, z', h1, ?_, ?_, ?_, ?_⟩
    · rw [e1, hoff, zf1]; rfl
    · rw [e2]; exact hsol
    · rw [a1.stR]; exact hst
    · rw [a1.rrs]; exact hrrs
    · rw [a1.chunks]; exact hch
    · have ha := a1.off
      simp only [Nat.sub_zero] at ha
      rw [ha, hoff, zf2]
      have := hin.jle
      clear ha
      congr 2
      omega

theorem absRead_start_end (rs : List Bytes) (k : Nat) (cur : Option Nat) (hk : ¬ k < rs.length) (n : Int) :
    absRead rs ⟨.start k, cur⟩ n = (⟨.eof, cur⟩, none) := by
  simp [absRead, openRec, hk]

theorem absRead_start (rs : List Bytes) (k : Nat) (cur : Option Nat) (n : Int) (hk : k < rs.length) :
    absRead rs ⟨.start k, cur⟩ n = absRead rs ⟨.inside k 0, some k⟩ n := by
  simp [absRead, openRec, hk]

theorem absRead_inside (rs : List Bytes) (i off : Nat) (cur : Option Nat) (n : Int) (h : ¬ off ≥ (recAt rs i).length) :
    absRead rs ⟨.inside i off, cur⟩ n
      = (if n < 0 then ⟨.start (i + 1), cur⟩ else ⟨.inside i (off + min n.toNat ((recAt rs i).length - off)), cur⟩,
         some (if n < 0 then (recAt rs i).drop off else ((recAt rs i).drop off).take n.toNat)) := by
  by_cases hn : n < 0 <;> simp [absRead, openRec, h, hn]

theorem absRead_exhausted (rs : List Bytes) (i off : Nat) (cur : Option Nat) (n : Int) (h : off ≥ (recAt rs i).length) :
    absRead rs ⟨.inside i off, cur⟩ n = (⟨.start (i + 1), cur⟩, none) := by
  simp [absRead, openRec, h]

/-- `_readOrSkipPreamble` followed by `__readOrSkip`, against the abstract `absRead` -/
theorem readOrSkip_sim (g : Good L rs)
    (acc : Acc) (n : Int) (hrel : Rel L rs f a s) (hne : a.ph ≠ .eof) :
    ∃ s', Rel L rs f (absRead rs a n).1 s' ∧
      (match (absRead rs a n).2 with
       | some b => ∃ s1, preamble cfg f s = .ok (s1, true) ∧ readOrSkip cfg f s1 acc n = .ok (s', acc.app b)
       | none => preamble cfg f s = .ok (s', false)) := by
  obtain ⟨ph, cur⟩ := a
  cases ph with
  | eof => exact absurd rfl hne
  | start k =>
    obtain ⟨hsol, htm, hk, hst⟩ := hrel
    obtain ⟨s1, e1, hrel1, hld, hE⟩ := headAt (cfg := cfg) g k cur hk hst hsol
    have hpre : preamble cfg f s = (if s1.hasLd then .ok (s1, true) else .ok (s1, false)) := by
      unfold preamble
      simp only [hst.eof, Bool.false_eq_true, if_false, hst.mrh, if_true, e1]
      by_cases hlt : k < rs.length
      · simp [hld, hlt]
      · simp [hld, hlt, hE hlt]
    by_cases hlt : k < rs.length
    · have hrne : (recAt rs k) ≠ [] := g.rne _ (by unfold recAt; simp [hlt])
      have hnot : ¬ (0 ≥ (recAt rs k).length) := by have := List.length_pos_iff.mpr hrne; omega
      simp only [openRec, hlt, if_true] at hrel1
      obtain ⟨s', e2, hrel2⟩ := inside_go (cfg := cfg) g acc n hrel1
      rw [absRead_start rs k cur n hlt, absRead_inside rs k 0 (some k) n hnot]
      exact ⟨s', hrel2, s1, by rw [hpre, hld, decide_eq_true hlt]; rfl, e2⟩
    · rw [absRead_start_end rs k cur hlt]
      simp only [openRec, hlt, if_false] at hrel1
      exact ⟨s1, hrel1, by rw [hpre, hld, decide_eq_false hlt]; rfl⟩
  | inside i off =>
    have hrel0 := hrel
    obtain ⟨hsol, htm, hi, z, hin, hst, hrrs, hch, hoff⟩ := hrel
    obtain ⟨zf1, zf2, zf3⟩ := zip_facts g.valid hch hin.jle (fun x hx => (hin.csz x hx).1)
    by_cases hex : off ≥ (recAt rs i).length
    · rw [absRead_exhausted rs i off cur n hex]
      have hjc := zf3.mp (by rw [← hoff]; exact hex)
      obtain ⟨s1, e1, h1, e2⟩ := finishRec (cfg := cfg) hin hjc.1 hjc.2
      have hld : s.hasLd = false := by
        unfold Rd.hasLd
        rw [succ_of_inside hin, hin.ldLen, hin.ldIndex, hjc.1, hjc.2]
        simp
      refine ⟨s1, ⟨by rw [e2]; exact hsol, h1.tm, by omega, ?_⟩, ?_⟩
      · rw [st2_eq hi hst hch, hrrs] at h1; exact h1
      · unfold preamble
        simp only [hin.eof, Bool.false_eq_true, if_false, hin.mrh, hld, not_false_eq_true, if_true, e1]
    · have hld : s.hasLd = true := by
        unfold Rd.hasLd
        rw [succ_of_inside hin, hin.ldLen, hin.ldIndex]
        by_cases hj : z.j < z.c.length
        · simp [hj]
        · have hj' : z.j = z.c.length := by have := hin.jle; omega
          have : z.cs ≠ [] := fun h0 => hex (by rw [hoff]; exact zf3.mpr ⟨hj', h0⟩)
          cases hcs : z.cs with
          | nil => exact absurd hcs this
          | cons x xs => simp
      have hpre : preamble cfg f s = .ok (s, true) := by
        unfold preamble
        simp only [hin.eof, Bool.false_eq_true, if_false, hin.mrh, hld, not_true_eq_false]
      obtain ⟨s', e2, hrel2⟩ := inside_go (cfg := cfg) g acc n hrel0
      rw [absRead_inside rs i off cur n hex]
      exact ⟨s', hrel2, s, hpre, e2⟩

/-! ### one operation -/

theorem seek_sim (g : Good L rs)
    (hrel : Rel L rs (encode L rs) a s) (i : Nat) (hi : i ≤ rs.length) :
    Rel L rs (encode L rs) ⟨.start i, none⟩ (seekLr s (tellOf L rs i)).1 := by
  obtain ⟨_, htm, _⟩ := hrel
  refine ⟨rfl, ⟨htm.1, htm.2⟩, hi, ?_⟩
  refine ⟨(stAt_pos L rs i).symm, drop_tell L rs i, rfl, rfl, (by simp [seekLr, Rd.hasSuccessor, bitSet]),
    Nat.le_refl _, ⟨htm.1, htm.2⟩, ?_,
    stAt_backLe L rs i, fits_at g i, fun r hr => g.rne r (List.mem_of_mem_drop hr)⟩
  intro _
  exact ⟨by intro x hx; simp [seekLr, Tif.reset] at hx, by intro hp; simp [seekLr, Tif.reset, Tif.hasPrevious] at hp⟩

theorem skip_sim (g : Good L rs)
    (hrel : Rel L rs f a s) (n : Int) (hne : a.ph ≠ .eof) :
    ∃ s', skipLrBytes cfg f s n = .ok (s', match (absRead rs a n).2 with | some b => b.length | none => 0)
      ∧ Rel L rs f (absRead rs a n).1 s' := by
  obtain ⟨s', hrel', hm⟩ := readOrSkip_sim (cfg := cfg) g (.cnt 0) n hrel hne
  refine ⟨s', ?_, hrel'⟩
  unfold skipLrBytes
  cases hb : (absRead rs a n).2 with
  | none => rw [hb] at hm; simp only [hm]
  | some b =>
    rw [hb] at hm
    obtain ⟨s1, e1, e2⟩ := hm
    simp only [e1, e2, Acc.app, Nat.zero_add]

theorem absStep_next (L : Layout) (rs : List Bytes) (a : AState) (hne : a.ph ≠ .eof) :
    absStep L rs a .next = (openRec rs (absRead rs a (-1)).1,
      .count (match (absRead rs a (-1)).2 with | some b => b.length | none => 0)) := by
  obtain ⟨ph, cur⟩ := a
  cases ph with
  | eof => exact absurd rfl hne
  | start k =>
    by_cases hk : k < rs.length <;> by_cases h0 : 0 ≥ (recAt rs k).length <;>
      simp [absStep, absRead, openRec, gotoNext, hk, h0]
    exact List.eq_nil_of_length_eq_zero (Nat.le_zero.mp h0)
  | inside i off =>
    by_cases h : off ≥ (recAt rs i).length <;> simp [absStep, absRead, openRec, gotoNext, h]

theorem absRead_neg_phase (rs : List Bytes) (a : AState) :
    (∃ k, (absRead rs a (-1)).1.ph = .start k)
    ∨ ((absRead rs a (-1)).1.ph = .eof ∧ (absRead rs a (-1)).2 = none) := by
  obtain ⟨ph, cur⟩ := a
  cases ph with
  | eof => exact Or.inr ⟨rfl, rfl⟩
  | start k =>
    by_cases hk : k < rs.length <;> by_cases h0 : 0 ≥ (recAt rs k).length <;> simp [absRead, openRec, hk, h0]
  | inside i off => by_cases h : off ≥ (recAt rs i).length <;> simp [absRead, openRec, h]

omit [Pad0 cfg] in
theorem head_sim (g : Good L rs) (hrel : Rel L rs f a s) (hin : ∀ i off, a.ph ≠ .inside i off) :
    ∃ s', readHead cfg f s = .ok s' ∧ Rel L rs f (openRec rs a) s' := by
  obtain ⟨ph, cur⟩ := a
  cases ph with
  | inside i off => exact absurd rfl (hin i off)
  | start k =>
    obtain ⟨hsol, _, hk, hst⟩ := hrel
    obtain ⟨s', e, h, _⟩ := headAt (cfg := cfg) g k cur hk hst hsol
    exact ⟨s', e, h⟩
  | eof =>
    obtain ⟨hsol, htm, _, hend, htn⟩ := hrel
    obtain ⟨s', e, hp⟩ := readHead_atEnd (cfg := cfg) (f := f) L s htm hend htn
    exact ⟨s', e, by rw [hp.sol]; exact hsol, hp.tm, hp.eof, hp.atEnd, hp.tn⟩

theorem next_sim (g : Good L rs)
    (hrel : Rel L rs f a s) (hne : a.ph ≠ .eof) :
    ∃ s' c, skipToNextLr cfg f s = .ok (s', c) ∧ (absStep L rs a .next).2 = .count c
      ∧ Rel L rs f (absStep L rs a .next).1 s' := by
  obtain ⟨s1, e1, hrel1⟩ := skip_sim (cfg := cfg) g hrel (-1) hne
  rw [absStep_next L rs a hne]
  -- before a record the trailer was read already; at the end of the file nothing was skipped
  have hmrh : ¬ ((match (absRead rs a (-1)).2 with | some b => b.length | none => 0) ≠ 0
      ∧ ¬ s1.mustReadHead = true) := by
    rcases absRead_neg_phase rs a with ⟨k, hk⟩ | ⟨_, hn⟩
    · have := hrel1.2.2
      rw [hk] at this
      simp [this.2.mrh]
    · simp [hn]
  obtain ⟨s2, e2, hrel2⟩ := head_sim (cfg := cfg) g hrel1 (fun i off h => by
    rcases absRead_neg_phase rs a with ⟨k, hk⟩ | ⟨hk, _⟩ <;> rw [hk] at h <;> cases h)
  refine ⟨s2, _, ?_, rfl, hrel2⟩
  unfold skipToNextLr
  simp only [e1, hmrh, if_false, e2]

theorem step_sim (g : Good L rs)
    (hrel : Rel L rs (encode L rs) a s) (op : Op) (hop : ∀ i, op = .seek i → i ≤ rs.length) :
    ∃ s', step cfg (encode L rs) s (concOp L rs op) = (some s', (absStep L rs a op).2)
      ∧ Rel L rs (encode L rs) (absStep L rs a op).1 s' := by
  have heof : a.ph = .eof → s.isEOF = true := fun he => by
    have := hrel.2.2; rw [he] at this; exact this.1
  cases op with
  | tell =>
    refine ⟨s, ?_, hrel⟩
    simp only [concOp, step, absStep, tellLr, hrel.1]
    cases a.cur <;> rfl
  | seek i =>
    exact ⟨(seekLr s (tellOf L rs i)).1, rfl, seek_sim g hrel i (hop i rfl)⟩
  | read n =>
    by_cases he : a.ph = .eof
    · have hs := heof he
      refine ⟨s, ?_, by simpa [absStep, he] using hrel⟩
      simp [concOp, step, readLrBytes, preamble, hs, absStep, he, errReply]
    · obtain ⟨s', h1, hm⟩ := readOrSkip_sim (cfg := cfg) g (.data []) n hrel he
      rcases hx : absRead rs a n with ⟨a', _ | b⟩ <;> rw [hx] at h1 hm <;> simp only [] at hm
      · exact ⟨s', by simp [concOp, step, readLrBytes, hm, absStep, he, hx], by simpa [absStep, he, hx] using h1⟩
      · obtain ⟨s1, e1, e2⟩ := hm
        exact ⟨s', by simp [concOp, step, readLrBytes, e1, e2, Acc.app, absStep, he, hx],
          by simpa [absStep, he, hx] using h1⟩
  | skip n =>
    by_cases he : a.ph = .eof
    · have hs := heof he
      refine ⟨s, ?_, by simpa [absStep, he] using hrel⟩
      simp [concOp, step, skipLrBytes, preamble, hs, absStep, he, errReply]
    · obtain ⟨s', e1, h1⟩ := skip_sim (cfg := cfg) g hrel n he
      rcases hx : absRead rs a n with ⟨a', _ | b⟩ <;> rw [hx] at e1 h1 <;>
        exact ⟨s', by simp [concOp, step, e1, absStep, he, hx], by simpa [absStep, he, hx] using h1⟩
  | next =>
    by_cases he : a.ph = .eof
    · have hs := heof he
      refine ⟨s, ?_, by simpa [absStep, he] using hrel⟩
      simp [concOp, step, skipToNextLr, skipLrBytes, preamble, hs, absStep, he, errReply]
    · obtain ⟨s', c, e1, e2, h1⟩ := next_sim (cfg := cfg) g hrel he
      exact ⟨s', by simp only [concOp, step, e1, e2], h1⟩

theorem run_sim (g : Good L rs) : ∀ (ops : List Op) (a : AState) (s : Rd),
    Rel L rs (encode L rs) a s → (∀ op ∈ ops, ∀ i, op = .seek i → i ≤ rs.length) →
    run cfg (encode L rs) (some s) (ops.map (concOp L rs)) = absRun L rs a ops := by
  intro ops
  induction ops with
  | nil => intro a s _ _; rfl
  | cons op ops ih =>
    intro a s hrel hok
    obtain ⟨s', e1, h1⟩ := step_sim (cfg := cfg) g hrel op (hok op (by simp))
    simp only [List.map_cons, run, absRun, e1]
    rw [ih _ s' h1 (fun o ho => hok o (List.mem_cons_of_mem _ ho))]

end TD.C05
