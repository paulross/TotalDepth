import TD.C05.LemLayout
/-! C05: primitive steps of the reader on an encoded file. -/
namespace TD.C05

/-- the reader was constructed with `pad_modulo = 0` (any `keepGoing`) -/
class Pad0 (cfg : Cfg) : Prop where
  h : cfg.padModulo = 0

instance : Pad0 Cfg.plain := ⟨rfl⟩
instance (kg nn : Bool) : Pad0 ⟨kg, 0, nn⟩ := ⟨rfl⟩

theorem consumePadding_pad0 (cfg : Cfg) [hp : Pad0 cfg] (f : Bytes) (pos : Nat) : consumePadding cfg f pos = pos := by
  unfold consumePadding; simp [hp.h]

variable {cfg : Cfg}

theorem readU16_ok {f R : Bytes} {pos n : Nat} (h : f.drop pos = u16be n ++ R) (hn : n < 65536) :
    readU16 f pos = (some n, pos + 2) := by
  unfold readU16
  have : rdBytes f pos 2 = u16be n := rdBytes_of_drop (d := u16be n) h
  rw [this]
  simp only [u16be]
  congr 2; omega

/-- accumulate bytes into the accumulator of `__readOrSkip` -/
def Acc.app : Acc → Bytes → Acc
  | .data b, d => .data (b ++ d)
  | .cnt n, d => .cnt (n + d.length)

theorem Acc.app_nil (a : Acc) : a.app [] = a := by cases a <;> simp [Acc.app]
theorem Acc.app_app (a : Acc) (x y : Bytes) : (a.app x).app y = a.app (x ++ y) := by
  cases a <;> simp [Acc.app, Nat.add_assoc]

theorem ldWithin_ok {f d R : Bytes} {s : Rd} (acc : Acc) (h : f.drop s.pos = d ++ R) :
    ldWithin f s acc d.length = .ok ({ s with ldIndex := s.ldIndex + d.length, ldTell := s.ldTell + d.length,
                                              pos := s.pos + d.length }, acc.app d) := by
  unfold ldWithin
  cases acc with
  | data b =>
    simp only [rdBytes_of_drop h, Acc.app]
    simp
  | cnt n => simp only [Acc.app]

/-- the trailer of a PR (the bytes after the payload) -/
def trailerOf (L : Layout) (st : ES) (first last : Bool) (c : Bytes) : Bytes :=
  (if L.hasRec then u16be (st.recNo % 65536) else []) ++ fileNumBytes L
    ++ (if L.hasChk then u16be (checksumSpec (prCovered L st first last c)) else [])

theorem prBody_split (L : Layout) (st : ES) (first last : Bool) (c : Bytes) :
    prBody L st first last c = u16be (prLenOf L c) ++ (u16be (attrOf L first last) ++ (c ++ trailerOf L st first last c)) := by
  unfold prBody trailerOf
  conv => lhs; arg 1; unfold prCovered
  simp only [List.append_assoc]

theorem trailerOf_length (L : Layout) (st : ES) (first last : Bool) (c : Bytes) :
    (trailerOf L st first last c).length = L.prtLen := by
  unfold trailerOf Layout.prtLen
  simp only [List.length_append, fileNumBytes_length]
  cases L.hasRec <;> cases L.hasChk <;> cases L.fileNum.isSome <;> simp [u16be_length]

theorem readU16_avail {f : Bytes} {pos : Nat} (h : pos + 2 ≤ f.length) : ∃ v, readU16 f pos = (some v, pos + 2) := by
  unfold readU16 rdBytes
  have hl : ((f.drop pos).take 2).length = 2 := by simp [List.length_take, List.length_drop]; omega
  match hm : (f.drop pos).take 2 with
  | [a, b] => exact ⟨_, rfl⟩
  | [] => rw [hm] at hl; simp at hl
  | [_] => rw [hm] at hl; simp at hl
  | _ :: _ :: _ :: _ => rw [hm] at hl; simp at hl

/-- `if self._hasX(): self.stream.readAndUnpack(...)` -/
theorem readU16_opt {f : Bytes} {pos : Nat} (b : Bool) (h : b = true → pos + 2 ≤ f.length) :
    ∃ v, (if b then readU16 f pos else (some 0, pos)) = (some v, pos + (if b then 2 else 0)) := by
  cases b with
  | false => exact ⟨0, rfl⟩
  | true => exact readU16_avail (h rfl)

theorem readTail_ok [Pad0 cfg] {f : Bytes} {s : Rd} (L : Layout) (first last : Bool)
    (hattr : s.prAttr = attrOf L first last) (hlen : L.prtLen ≤ f.length - s.pos) (heof : s.isEOF = false) :
    readTail cfg f s = .ok { s with mustReadHead := true, pos := s.pos + L.prtLen } := by
  obtain ⟨_, _, b9, b10, b12, b13, _⟩ := bitSet_attrOf L first last
  unfold Layout.prtLen at hlen ⊢
  obtain ⟨v1, e1⟩ := readU16_opt (f := f) (pos := s.pos) L.hasRec
    (fun hb => by have : (if L.hasRec then 2 else 0) = 2 := if_pos hb
                  omega)
  obtain ⟨v2, e2⟩ := readU16_opt (f := f) (pos := s.pos + (if L.hasRec then 2 else 0)) L.fileNum.isSome
    (fun hb => by have : (if L.fileNum.isSome then 2 else 0) = 2 := if_pos hb
                  omega)
  obtain ⟨v3, e3⟩ := readU16_opt (f := f)
    (pos := s.pos + (if L.hasRec then 2 else 0) + (if L.fileNum.isSome then 2 else 0)) L.hasChk
    (fun hb => by have : (if L.hasChk then 2 else 0) = 2 := if_pos hb
                  omega)
  unfold readTail
  simp only [heof, Bool.false_eq_true, if_false, Rd.hasRecordNumber, Rd.hasFileNumber, Rd.hasChecksum, hattr,
    b9, b10, b12, b13, false_and, consumePadding_pad0, e1, e2, e3]
  simp only [Nat.add_assoc]

/-! ### TIF markers -/

/-- the reader's TIF object agrees with the layout about presence and byte order of the markers -/
def TifMode' (L : Layout) (t : Tif) : Prop :=
  t.hasTif = decide (L.tif ≠ .off) ∧ t.isReversed = decide (L.tif = .be)

/-- the reader's TIF object is consistent with arriving linearly (or after a seek) at the PR described by `st` -/
def TifLink (L : Layout) (t : Tif) (st : ES) : Prop :=
  L.tif ≠ .off → (∀ x, t.previousTell = some x → x = st.back) ∧ (t.hasPrevious = true → t.tifNext = st.pos)

theorem unpack3_marker (L : Layout) (t : Tif) (hm : TifMode' L t) (hon : L.tif ≠ .off) (a b c : Nat)
    (ha : a < 4294967296) (hb : b < 4294967296) (hc : c < 4294967296) :
    unpack3 t.isReversed (tifMarker L.tif a b c) = some (a, b, c) := by
  rw [hm.2]
  cases h : L.tif with
  | off => exact absurd h hon
  | le => simp only [tifMarker]; exact unpack3_le a b c ha hb hc
  | be => simp only [tifMarker]; exact unpack3_be a b c ha hb hc

theorem tifMarker_len12 (L : Layout) (hon : L.tif ≠ .off) (a b c : Nat) : (tifMarker L.tif a b c).length = 12 := by
  cases h : L.tif with
  | off => exact absurd h hon
  | le => rfl
  | be => rfl

theorem tifRead1_ok {f R : Bytes} (L : Layout) (t : Tif) (st : ES) (ty next : Nat)
    (hm : TifMode' L t) (hon : L.tif ≠ .off) (hl : TifLink L t st)
    (h : f.drop st.pos = tifMarker L.tif ty st.back next ++ R)
    (hty : ty < 4294967296) (hbk : st.back < 4294967296) (hnx : next < 4294967296) :
    tifRead1 cfg f t st.pos = .ok { t with tifType := ty, tifBack := st.back, tifNext := next, previousTell := some st.pos }
      (st.pos + 12) (some st.pos) := by
  obtain ⟨hl1, hl2⟩ := hl hon
  unfold tifRead1
  have hT : t.hasTif = true := by rw [hm.1]; simp [hon]
  simp only [hT, if_true]
  have c1 : ¬ (t.hasPrevious = true ∧ t.tifNext ≠ st.pos) := by
    intro ⟨h1, h2⟩; exact h2 (hl2 h1)
  rw [if_neg c1]
  have hb : rdBytes f st.pos 12 = tifMarker L.tif ty st.back next := by
    have := rdBytes_of_drop h
    rwa [tifMarker_len12 L hon] at this
  simp only [hb, unpack3_marker L t hm hon ty st.back next hty hbk hnx]
  rw [if_neg]
  intro ⟨h1, h2⟩
  apply h2
  cases hp : t.previousTell with
  | none => simp [Tif.hasPrevious, hp] at h1
  | some x => rw [hl1 x hp]

/-! ### PR header -/

theorem readHeadBody_eq {f : Bytes} (s : Rd) (len attr n : Nat)
    (h1 : readU16 f s.pos = (some len, s.pos + 2)) (h2 : readU16 f (s.pos + 2) = (some attr, s.pos + 2 + 2))
    (b13 : bitSet attr 13 = false) (b14 : bitSet attr 14 = false)
    (hld : (let ld : Int := (len : Int) - 4
            let ld := if bitSet attr 9 then ld - 2 else ld
            let ld := if bitSet attr 10 then ld - 2 else ld
            if bitSet attr 12 then ld - 2 else ld) = (n : Int)) :
    readHeadBody cfg f s = .ok
      { s with prLen := len, pos := s.pos + 2 + 2, prAttr := attr,
               startOfLr := if s.isLrStart then s.startPrPos else s.startOfLr,
               ldIndex := 0, ldLen := n, mustReadHead := false,
               isLrStart := if s.ldTell > 0 then false else s.isLrStart } := by
  simp only [] at hld
  unfold readHeadBody
  -- the intermediate states are `if`s over `isLrStart`: decide it first
  cases hls : s.isLrStart <;>
    simp only [h1, h2, b13, b14, Bool.false_eq_true, if_false, if_true, false_and, Rd.hasRecordNumber,
      Rd.hasFileNumber, Rd.hasChecksum, hld, Int.not_lt.mpr (Int.natCast_nonneg n), Int.toNat_natCast] <;>
    by_cases htl : s.ldTell > 0 <;> simp only [htl, if_false, if_true]

theorem ldLen_eq (r f c : Bool) (n : Nat) :
    (let ld : Int := ((4 + n + ((if r then 2 else 0) + (if f then 2 else 0) + (if c then 2 else 0)) : Nat) : Int) - 4
     let ld := if r then ld - 2 else ld
     let ld := if f then ld - 2 else ld
     if c then ld - 2 else ld) = (n : Int) := by
  cases r <;> cases f <;> cases c <;> simp only [Bool.false_eq_true, if_true, if_false] <;> omega

theorem tifRead_pr {f R : Bytes} (L : Layout) (t : Tif) (st : ES) (c : Bytes)
    (hm : TifMode' L t) (hl : TifLink L t st)
    (h : f.drop st.pos = tifMarker L.tif 0 st.back (st.pos + 12 + prLenOf L c) ++ R)
    (hbk : st.back < 4294967296) (hnx : st.pos + 12 + prLenOf L c < 4294967296) :
    ∃ t' r, tifRead cfg f t st.pos = .ok t' (st.pos + L.tifLen) r ∧ r.getD st.pos = st.pos
      ∧ TifMode' L t' ∧ TifLink L t' (st.next L c) := by
  by_cases hon : L.tif = .off
  · refine ⟨t, none, ?_, rfl, hm, fun h => absurd hon h⟩
    unfold tifRead
    have : t.hasTif = false := by rw [hm.1]; simp [hon]
    simp [this, Layout.tifLen, hon]
  · have h1 := tifRead1_ok (cfg := cfg) L t st 0 (st.pos + 12 + prLenOf L c) hm hon hl h (by omega) hbk hnx
    have hT : t.hasTif = true := by rw [hm.1]; simp [hon]
    have htl : L.tifLen = 12 := by unfold Layout.tifLen; cases hh : L.tif <;> simp_all
    refine ⟨{ t with tifType := 0, tifBack := st.back, tifNext := st.pos + 12 + prLenOf L c,
                     previousTell := some st.pos }, some st.pos, ?_, rfl, ⟨hm.1, hm.2⟩, ?_⟩
    · unfold tifRead
      rw [if_pos hT, h1, htl]
      simp only [Nat.zero_ne_one, if_false]
    · intro _
      refine ⟨?_, ?_⟩
      · intro x hx; simp only [Option.some.injEq] at hx; rw [← hx]; rfl
      · intro _; rw [next_pos, htl]

/-- after `_readHead` on the PR `(st, first, last, c)` followed by `R` -/
structure HeadPost (L : Layout) (f : Bytes) (s s' : Rd) (st : ES) (first last : Bool) (c R : Bytes) : Prop where
  pos : s'.pos = s.pos + L.tifLen + 4
  drop : f.drop s'.pos = c ++ trailerOf L st first last c ++ R
  attr : s'.prAttr = attrOf L first last
  ldLen : s'.ldLen = c.length
  ldIndex : s'.ldIndex = 0
  mrh : s'.mustReadHead = false
  eof : s'.isEOF = s.isEOF
  sol : s'.startOfLr = if s.hasSuccessor then s.startOfLr else s.pos
  tm : TifMode' L s'.tif
  tl : TifLink L s'.tif (st.next L c)

theorem readHead_eq (f : Bytes) (s : Rd) :
    readHead cfg f s =
      match tifRead cfg f s.tif s.pos with
      | .err => .error .tif
      | .rawEof t p => .ok { s with ldTell := if s.hasSuccessor then s.ldTell else 0, isLrStart := !s.hasSuccessor,
                                    startPrPos := s.pos, tif := t, pos := p, isEOF := true }
      | .ok t p r => readHeadBody cfg f
          { s with ldTell := if s.hasSuccessor then s.ldTell else 0, isLrStart := !s.hasSuccessor,
                   startPrPos := r.getD s.pos, tif := t, pos := p } := by
  unfold readHead
  cases s.hasSuccessor <;> rfl

theorem readHead_ok {f R : Bytes} (L : Layout) (s : Rd) (st : ES) (first last : Bool) (c : Bytes)
    (hm : TifMode' L s.tif) (hl : TifLink L s.tif st) (hpos : s.pos = st.pos)
    (h : f.drop s.pos = encPR L st first last c ++ R)
    (hlen : prLenOf L c < 65536) (hbk : st.back < 4294967296) (hnx : st.pos + 12 + prLenOf L c < 4294967296) :
    ∃ s', readHead cfg f s = .ok s' ∧ HeadPost L f s s' st first last c R := by
  unfold encPR at h
  rw [List.append_assoc, hpos] at h
  obtain ⟨t', r, e1, e2, e3, e4⟩ := tifRead_pr (cfg := cfg) L s.tif st c hm hl h hbk hnx
  have h2 := drop_add_of_drop h
  rw [tifMarker_length] at h2
  rw [readHead_eq, hpos, e1]
  obtain ⟨_, _, b9, b10, b12, b13, b14⟩ := bitSet_attrOf L first last
  rw [prBody_split] at h2
  simp only [List.append_assoc] at h2
  have u1 := readU16_ok h2 hlen
  have h3 := drop_add_of_drop h2
  have u2 := readU16_ok h3 (attrOf_lt L first last)
  have h4 := drop_add_of_drop h3
  refine ⟨_, readHeadBody_eq _ _ _ c.length u1 u2 b13 b14
      (by rw [b9, b10, b12]; exact ldLen_eq L.hasRec L.fileNum.isSome L.hasChk c.length),
    by simp only [hpos], by rw [List.append_assoc]; exact h4, rfl, rfl, rfl, rfl, rfl, ?_, e3, e4⟩
  show (if (!s.hasSuccessor) = true then r.getD st.pos else s.startOfLr) = _
  rw [e2, hpos]
  cases s.hasSuccessor <;> rfl

/-! ### end of file -/

theorem readHeadBody_eof {f : Bytes} (s : Rd) (h : f.drop s.pos = []) :
    readHeadBody cfg f s = .ok { s with isEOF := true } := by
  unfold readHeadBody readU16 rdBytes
  rw [h]
  simp

/-- after `_readHead` at the end of the file -/
structure EofPost (L : Layout) (f : Bytes) (s s' : Rd) : Prop where
  eof : s'.isEOF = true
  sol : s'.startOfLr = s.startOfLr
  tm : TifMode' L s'.tif
  ldLen : s'.ldLen = s.ldLen
  ldIndex : s'.ldIndex = s.ldIndex
  attr : s'.prAttr = s.prAttr
  atEnd : f.drop s'.pos = []
  tn : L.tif ≠ .off → s'.tif.tifNext = s'.pos

theorem tifRead_off {f : Bytes} (t : Tif) (p : Nat) (h : t.hasTif = false) : tifRead cfg f t p = .ok t p none := by
  unfold tifRead; simp [h]

/-- the marker reader ends at the end of the file: EOF pair read, or raw end -/
theorem readHead_end {f : Bytes} (L : Layout) (s : Rd) (t : Tif) (p : Nat) (r : Option Nat)
    (h : tifRead cfg f s.tif s.pos = .ok t p r ∨ tifRead cfg f s.tif s.pos = .rawEof t p)
    (hm : TifMode' L t) (hend : f.drop p = []) (htn : L.tif ≠ .off → t.tifNext = p) :
    ∃ s', readHead cfg f s = .ok s' ∧ EofPost L f s s' := by
  rw [readHead_eq]
  rcases h with h | h <;> rw [h] <;> simp only []
  · rw [readHeadBody_eof _ hend]
    exact ⟨_, rfl, rfl, rfl, hm, rfl, rfl, rfl, hend, htn⟩
  · exact ⟨_, rfl, rfl, rfl, hm, rfl, rfl, rfl, hend, htn⟩

/-- at the two end-of-file markers (or the end of a file without markers) -/
theorem readHead_eof {f : Bytes} (L : Layout) (s : Rd) (st : ES)
    (hm : TifMode' L s.tif) (hl : TifLink L s.tif st) (hpos : s.pos = st.pos)
    (h : f.drop s.pos = eofMarkers L st) (hbk : st.back < 4294967296) (hnx : st.pos + 24 < 4294967296) :
    ∃ s', readHead cfg f s = .ok s' ∧ EofPost L f s s' := by
  by_cases hon : L.tif = .off
  · have h0 : f.drop s.pos = [] := by rw [h]; simp [eofMarkers, tifMarker, hon]
    exact readHead_end L s s.tif s.pos none (Or.inl (tifRead_off _ _ (by rw [hm.1]; simp [hon]))) hm h0
      (fun hh => absurd hon hh)
  · have hT : s.tif.hasTif = true := by rw [hm.1]; simp [hon]
    rw [hpos] at h
    unfold eofMarkers at h
    have h1 := tifRead1_ok (cfg := cfg) L s.tif st 1 (st.pos + 12) hm hon hl h (by omega) hbk (by omega)
    have h2 := drop_add_of_drop h
    rw [tifMarker_len12 L hon] at h2
    -- the duplicate marker
    have h2' : f.drop (⟨st.pos + 12, st.pos, 0⟩ : ES).pos
        = tifMarker L.tif 1 (⟨st.pos + 12, st.pos, 0⟩ : ES).back (st.pos + 24) ++ [] := by
      simpa using h2
    have h3 := tifRead1_ok (cfg := cfg) L
      { s.tif with tifType := 1, tifBack := st.back, tifNext := st.pos + 12, previousTell := some st.pos }
      ⟨st.pos + 12, st.pos, 0⟩ 1 (st.pos + 24) ⟨hm.1, hm.2⟩ hon
      (fun _ => ⟨fun x hx => (Option.some.inj hx).symm, fun _ => rfl⟩) h2' (by omega) (by simp only []; omega) (by omega)
    have h4 := drop_add_of_drop h2'
    rw [tifMarker_len12 L hon] at h4
    simp only [] at h3 h4
    have e : tifRead cfg f s.tif s.pos = .ok (⟨s.tif.hasTif, s.tif.isReversed, 1, st.pos, st.pos + 24, some (st.pos + 12)⟩ : Tif)
        (st.pos + 12 + 12) (some st.pos) := by
      unfold tifRead
      rw [if_pos hT, hpos, h1]
      simp only [if_true]
      rw [h3]
    exact readHead_end L s _ _ _ (Or.inl e) ⟨hm.1, hm.2⟩ h4 (fun _ => rfl)

/-- `_readHead` once more when the stream already stands at the end of the file -/
theorem readHead_atEnd {f : Bytes} (L : Layout) (s : Rd) (hm : TifMode' L s.tif) (h : f.drop s.pos = [])
    (htn : L.tif ≠ .off → s.tif.tifNext = s.pos) :
    ∃ s', readHead cfg f s = .ok s' ∧ EofPost L f s s' := by
  by_cases hon : L.tif = .off
  · exact readHead_end L s s.tif s.pos none (Or.inl (tifRead_off _ _ (by rw [hm.1]; simp [hon]))) hm h htn
  · have hT : s.tif.hasTif = true := by rw [hm.1]; simp [hon]
    have e1 : tifRead cfg f s.tif s.pos = .rawEof s.tif s.pos := by
      unfold tifRead tifRead1
      simp only [hT, if_true]
      have c1 : ¬ (s.tif.hasPrevious = true ∧ s.tif.tifNext ≠ s.pos) := fun ⟨_, h2⟩ => h2 (htn hon)
      rw [if_neg c1]
      simp only []
      unfold rdBytes
      rw [h]
      simp [unpack3]
    exact readHead_end L s s.tif s.pos none (Or.inr e1) hm h htn

end TD.C05
