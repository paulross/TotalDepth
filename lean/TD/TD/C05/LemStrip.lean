import TD.C05.LemLayout
/-! C05: `strip_tif` of a TIF-marked encoding is the unmarked encoding. -/
namespace TD.C05

/-- a chain of TIF blocks: marker (type, previous position, next position) then the body -/
def tifChain : Nat → Nat → List (Nat × Bytes) → Bytes
  | _, _, [] => []
  | pos, back, (ty, b) :: r =>
    u32le ty ++ u32le back ++ u32le (pos + 12 + b.length) ++ b ++ tifChain (pos + 12 + b.length) pos r

theorem tifChain_blocks_le : ∀ (bl : List (Nat × Bytes)) (pos back : Nat), bl.length ≤ (tifChain pos back bl).length := by
  intro bl; induction bl with
  | nil => intro _ _; exact Nat.le_refl _
  | cons x r ih =>
    intro pos back
    have := ih (pos + 12 + x.2.length) pos
    simp only [tifChain, List.length_append, u32le, List.length_cons, List.length_nil]; omega

theorem readTifs_marker {f R : Bytes} {q : Nat} (ty bk nx : Nat)
    (h : f.drop q = u32le ty ++ u32le bk ++ u32le nx ++ R) (hbk : bk < 4294967296) (hnx : nx < 4294967296) :
    readTifs f q = some (le32 (ty % 256) (ty / 256 % 256) (ty / 65536 % 256) (ty / 16777216 % 256), bk, nx) := by
  have e : rdBytes f q 12 = u32le ty ++ u32le bk ++ u32le nx := rdBytes_of_drop (d := u32le ty ++ u32le bk ++ u32le nx) h
  unfold readTifs
  rw [e, unpack3_le' ty bk nx hbk hnx]

theorem stripLoop_step (f : Bytes) (fuel p : Nat) (b R out : Bytes) (n wr : Nat) (hf : f.drop (p + 12) = b ++ R) :
    stripLoop f (fuel + 1) (p + 12) p (p + 12 + b.length) out n wr
      = match readTifs f (p + 12 + b.length) with
        | none => .ok (out ++ b, n, wr + b.length)
        | some (_, _, nx) =>
          stripLoop f fuel (p + 12 + b.length + 12) (p + 12 + b.length) nx (out ++ b) (n + 1) (wr + b.length) := by
  have e1 : ((p + 12 + b.length : Nat) : Int) - (p : Int) - 12 = (b.length : Int) := by omega
  rw [stripLoop]
  simp only [e1, Int.toNat_natCast, rdBytes_of_drop hf]
  rw [if_neg (by omega)]
  rfl

/-- the loop of `strip_tif`, positioned just after the marker of a block whose body and successors follow -/
theorem stripLoop_chain (f : Bytes) : ∀ (rest : List (Nat × Bytes)) (fuel p : Nat) (b out : Bytes) (n wr : Nat),
    f.drop (p + 12) = b ++ tifChain (p + 12 + b.length) p rest →
    rest.length < fuel →
    p + 12 + b.length + (tifChain (p + 12 + b.length) p rest).length < 4294967296 →
    stripLoop f fuel (p + 12) p (p + 12 + b.length) out n wr
      = .ok (out ++ b ++ (rest.map (·.2)).flatten, n + rest.length, wr + b.length + ((rest.map (·.2.length)).sum)) := by
  intro rest
  induction rest with
  | nil =>
    intro fuel p b out n wr hf hfu _
    obtain ⟨k, rfl⟩ : ∃ k, fuel = k + 1 := ⟨fuel - 1, by omega⟩
    have e3 : readTifs f (p + 12 + b.length) = none := by
      unfold readTifs rdBytes
      rw [drop_add_of_drop hf]; rfl
    rw [stripLoop_step f k p b _ out n wr hf, e3]
    simp
  | cons x r ih =>
    intro fuel p b out n wr hf hfu hend
    obtain ⟨ty, b'⟩ := x
    obtain ⟨k, rfl⟩ : ∃ k, fuel = k + 1 := ⟨fuel - 1, by omega⟩
    simp only [tifChain, List.length_append, u32le, List.length_cons, List.length_nil] at hend
    have hd := drop_add_of_drop hf
    simp only [tifChain, List.append_assoc] at hd
    have e3 := readTifs_marker ty p _ (by simpa only [List.append_assoc] using hd) (by omega) (by omega)
    have hf' : f.drop (p + 12 + b.length + 12) = b' ++ tifChain (p + 12 + b.length + 12 + b'.length) (p + 12 + b.length) r := by
      rw [← List.append_assoc, ← List.append_assoc] at hd
      exact drop_add_of_drop hd
    rw [stripLoop_step f k p b _ out n wr hf, e3]
    simp only []
    rw [ih k (p + 12 + b.length) b' (out ++ b) (n + 1) (wr + b.length) hf'
      (by simpa using hfu) (by omega)]
    simp only [List.map_cons, List.flatten_cons, List.sum_cons, List.length_cons, List.append_assoc]
    congr 1
    simp only [Prod.mk.injEq, true_and]
    constructor <;> omega

/-! ### the encoding as a chain of blocks -/

def Layout.noTif (L : Layout) : Layout := { L with tif := .off }

/-- `prBody` depends on the encoder state through `recNo` only, hence `⟨0, 0, n⟩` -/
def chunkBlocks (L : Layout) : Nat → Bool → List Bytes → List (Nat × Bytes)
  | _, _, [] => []
  | n, first, c :: cs => (0, prBody L ⟨0, 0, n⟩ first cs.isEmpty c) :: chunkBlocks L (n + 1) false cs

def recBlocks (L : Layout) : Nat → List Bytes → List (Nat × Bytes)
  | _, [] => []
  | n, r :: rs => chunkBlocks L n true (chunks L.maxPayload r)
      ++ recBlocks L (n + (chunks L.maxPayload r).length) rs

theorem chunkBlocks_length (L : Layout) : ∀ (cs : List Bytes) (n : Nat) (f : Bool),
    (chunkBlocks L n f cs).length = cs.length := by
  intro cs; induction cs with
  | nil => intro n f; rfl
  | cons c cs ih => intro n f; simp [chunkBlocks, ih]

theorem encChunks_chain (L : Layout) (hle : L.tif = .le) : ∀ (cs : List Bytes) (st : ES) (first : Bool)
    (R : List (Nat × Bytes)),
    tifChain st.pos st.back (chunkBlocks L st.recNo first cs ++ R)
      = encChunks L st first cs
        ++ tifChain (stAfterChunks L st cs).pos (stAfterChunks L st cs).back R := by
  intro cs; induction cs with
  | nil => intro st first R; simp [chunkBlocks, encChunks, stAfterChunks]
  | cons c cs ih =>
    intro st first R
    simp only [chunkBlocks, List.cons_append, tifChain, encChunks, stAfterChunks]
    have hn : (st.next L c).recNo = st.recNo + 1 := rfl
    have hp : (st.next L c).pos = st.pos + 12 + (prBody L ⟨0, 0, st.recNo⟩ first cs.isEmpty c).length := by
      rw [prBody_length, next_pos]; simp [Layout.tifLen, hle]
    have hb : (st.next L c).back = st.pos := rfl
    rw [← hn, ← hp]
    have := ih (st.next L c) false R
    rw [hb] at this
    rw [this]
    simp only [encPR, tifMarker, hle, List.append_assoc]
    rw [hp, prBody_length]
    rfl

theorem encChunks_noTif (L : Layout) : ∀ (cs : List Bytes) (st : ES) (first : Bool),
    encChunks L.noTif st first cs = ((chunkBlocks L st.recNo first cs).map (·.2)).flatten := by
  intro cs; induction cs with
  | nil => intro st first; rfl
  | cons c cs ih =>
    intro st first
    simp only [chunkBlocks, encChunks, List.map_cons, List.flatten_cons]
    have := ih (st.next L.noTif c) false
    rw [this]
    rfl

theorem encRecs_chain (L : Layout) (hle : L.tif = .le) : ∀ (rs : List Bytes) (st : ES) (R : List (Nat × Bytes)),
    tifChain st.pos st.back (recBlocks L st.recNo rs ++ R)
      = encRecs L st rs ++ tifChain (stAfterRecs L st rs).pos (stAfterRecs L st rs).back R := by
  intro rs; induction rs with
  | nil => intro st R; simp [recBlocks, encRecs, stAfterRecs]
  | cons r rs ih =>
    intro st R
    simp only [recBlocks, encRecs, stAfterRecs, List.append_assoc]
    rw [encChunks_chain L hle]
    have hn : (stAfterRec L st r).recNo = st.recNo + (chunks L.maxPayload r).length := by
      unfold stAfterRec; rw [stAfterChunks_recNo]
    rw [← hn]
    have := ih (stAfterRec L st r) R
    unfold stAfterRec at this ⊢
    rw [this]
    simp [encRec]

theorem encRecs_noTif (L : Layout) : ∀ (rs : List Bytes) (st : ES),
    encRecs L.noTif st rs = ((recBlocks L st.recNo rs).map (·.2)).flatten := by
  intro rs; induction rs with
  | nil => intro st; rfl
  | cons r rs ih =>
    intro st
    simp only [recBlocks, encRecs, List.map_append, List.flatten_append]
    have hn : (stAfterRec L.noTif st r).recNo = st.recNo + (chunks L.maxPayload r).length := by
      unfold stAfterRec; rw [stAfterChunks_recNo]; rfl
    rw [ih, hn]
    congr 1
    exact encChunks_noTif L _ st true

/-- number of physical records of a file -/
def numPRs (L : Layout) (rs : List Bytes) : Nat := (rs.map (fun r => (chunks L.maxPayload r).length)).sum

theorem recBlocks_length (L : Layout) : ∀ (rs : List Bytes) (n : Nat), (recBlocks L n rs).length = numPRs L rs := by
  intro rs; induction rs with
  | nil => intro n; rfl
  | cons r rs ih => intro n; simp [recBlocks, numPRs, chunkBlocks_length, ih]

theorem flatten_bodies_length (bl : List (Nat × Bytes)) :
    ((bl.map (·.2)).flatten).length = (bl.map (·.2.length)).sum := by
  induction bl with
  | nil => rfl
  | cons x r ih => simp [ih]

theorem encode_noTif (L : Layout) (rs : List Bytes) :
    encode L.noTif rs = ((recBlocks L 0 rs).map (·.2)).flatten := by
  unfold encode
  rw [encRecs_noTif]
  simp [eofMarkers, tifMarker, Layout.noTif, ES.init]

theorem stripTif_chain (b0 : Bytes) (rest : List (Nat × Bytes))
    (hsz : (tifChain 0 0 ((0, b0) :: rest)).length < 4294967296) :
    stripTif (tifChain 0 0 ((0, b0) :: rest))
      = .ok (b0 ++ (rest.map (·.2)).flatten, rest.length + 1, b0.length + (rest.map (·.2.length)).sum) := by
  have hblk := tifChain_blocks_le ((0, b0) :: rest) 0 0
  have hlen : (tifChain 0 0 ((0, b0) :: rest)).length
      = 0 + 12 + b0.length + (tifChain (0 + 12 + b0.length) 0 rest).length := by
    simp only [tifChain, List.length_append, u32le, List.length_cons, List.length_nil]
  rw [List.length_cons] at hblk
  have hf : (tifChain 0 0 ((0, b0) :: rest)).drop (0 + 12) = b0 ++ tifChain (0 + 12 + b0.length) 0 rest := by
    simp [tifChain, u32le]
  have hmain := stripLoop_chain (tifChain 0 0 ((0, b0) :: rest)) rest
    ((tifChain 0 0 ((0, b0) :: rest)).length + 1) 0 b0 [] 1 0 hf (by omega) (by omega)
  have e3 : readTifs (tifChain 0 0 ((0, b0) :: rest)) 0 = some (0, 0, 0 + 12 + b0.length) :=
    readTifs_marker (R := b0 ++ tifChain (0 + 12 + b0.length) 0 rest) 0 0 _ (by simp only [tifChain, List.drop_zero, List.append_assoc]) (by omega) (by omega)
  unfold stripTif
  rw [e3]
  simp only [and_self, not_true_eq_false, if_false]
  rw [hmain, List.nil_append]
  congr 1
  simp only [Prod.mk.injEq, true_and]
  constructor <;> omega

theorem eofN_chain (L : Layout) (hle : L.tif = .le) (st : ES) (k : Nat) (hk : k ≤ 2) :
    eofMarkersN L st k = tifChain st.pos st.back (List.replicate k (1, [])) := by
  have : k = 0 ∨ k = 1 ∨ k = 2 := by omega
  rcases this with h | h | h <;> subst h
  · rfl
  · simp [eofMarkersN, tifMarker, hle, tifChain]
  · simp [eofMarkersN, eofMarkers, tifMarker, hle, tifChain]

theorem encodeN_chain (L : Layout) (hle : L.tif = .le) (rs : List Bytes) (k : Nat) (hk : k ≤ 2) :
    encodeN L rs k = tifChain 0 0 (recBlocks L 0 rs ++ List.replicate k (1, [])) := by
  have := encRecs_chain L hle rs ES.init (List.replicate k (1, []))
  simp only [ES.init] at this
  unfold encodeN
  rw [eofN_chain L hle _ k hk]
  exact this.symm

theorem encode_chain (L : Layout) (hle : L.tif = .le) (rs : List Bytes) :
    encode L rs = tifChain 0 0 (recBlocks L 0 rs ++ [(1, []), (1, [])]) :=
  encodeN_chain L hle rs 2 (Nat.le_refl _)

end TD.C05
