import TD.C05.Model
/-! C05 helper lemmas: bytes, checksum, 32-bit words, attribute bits. -/
namespace TD.C05

def BytesOK (b : Bytes) : Prop := ∀ x ∈ b, x < 256

theorem land_bit (x k : Nat) : (x &&& 2 ^ k ≠ 0) ↔ x.testBit k = true := by
  constructor
  · intro h
    cases hb : x.testBit k with
    | true => rfl
    | false =>
      exfalso; apply h
      apply Nat.eq_of_testBit_eq
      intro i
      simp only [Nat.testBit_and, Nat.testBit_two_pow, Nat.zero_testBit]
      by_cases hi : k = i
      · subst hi; simp [hb]
      · simp [hi]
  · intro h h0
    have := congrArg (fun y => Nat.testBit y k) h0
    simp [Nat.testBit_and, h] at this

theorem bit16 (x : Nat) (h : x < 262144) : (x &&& 0x10000 ≠ 0) ↔ (65536 ≤ x ∧ x < 131072) ∨ 196608 ≤ x := by
  have : (0x10000 : Nat) = 2 ^ 16 := by decide
  rw [this, land_bit, Nat.testBit_eq_decide_div_mod_eq, decide_eq_true_eq]
  omega

theorem mod_of_eq {x m : Nat} (r k : Nat) (h : x = r + m * k) (hr : r < m) : x % m = r := by
  rw [h, Nat.add_mul_mod_self_left, Nat.mod_eq_of_lt hr]

theorem rotl16_lo (u : Nat) (h : u < 32768) : rotl16 u = 2 * u := by
  unfold rotl16
  rw [Nat.mod_eq_of_lt (by omega), Nat.div_eq_of_lt h]; rfl

theorem rotl16_hi (u : Nat) (h : 32768 ≤ u) (h' : u < 65536) : rotl16 u = 2 * u - 65535 := by
  unfold rotl16
  rw [mod_of_eq (2 * u - 65536) 1 (by omega) (by omega), Nat.div_eq_of_lt_le (k := 1) (by omega) (by omega)]
  omega

/-- the four ranges of the sum `s` are the four combinations of the two carries -/
theorem ckStep_eq (c a b : Nat) (hc : c < 65536) (ha : a < 256) (hb : b < 256) :
    ckStep c a b = rotl16 (onesAdd c (256 * a + b)) := by
  unfold ckStep onesAdd
  simp only []
  rw [Nat.add_comm (256 * a) b]
  -- 131071 = 65535 + 65535 + 1
  have hs : c + (b + 256 * a) < 131071 := by omega
  generalize c + (b + 256 * a) = s at hs ⊢
  clear hc ha hb
  simp only [show ∀ x, x &&& 0xFFFF = x % 65536 from fun x => Nat.and_two_pow_sub_one_eq_mod x 16]
  by_cases h : 65536 ≤ s
  · rw [if_pos ((bit16 s (by omega)).mpr (by omega)), if_pos h]
    by_cases h2 : 98303 ≤ s
    · rw [if_pos ((bit16 _ (by omega)).mpr (by omega)), rotl16_hi _ (by omega) (by omega)]
      exact mod_of_eq _ 3 (by omega) (by omega)
    · rw [if_neg (mt (bit16 _ (by omega)).mp (by omega)), rotl16_lo _ (by omega)]
      exact mod_of_eq _ 2 (by omega) (by omega)
  · rw [if_neg (mt (bit16 s (by omega)).mp (by omega)), if_neg h]
    by_cases h2 : 32768 ≤ s
    · rw [if_pos ((bit16 _ (by omega)).mpr (by omega)), rotl16_hi _ h2 (by omega)]
      exact mod_of_eq _ 1 (by omega) (by omega)
    · rw [if_neg (mt (bit16 _ (by omega)).mp (by omega)), rotl16_lo _ (by omega)]
      exact mod_of_eq _ 0 (by omega) (by omega)

theorem rotl16_lt (x : Nat) (h : x < 65536) : rotl16 x < 65536 := by
  unfold rotl16; omega

theorem onesAdd_lt (c t : Nat) (hc : c < 65536) (ht : t < 65536) : onesAdd c t < 65536 := by
  unfold onesAdd; split <;> omega

theorem ckLoop_eq : ∀ (n : Nat) (b : Bytes) (c : Nat), b.length ≤ n → c < 65536 → BytesOK b →
    ckLoop c b = (words16 b).foldl (fun c t => rotl16 (onesAdd c t)) c := by
  intro n
  induction n using Nat.strongRecOn with
  | _ n ih =>
    intro b c hn hc hb
    match b with
    | [] => simp [ckLoop, words16]
    | [_] => simp [ckLoop, words16]
    | a :: x :: r =>
      have ha : a < 256 := hb a (by simp)
      have hx : x < 256 := hb x (by simp)
      simp only [ckLoop, words16, List.foldl_cons]
      rw [ckStep_eq c a x hc ha hx]
      have hlt : rotl16 (onesAdd c (256 * a + x)) < 65536 :=
        rotl16_lt _ (onesAdd_lt _ _ hc (by omega))
      simp only [List.length_cons] at hn
      exact ih (n - 2) (by omega) r _ (by omega) hlt (fun y hy => hb y (by simp [hy]))

theorem checksum_eq (b : Bytes) (hb : BytesOK b) : ckLoop 0 b = checksumSpec b := by
  unfold checksumSpec
  exact ckLoop_eq b.length b 0 (Nat.le_refl _) (by omega) hb

theorem u16be_ok (n : Nat) : BytesOK (u16be n) := by
  intro x hx; simp [u16be] at hx; omega

theorem BytesOK_append {a b : Bytes} (ha : BytesOK a) (hb : BytesOK b) : BytesOK (a ++ b) := by
  intro x hx; rcases List.mem_append.mp hx with h | h
  · exact ha x h
  · exact hb x h

theorem BytesOK_nil : BytesOK [] := by intro x hx; simp at hx

theorem rdBytes_of_drop {f d R : Bytes} {pos : Nat} (h : f.drop pos = d ++ R) : rdBytes f pos d.length = d := by
  unfold rdBytes; rw [h]; simp

theorem drop_add_of_drop {f d R : Bytes} {pos : Nat} (h : f.drop pos = d ++ R) : f.drop (pos + d.length) = R := by
  rw [← List.drop_drop, h]; simp

theorem le32_bytes (n : Nat) (h : n < 4294967296) :
    le32 (n % 256) (n / 256 % 256) (n / 65536 % 256) (n / 16777216 % 256) = n := by
  unfold le32; omega

/-- no bound on the type word: no reader checks it after the first marker -/
theorem unpack3_le' (a b c : Nat) (hb : b < 4294967296) (hc : c < 4294967296) :
    unpack3 false (u32le a ++ u32le b ++ u32le c)
      = some (le32 (a % 256) (a / 256 % 256) (a / 65536 % 256) (a / 16777216 % 256), b, c) := by
  simp only [u32le, List.cons_append, List.nil_append, unpack3, Bool.false_eq_true, if_false,
    le32_bytes _ hb, le32_bytes _ hc]

theorem unpack3_le (a b c : Nat) (ha : a < 4294967296) (hb : b < 4294967296) (hc : c < 4294967296) :
    unpack3 false (u32le a ++ u32le b ++ u32le c) = some (a, b, c) := by
  rw [unpack3_le' a b c hb hc, le32_bytes _ ha]

theorem unpack3_be (a b c : Nat) (ha : a < 4294967296) (hb : b < 4294967296) (hc : c < 4294967296) :
    unpack3 true (u32be a ++ u32be b ++ u32be c) = some (a, b, c) := by
  simp only [u32be, List.cons_append, List.nil_append, unpack3, if_true,
    le32_bytes _ ha, le32_bytes _ hb, le32_bytes _ hc]

theorem bitSet_attrOf (L : Layout) (first last : Bool) :
    bitSet (attrOf L first last) 0 = !last ∧ bitSet (attrOf L first last) 1 = !first
    ∧ bitSet (attrOf L first last) 9 = L.hasRec ∧ bitSet (attrOf L first last) 10 = L.fileNum.isSome
    ∧ bitSet (attrOf L first last) 12 = L.hasChk ∧ bitSet (attrOf L first last) 13 = false
    ∧ bitSet (attrOf L first last) 14 = false := by
  unfold attrOf
  generalize L.fileNum.isSome = fn
  generalize L.hasRec = r
  generalize L.hasChk = c
  cases r <;> cases fn <;> cases c <;> cases first <;> cases last <;> decide

theorem attrOf_lt (L : Layout) (first last : Bool) : attrOf L first last < 65536 := by
  unfold attrOf
  generalize L.fileNum.isSome = fn
  generalize L.hasRec = r
  generalize L.hasChk = c
  cases r <;> cases fn <;> cases c <;> cases first <;> cases last <;> decide

end TD.C05
