import TD.C05.LemBasic
/-! C05: facts about the specified layout alone. -/
namespace TD.C05

theorem maxPayload_pos {L : Layout} (hL : L.Valid) : 1 ≤ L.maxPayload := by
  have := hL.2; unfold Layout.maxPayload; omega

theorem chunksF_succ (n mp : Nat) (l : Bytes) : chunksF (n + 1) mp l =
    if l = [] then [] else if l.length ≤ mp then [l] else l.take mp :: chunksF n mp (l.drop mp) := rfl

theorem chunksF_fuel (mp : Nat) (hmp : 1 ≤ mp) : ∀ (n : Nat) (l : Bytes) (fuel : Nat), l.length ≤ n → l.length ≤ fuel →
    chunksF fuel mp l = if l = [] then [] else if l.length ≤ mp then [l] else l.take mp :: chunks mp (l.drop mp) := by
  intro n
  induction n with
  | zero =>
    intro l fuel h _
    rw [List.eq_nil_of_length_eq_zero (Nat.le_zero.mp h)]
    cases fuel <;> rfl
  | succ n ih =>
    intro l fuel h1 h2
    by_cases hne : l = []
    · subst hne; cases fuel <;> rfl
    · have hpos := List.length_pos_iff.mpr hne
      obtain ⟨k, rfl⟩ : ∃ k, fuel = k + 1 := ⟨fuel - 1, by omega⟩
      rw [chunksF_succ]
      by_cases hle : l.length ≤ mp
      · simp only [hne, hle, if_false, if_true]
      · have hd : (l.drop mp).length = l.length - mp := List.length_drop
        simp only [hne, hle, if_false]
        unfold chunks
        rw [ih (l.drop mp) k (by omega) (by omega), ih (l.drop mp) _ (by omega) (Nat.le_refl _)]

theorem chunks_unfold (mp : Nat) (hmp : 1 ≤ mp) (l : Bytes) : chunks mp l =
    if l = [] then [] else if l.length ≤ mp then [l] else l.take mp :: chunks mp (l.drop mp) :=
  chunksF_fuel mp hmp l.length l l.length (Nat.le_refl _) (Nat.le_refl _)

theorem chunks_nil (mp : Nat) : chunks mp [] = [] := by simp [chunks, chunksF]

/-- the shape of the writer's loop: advance by the payload just taken -/
theorem chunks_cons (mp : Nat) (hmp : 1 ≤ mp) (l : Bytes) (hl : l ≠ []) :
    chunks mp l = l.take mp :: chunks mp (l.drop (l.take mp).length) := by
  rw [chunks_unfold mp hmp l]
  simp only [hl, if_false]
  by_cases hle : l.length ≤ mp
  · simp only [hle, if_true]
    rw [List.take_of_length_le hle, List.drop_length, chunks_nil]
  · simp only [hle, if_false]
    have : (l.take mp).length = mp := by rw [List.length_take]; omega
    rw [this]

theorem chunks_eq_nil (mp : Nat) (hmp : 1 ≤ mp) (l : Bytes) : chunks mp l = [] ↔ l = [] := by
  constructor
  · intro h
    by_cases hl : l = []
    · exact hl
    · rw [chunks_cons mp hmp l hl] at h; simp at h
  · intro h; subst h; exact chunks_nil mp

theorem chunks_induction (mp : Nat) (hmp : 1 ≤ mp) {P : Bytes → Prop} (hnil : P [])
    (hcons : ∀ l, l ≠ [] → P (l.drop (l.take mp).length) → P l) : ∀ l, P l := by
  intro l
  induction h : l.length using Nat.strongRecOn generalizing l with
  | _ n ih =>
    by_cases hne : l = []
    · exact hne ▸ hnil
    · have := List.length_pos_iff.mpr hne
      exact hcons l hne (ih _ (by rw [← h, List.length_drop, List.length_take]; omega) _ rfl)

theorem chunks_all (mp : Nat) (hmp : 1 ≤ mp) (l : Bytes) : ∀ x ∈ chunks mp l, x ≠ [] ∧ x.length ≤ mp := by
  refine chunks_induction mp hmp (P := fun l => ∀ x ∈ chunks mp l, x ≠ [] ∧ x.length ≤ mp) ?_ ?_ l
  · intro x hx; rw [chunks_nil] at hx; cases hx
  · intro l hne ih x hx
    rw [chunks_cons mp hmp l hne] at hx
    rcases List.mem_cons.mp hx with h | h
    · subst h
      have := List.length_pos_iff.mpr hne
      refine ⟨fun h0 => ?_, by rw [List.length_take]; omega⟩
      have h1 := congrArg List.length h0
      rw [List.length_take, List.length_nil] at h1; omega
    · exact ih x h

theorem chunks_flatten (mp : Nat) (hmp : 1 ≤ mp) (l : Bytes) : (chunks mp l).flatten = l := by
  refine chunks_induction mp hmp (P := fun l => (chunks mp l).flatten = l) ?_ ?_ l
  · rw [chunks_nil]; rfl
  · intro l hne ih
    rw [chunks_cons mp hmp l hne, List.flatten_cons, ih]
    have : (l.take mp).length ≤ mp := by rw [List.length_take]; omega
    rw [List.length_take] at *
    by_cases h : mp ≤ l.length
    · rw [Nat.min_eq_left h]; exact List.take_append_drop mp l
    · rw [Nat.min_eq_right (by omega), List.drop_length, List.append_nil, List.take_of_length_le (by omega)]

theorem u16be_length (n : Nat) : (u16be n).length = 2 := rfl

theorem fileNumBytes_length (L : Layout) : (fileNumBytes L).length = if L.fileNum.isSome then 2 else 0 := by
  unfold fileNumBytes; cases L.fileNum <;> rfl

theorem prBody_length (L : Layout) (st : ES) (f l : Bool) (c : Bytes) :
    (prBody L st f l c).length = prLenOf L c := by
  unfold prBody prCovered prLenOf Layout.prtLen
  simp only [List.length_append, u16be_length, fileNumBytes_length]
  cases L.hasRec <;> cases L.hasChk <;> cases L.fileNum.isSome <;> simp [u16be_length] <;> omega

theorem tifMarker_length (L : Layout) (a b c : Nat) : (tifMarker L.tif a b c).length = L.tifLen := by
  unfold tifMarker Layout.tifLen; cases L.tif <;> rfl

theorem encPR_length (L : Layout) (st : ES) (f l : Bool) (c : Bytes) :
    (encPR L st f l c).length = L.tifLen + prLenOf L c := by
  unfold encPR; rw [List.length_append, tifMarker_length, prBody_length]

theorem prLenOf_lt (L : Layout) (hL : L.Valid) (c : Bytes) (h : c.length ≤ L.maxPayload) : prLenOf L c < 65536 := by
  have := hL.1; have := hL.2
  unfold prLenOf; unfold Layout.maxPayload at h; omega

theorem encChunks_length (L : Layout) : ∀ (cs : List Bytes) (st : ES) (f : Bool),
    (encChunks L st f cs).length = (cs.map (fun c => L.tifLen + prLenOf L c)).sum := by
  intro cs; induction cs with
  | nil => intro st f; rfl
  | cons c cs ih => intro st f; simp [encChunks, encPR_length, ih]

theorem sum_ge_length (L : Layout) : ∀ (cs : List Bytes), cs.length ≤ (cs.map (fun c => L.tifLen + prLenOf L c)).sum := by
  intro cs; induction cs with
  | nil => exact Nat.le_refl _
  | cons c cs ih =>
    simp only [List.map_cons, List.sum_cons, List.length_cons]
    have : 1 ≤ L.tifLen + prLenOf L c := by unfold prLenOf; omega
    omega


theorem encRecs_length (L : Layout) : ∀ (rs : List Bytes) (st : ES),
    (encRecs L st rs).length = (rs.map (recSize L)).sum := by
  intro rs; induction rs with
  | nil => intro st; rfl
  | cons r rs ih => intro st; simp [encRecs, encRec, encChunks_length, ih, recSize]

theorem encode_length (L : Layout) (rs : List Bytes) : (encode L rs).length = fileSize L rs := by
  unfold encode fileSize
  rw [List.length_append, encRecs_length]
  simp only [tellOf, List.take_length]
  cases h : L.tif <;> simp [eofMarkers, tifMarker, h, u32le, u32be]

theorem next_pos (L : Layout) (st : ES) (c : Bytes) : (st.next L c).pos = st.pos + L.tifLen + prLenOf L c := rfl

theorem stAfterChunks_pos_ge (L : Layout) : ∀ (cs : List Bytes) (st : ES), st.pos ≤ (stAfterChunks L st cs).pos := by
  intro cs
  induction cs with
  | nil => intro st; exact Nat.le_refl _
  | cons c cs ih =>
    intro st
    have := ih (st.next L c)
    simp only [stAfterChunks]
    rw [next_pos] at this; omega

theorem stAfterChunks_pos (L : Layout) : ∀ (cs : List Bytes) (st : ES),
    (stAfterChunks L st cs).pos = st.pos + (cs.map (fun c => L.tifLen + prLenOf L c)).sum := by
  intro cs
  induction cs with
  | nil => intro st; simp [stAfterChunks]
  | cons c cs ih =>
    intro st
    simp only [stAfterChunks, List.map_cons, List.sum_cons]
    rw [ih, next_pos]; omega

theorem stAfterRec_pos (L : Layout) (st : ES) (r : Bytes) : (stAfterRec L st r).pos = st.pos + recSize L r := by
  unfold stAfterRec recSize; exact stAfterChunks_pos L _ st

theorem stAfterRecs_pos (L : Layout) : ∀ (rs : List Bytes) (st : ES),
    (stAfterRecs L st rs).pos = st.pos + (rs.map (recSize L)).sum := by
  intro rs
  induction rs with
  | nil => intro st; simp [stAfterRecs]
  | cons r rs ih =>
    intro st
    simp only [stAfterRecs, List.map_cons, List.sum_cons]
    rw [ih, stAfterRec_pos]; omega

theorem stAfterRecs_pos_ge (L : Layout) (rs : List Bytes) (st : ES) : st.pos ≤ (stAfterRecs L st rs).pos := by
  rw [stAfterRecs_pos]; omega

theorem stAfterChunks_recNo (L : Layout) : ∀ (cs : List Bytes) (st : ES),
    (stAfterChunks L st cs).recNo = st.recNo + cs.length := by
  intro cs; induction cs with
  | nil => intro st; rfl
  | cons c cs ih => intro st; simp only [stAfterChunks, ih, ES.next, List.length_cons]; omega

theorem stAfterChunks_append (L : Layout) : ∀ (a b : List Bytes) (st : ES),
    stAfterChunks L st (a ++ b) = stAfterChunks L (stAfterChunks L st a) b := by
  intro a; induction a with
  | nil => intro b st; rfl
  | cons c a ih => intro b st; simp only [List.cons_append, stAfterChunks]; exact ih b _

theorem stAfterRecs_append (L : Layout) : ∀ (a b : List Bytes) (st : ES),
    stAfterRecs L st (a ++ b) = stAfterRecs L (stAfterRecs L st a) b := by
  intro a; induction a with
  | nil => intro b st; rfl
  | cons c a ih => intro b st; simp only [List.cons_append, stAfterRecs]; exact ih b _

theorem encRecs_append (L : Layout) : ∀ (a b : List Bytes) (st : ES),
    encRecs L st (a ++ b) = encRecs L st a ++ encRecs L (stAfterRecs L st a) b := by
  intro a; induction a with
  | nil => intro b st; rfl
  | cons c a ih => intro b st; simp only [List.cons_append, encRecs, stAfterRecs, ih, List.append_assoc]

end TD.C05
