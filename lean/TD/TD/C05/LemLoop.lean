import TD.C05.LemRead
/-! C05: the reader's loops on an encoded file, in terms of a zipper over the chunk structure. -/
namespace TD.C05

variable {cfg : Cfg} [Pad0 cfg]

/-! ### encoder states -/

def ES.BackLe (st : ES) : Prop := st.back ≤ st.pos

theorem next_backLe (L : Layout) (st : ES) (c : Bytes) : (st.next L c).BackLe := by
  unfold ES.BackLe ES.next; simp only []; omega

theorem stAfterChunks_backLe (L : Layout) : ∀ (cs : List Bytes) (st : ES), st.BackLe → (stAfterChunks L st cs).BackLe := by
  intro cs; induction cs with
  | nil => intro st h; exact h
  | cons c cs ih => intro st _; exact ih _ (next_backLe L st c)

theorem stAfterRecs_backLe (L : Layout) : ∀ (rs : List Bytes) (st : ES), st.BackLe → (stAfterRecs L st rs).BackLe := by
  intro rs; induction rs with
  | nil => intro st h; exact h
  | cons r rs ih => intro st h; exact ih _ (stAfterChunks_backLe L _ st h)

/-! ### the rest of the file seen from a position -/

/-- rest of the file before record list `rrs`, encoder state `st` -/
def tailStart (L : Layout) (st : ES) (rrs : List Bytes) : Bytes :=
  encRecs L st rrs ++ eofMarkers L (stAfterRecs L st rrs)

/-- a position inside a logical record: the record starts at encoder state `stR`; chunks `pre` are consumed, the
current chunk is `c` of which `j` bytes are consumed, `cs` are the later chunks, `rrs` the later records -/
structure Z where
  stR : ES
  pre : List Bytes
  c : Bytes
  cs : List Bytes
  j : Nat
  rrs : List Bytes

/-- encoder state before the current chunk -/
def Z.st (L : Layout) (z : Z) : ES := stAfterChunks L z.stR z.pre
/-- encoder state after the whole record -/
def Z.st2 (L : Layout) (z : Z) : ES := stAfterChunks L ((z.st L).next L z.c) z.cs

/-- rest of the file from a position inside a record -/
def tailInside (L : Layout) (z : Z) : Bytes :=
  z.c.drop z.j ++ (trailerOf L (z.st L) z.pre.isEmpty z.cs.isEmpty z.c
    ++ (encChunks L ((z.st L).next L z.c) false z.cs ++ tailStart L (z.st2 L) z.rrs))

/-- the file fits: the last position is below 2^32 (needed for TIF words) -/
def Fits (L : Layout) (st : ES) (rrs : List Bytes) : Prop := (stAfterRecs L st rrs).pos + 24 < 4294967296

/-- before the records `rrs` at encoder state `st`, a header to read next -/
structure CStart (L : Layout) (f : Bytes) (st : ES) (rrs : List Bytes) (s : Rd) : Prop where
  pos : s.pos = st.pos
  drop : f.drop s.pos = tailStart L st rrs
  mrh : s.mustReadHead = true
  eof : s.isEOF = false
  succ : s.hasSuccessor = false
  ld : s.ldLen ≤ s.ldIndex
  tm : TifMode' L s.tif
  tl : TifLink L s.tif st
  bl : st.BackLe
  fits : Fits L st rrs
  rne : ∀ r ∈ rrs, r ≠ []

/-- the header of chunk `z.c` is read and `z.j` bytes of its payload -/
structure CInside (L : Layout) (f : Bytes) (z : Z) (s : Rd) : Prop where
  pos : s.pos = (z.st L).pos + L.tifLen + 4 + z.j
  drop : f.drop s.pos = tailInside L z
  attr : s.prAttr = attrOf L z.pre.isEmpty z.cs.isEmpty
  ldLen : s.ldLen = z.c.length
  ldIndex : s.ldIndex = z.j
  jle : z.j ≤ z.c.length
  mrh : s.mustReadHead = false
  eof : s.isEOF = false
  tm : TifMode' L s.tif
  tl : TifLink L s.tif ((z.st L).next L z.c)
  bl : z.stR.BackLe
  fits : Fits L (z.st2 L) z.rrs
  rne : ∀ r ∈ z.rrs, r ≠ []
  csz : ∀ x ∈ z.cs, x ≠ [] ∧ x.length ≤ L.maxPayload

variable {L : Layout} {f : Bytes} {z : Z} {s : Rd}

theorem fits_bounds {st : ES} {c : Bytes} {cs rrs : List Bytes}
    (hf : Fits L (stAfterChunks L (st.next L c) cs) rrs) (hb : st.BackLe) :
    st.back < 4294967296 ∧ st.pos + 12 + prLenOf L c < 4294967296 := by
  have m1 := stAfterRecs_pos_ge L rrs (stAfterChunks L (st.next L c) cs)
  have m2 := stAfterChunks_pos_ge L cs (st.next L c)
  rw [next_pos] at m2
  unfold Fits at hf
  unfold ES.BackLe at hb
  omega

theorem readTail_chunkEnd (h : CInside L f z s) (hj : z.j = z.c.length) :
    readTail cfg f s = .ok { s with mustReadHead := true, pos := s.pos + L.prtLen }
    ∧ f.drop (s.pos + L.prtLen) = encChunks L ((z.st L).next L z.c) false z.cs ++ tailStart L (z.st2 L) z.rrs
    ∧ s.pos + L.prtLen = ((z.st L).next L z.c).pos := by
  have hd := h.drop
  unfold tailInside at hd
  rw [hj, List.drop_length, List.nil_append] at hd
  have hlen : L.prtLen ≤ f.length - s.pos := by
    have := congrArg List.length hd
    simp only [List.length_drop, List.length_append, trailerOf_length] at this; omega
  have hd2 := drop_add_of_drop hd
  rw [trailerOf_length] at hd2
  refine ⟨readTail_ok L z.pre.isEmpty z.cs.isEmpty h.attr hlen h.eof, hd2, ?_⟩
  simp only [next_pos, prLenOf, h.pos, hj]; omega

theorem succ_of_inside (h : CInside L f z s) :
    s.hasSuccessor = !z.cs.isEmpty := by
  obtain ⟨b0, _⟩ := bitSet_attrOf L z.pre.isEmpty z.cs.isEmpty
  show bitSet s.prAttr 0 = _
  rw [h.attr, b0]

/-- at the end of the last chunk of a record: the trailer is consumed and the reader stands before the next record -/
theorem finishRec (h : CInside L f z s)
    (hj : z.j = z.c.length) (hcs : z.cs = []) :
    ∃ s1, readTail cfg f s = .ok s1 ∧ CStart L f (z.st2 L) z.rrs s1 ∧ s1.startOfLr = s.startOfLr := by
  obtain ⟨e1, hd2, hpos⟩ := readTail_chunkEnd (cfg := cfg) h hj
  have hst2 : z.st2 L = (z.st L).next L z.c := by unfold Z.st2; rw [hcs]; rfl
  rw [hcs, encChunks, List.nil_append] at hd2
  refine ⟨_, e1, ⟨hst2 ▸ hpos, hd2, rfl, h.eof, ?_, ?_, h.tm, hst2 ▸ h.tl, hst2 ▸ next_backLe L _ _, h.fits, h.rne⟩, rfl⟩
  · show s.hasSuccessor = false
    rw [succ_of_inside h, hcs]; rfl
  · show s.ldLen ≤ s.ldIndex
    rw [h.ldLen, h.ldIndex, hj]; exact Nat.le_refl _

/-- at the end of a chunk that has a successor: trailer and next header are consumed -/
theorem nextChunk (hL : L.Valid) (h : CInside L f z s)
    (hj : z.j = z.c.length) (c2 : Bytes) (cs2 : List Bytes) (hcs : z.cs = c2 :: cs2) :
    ∃ s1 s2, readTail cfg f s = .ok s1 ∧ s1.hasSuccessor = true ∧ readHead cfg f s1 = .ok s2
      ∧ CInside L f ⟨z.stR, z.pre ++ [z.c], c2, cs2, 0, z.rrs⟩ s2 ∧ s2.startOfLr = s.startOfLr
      ∧ Z.st2 L ⟨z.stR, z.pre ++ [z.c], c2, cs2, 0, z.rrs⟩ = z.st2 L ∧ s1.isEOF = false := by
  obtain ⟨e1, hd2, hpos1⟩ := readTail_chunkEnd (cfg := cfg) h hj
  rw [hcs, encChunks, List.append_assoc] at hd2
  have hsucc : ({ s with mustReadHead := true, pos := s.pos + L.prtLen } : Rd).hasSuccessor = true := by
    show s.hasSuccessor = true
    rw [succ_of_inside h, hcs]; rfl
  have hc2 := h.csz c2 (by rw [hcs]; simp)
  have hst' : Z.st L ⟨z.stR, z.pre ++ [z.c], c2, cs2, 0, z.rrs⟩ = (z.st L).next L z.c := by
    unfold Z.st; simp only [stAfterChunks_append, stAfterChunks]
  have hst2' : Z.st2 L ⟨z.stR, z.pre ++ [z.c], c2, cs2, 0, z.rrs⟩ = z.st2 L := by
    unfold Z.st2; rw [hst']; simp only [hcs, stAfterChunks]
  have hfits : Fits L (stAfterChunks L (((z.st L).next L z.c).next L c2) cs2) z.rrs := by
    have := h.fits; unfold Z.st2 at this; rw [hcs] at this; exact this
  obtain ⟨hbk, hnx⟩ := fits_bounds hfits (next_backLe L _ _)
  obtain ⟨s2, e2, hp⟩ := readHead_ok (cfg := cfg) (f := f) L { s with mustReadHead := true, pos := s.pos + L.prtLen }
    ((z.st L).next L z.c) false cs2.isEmpty c2 h.tm h.tl hpos1 hd2 (prLenOf_lt L hL c2 hc2.2) hbk hnx
  have hpe : (z.pre ++ [z.c]).isEmpty = false := by cases z.pre <;> rfl
  refine ⟨_, s2, e1, hsucc, e2, ?_, ?_, hst2', h.eof⟩
  · refine ⟨?_, ?_, ?_, hp.ldLen, hp.ldIndex, Nat.zero_le _, hp.mrh, ?_, hp.tm, ?_, h.bl, ?_, h.rne, ?_⟩
    · rw [hst', hp.pos]; exact congrArg (· + L.tifLen + 4) hpos1
    · rw [hp.drop]; unfold tailInside; simp only [hst', hst2', List.drop_zero, hpe, List.append_assoc]
    · rw [hp.attr, hpe]
    · rw [hp.eof]; exact h.eof
    · rw [hst']; exact hp.tl
    · rw [hst2']; exact h.fits
    · intro x hx; exact h.csz x (by rw [hcs]; exact List.mem_cons_of_mem _ hx)
  · rw [hp.sol, hsucc]; rfl

omit [Pad0 cfg] in
/-- before a record: the header of its first PR is read -/
theorem openRecC (hL : L.Valid) {st : ES} {r : Bytes} {rrs : List Bytes}
    (h : CStart L f st (r :: rrs) s) :
    ∃ c cs s', chunks L.maxPayload r = c :: cs ∧ readHead cfg f s = .ok s'
      ∧ CInside L f ⟨st, [], c, cs, 0, rrs⟩ s' ∧ s'.startOfLr = s.pos := by
  have hmp := maxPayload_pos hL
  have hrne : r ≠ [] := h.rne r (by simp)
  have hall := chunks_all L.maxPayload hmp r
  have hcne : chunks L.maxPayload r ≠ [] := fun h0 => hrne ((chunks_eq_nil _ hmp r).mp h0)
  obtain ⟨c, cs, hc⟩ := List.exists_cons_of_ne_nil hcne
  have hcc := hall c (by rw [hc]; simp)
  have hd := h.drop
  unfold tailStart at hd
  simp only [encRecs, stAfterRecs, encRec, stAfterRec, hc, encChunks, stAfterChunks, List.append_assoc] at hd
  have hfits : Fits L (stAfterChunks L (st.next L c) cs) rrs := by
    have := h.fits; unfold Fits at this ⊢; simpa only [stAfterRecs, stAfterRec, hc, stAfterChunks] using this
  obtain ⟨hbk, hnx⟩ := fits_bounds hfits h.bl
  obtain ⟨s', e1, hp⟩ := readHead_ok (cfg := cfg) (f := f) L s st true cs.isEmpty c h.tm h.tl h.pos hd
    (prLenOf_lt L hL c hcc.2) hbk hnx
  refine ⟨c, cs, s', hc, e1, ?_, ?_⟩
  · refine ⟨?_, ?_, hp.attr, hp.ldLen, hp.ldIndex, Nat.zero_le _, hp.mrh, ?_, hp.tm, hp.tl, h.bl, hfits,
      fun x hx => h.rne x (List.mem_cons_of_mem _ hx), fun x hx => hall x (by rw [hc]; exact List.mem_cons_of_mem _ hx)⟩
    · rw [hp.pos, h.pos]; rfl
    · rw [hp.drop]; unfold tailInside tailStart; simp only [Z.st, Z.st2, stAfterChunks, List.drop_zero, List.append_assoc]; rfl
    · rw [hp.eof]; exact h.eof
  · rw [hp.sol, h.succ]; rfl

omit [Pad0 cfg] in
theorem headAtEnd {st : ES} (h : CStart L f st [] s) : ∃ s', readHead cfg f s = .ok s' ∧ EofPost L f s s' := by
  have hd := h.drop
  unfold tailStart at hd
  simp only [encRecs, stAfterRecs, List.nil_append] at hd
  have hb : st.back ≤ st.pos := h.bl
  have hf : st.pos + 24 < 4294967296 := h.fits
  exact readHead_eof (cfg := cfg) (f := f) L s st h.tm h.tl h.pos hd (by omega) hf

/-- read or skip `m` bytes inside the current chunk -/
theorem advanceZ (h : CInside L f z s) (acc : Acc) (m : Nat)
    (hm : m ≤ z.c.length - z.j) :
    ldWithin f s acc m = .ok ({ s with ldIndex := s.ldIndex + m, ldTell := s.ldTell + m, pos := s.pos + m },
        acc.app ((z.c.drop z.j).take m))
    ∧ CInside L f { z with j := z.j + m }
        { s with ldIndex := s.ldIndex + m, ldTell := s.ldTell + m, pos := s.pos + m } := by
  have hjle := h.jle
  have hd := h.drop
  unfold tailInside at hd
  have hsplit : z.c.drop z.j = (z.c.drop z.j).take m ++ z.c.drop (z.j + m) := by
    rw [← List.drop_drop]; exact (List.take_append_drop m _).symm
  have hlen : ((z.c.drop z.j).take m).length = m := by
    rw [List.length_take, List.length_drop]; omega
  rw [hsplit, List.append_assoc] at hd
  have e1 := ldWithin_ok (s := s) acc hd
  rw [hlen] at e1
  refine ⟨e1, ?_⟩
  have hd2 := drop_add_of_drop hd
  rw [hlen] at hd2
  exact ⟨by simp only [h.pos, Z.st]; omega, by unfold tailInside; exact hd2, h.attr, h.ldLen,
    by simp only [h.ldIndex], by simp only []; omega, h.mrh, h.eof, h.tm, h.tl, h.bl, h.fits, h.rne, h.csz⟩

theorem advanceEnd (h : CInside L f z s) (acc : Acc) :
    ∃ s1, ldWithin f s acc (s.ldLen - s.ldIndex) = .ok (s1, acc.app (z.c.drop z.j))
      ∧ CInside L f { z with j := z.c.length } s1 ∧ s1.startOfLr = s.startOfLr := by
  have hjle := h.jle
  obtain ⟨e1, h1⟩ := advanceZ h acc (z.c.length - z.j) (Nat.le_refl _)
  rw [List.take_of_length_le (by rw [List.length_drop]; omega)] at e1
  rw [show z.j + (z.c.length - z.j) = z.c.length by omega] at h1
  rw [h.ldLen, h.ldIndex]
  exact ⟨_, e1, h1, rfl⟩

/-- the "all the rest" loop: from inside a record to the start of the next one -/
theorem allLoop_ok (hL : L.Valid) : ∀ (fuel : Nat) (z : Z) (s : Rd) (acc : Acc),
    CInside L f z s → z.cs.length < fuel →
    ∃ s', allLoop cfg f fuel s acc = .ok (s', acc.app (z.c.drop z.j ++ z.cs.flatten))
      ∧ CStart L f (z.st2 L) z.rrs s' ∧ s'.startOfLr = s.startOfLr := by
  intro fuel
  induction fuel with
  | zero => intro z s acc _ hf; omega
  | succ k ih =>
    intro z s acc h hf
    obtain ⟨s1, e1, h1, o1⟩ := advanceEnd h acc
    unfold allLoop
    rw [e1]
    cases hcs : z.cs with
    | nil =>
      obtain ⟨s2, e2, h2, e3⟩ := finishRec (cfg := cfg) h1 rfl hcs
      refine ⟨s2, ?_, h2, e3.trans o1⟩
      simp only [e2, h2.succ, Bool.false_eq_true, if_false, List.flatten_nil, List.append_nil]
    | cons c2 cs2 =>
      obtain ⟨s2, s3, e2, e3, e4, h3, e5, e6, _⟩ := nextChunk (cfg := cfg) hL h1 rfl c2 cs2 hcs
      obtain ⟨s', e7, h7, e8⟩ := ih ⟨z.stR, z.pre ++ [z.c], c2, cs2, 0, z.rrs⟩ s3 (acc.app (z.c.drop z.j)) h3
        (by rw [hcs] at hf; exact Nat.lt_of_succ_lt_succ hf)
      refine ⟨s', ?_, by rw [e6] at h7; exact h7, by rw [e8, e5, o1]⟩
      simp only [e2, e3, if_true, e4, e7, Acc.app_app, List.drop_zero, List.flatten_cons]

/-- `z'` is `z` moved forward by `m` bytes inside the same record -/
structure Adv (z z' : Z) (m : Nat) : Prop where
  stR : z'.stR = z.stR
  rrs : z'.rrs = z.rrs
  chunks : z'.pre ++ z'.c :: z'.cs = z.pre ++ z.c :: z.cs
  off : z'.pre.flatten.length + z'.j = z.pre.flatten.length + z.j + m

omit [Pad0 cfg] in
/-- covers `size ≤ br` too: then nothing is asked for -/
theorem sizedLoop_within (h : CInside L f z s) (acc : Acc) (k br size : Nat)
    (hm : size - br ≤ z.c.length - z.j) :
    ∃ s', sizedLoop cfg f (k + 1) s acc br size = .ok (s', acc.app ((z.c.drop z.j).take (size - br)))
      ∧ CInside L f { z with j := z.j + (size - br) } s' ∧ s'.startOfLr = s.startOfLr := by
  unfold sizedLoop
  by_cases hlt : br < size
  · rw [if_pos hlt, h.ldLen, h.ldIndex, if_pos hm]
    obtain ⟨e1, h1⟩ := advanceZ h acc (size - br) hm
    exact ⟨_, e1, h1, rfl⟩
  · rw [if_neg hlt, Nat.sub_eq_zero_of_le (Nat.le_of_not_lt hlt)]
    exact ⟨s, by rw [List.take_zero, Acc.app_nil], h, rfl⟩

theorem min_shift (m d x : Nat) (h : d ≤ m) : min m (d + x) = d + min (m - d) x := by omega

/-- the sized loop: reads/skips `min (size - br) (what is left of the record)` bytes and stays inside the record -/
theorem sizedLoop_ok (hL : L.Valid) : ∀ (fuel : Nat) (z : Z) (s : Rd) (acc : Acc)
    (br size : Nat), CInside L f z s → z.cs.length < fuel → br ≤ size →
    ∃ s' z', sizedLoop cfg f fuel s acc br size = .ok (s', acc.app ((z.c.drop z.j ++ z.cs.flatten).take (size - br)))
      ∧ CInside L f z' s' ∧ Adv z z' (min (size - br) (z.c.length - z.j + z.cs.flatten.length))
      ∧ s'.startOfLr = s.startOfLr := by
  intro fuel
  induction fuel with
  | zero => intro z s acc br size _ hf; omega
  | succ k ih =>
    intro z s acc br size h hf hbr
    have hjle := h.jle
    have hdl : (z.c.drop z.j).length = z.c.length - z.j := List.length_drop
    by_cases hin : size - br ≤ z.c.length - z.j
    · obtain ⟨s', e1, h1, o1⟩ := sizedLoop_within (cfg := cfg) h acc k br size hin
      refine ⟨s', _, ?_, h1, ⟨rfl, rfl, rfl, ?_⟩, o1⟩
      · rw [e1, List.take_append_of_le_length (by omega)]
      · rw [Nat.min_eq_left (Nat.le_trans hin (Nat.le_add_right _ _))]; exact (Nat.add_assoc _ _ _).symm
    · obtain ⟨s1, e1, h1, o1⟩ := advanceEnd h acc
      have hsucc := succ_of_inside h1
      unfold sizedLoop
      rw [if_pos (by omega), if_neg (by rw [h.ldLen, h.ldIndex]; exact hin), e1]
      cases hcs : z.cs with
      | nil =>
        rw [hcs] at hsucc
        refine ⟨s1, _, ?_, h1, ⟨rfl, rfl, rfl, ?_⟩, o1⟩
        · simp only [hsucc, List.isEmpty_nil, Bool.not_true, Bool.false_eq_true, if_false, List.flatten_nil,
            List.append_nil]
          rw [List.take_of_length_le (by omega)]
        · simp only [List.flatten_nil, List.length_nil, Nat.add_zero]
          rw [Nat.min_eq_right (Nat.le_of_lt (Nat.lt_of_not_le hin))]; omega
      | cons c2 cs2 =>
        rw [hcs] at hsucc
        obtain ⟨s2, s3, e2, _, e4, h3, e5, _, _⟩ := nextChunk (cfg := cfg) hL h1 rfl c2 cs2 hcs
        obtain ⟨s', z', e7, h7, a7, e8⟩ := ih ⟨z.stR, z.pre ++ [z.c], c2, cs2, 0, z.rrs⟩ s3
          (acc.app (z.c.drop z.j)) (br + (s.ldLen - s.ldIndex)) size h3
          (by rw [hcs] at hf; exact Nat.lt_of_succ_lt_succ hf) (by rw [h.ldLen, h.ldIndex]; omega)
        refine ⟨s', z', ?_, h7, ⟨a7.stR, a7.rrs, by rw [a7.chunks, hcs]; simp, ?_⟩, by rw [e8, e5, o1]⟩
        · simp only [hsucc, List.isEmpty_cons, Bool.not_false, if_true, e2, e4, e7, Acc.app_app, List.drop_zero]
          rw [List.take_append (l₁ := z.c.drop z.j), List.take_of_length_le (l := z.c.drop z.j) (by omega), h.ldLen, h.ldIndex, hdl,
            Nat.sub_add_eq, List.flatten_cons]
        · have := a7.off
          simp only [List.flatten_append, List.length_append, List.flatten_cons, List.flatten_nil,
            List.append_nil, Nat.add_zero, Nat.sub_zero, h.ldLen, h.ldIndex] at this ⊢
          rw [min_shift _ _ _ (Nat.le_of_lt (Nat.lt_of_not_le hin)), this, Nat.sub_add_eq]
          generalize min (size - br - (z.c.length - z.j)) (c2.length + cs2.flatten.length) = M
          clear this
          omega

end TD.C05
