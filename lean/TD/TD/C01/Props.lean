/-
C01 — DLIS/RP66V1 logical records are reassembled exactly from any physical layout; storage unit label.

Subject: the model `TD.C01.iterLR` / `sulParse` (Model.lean) of `TotalDepth/RP66V1/core/pFile.py`, tied to the code by
the correspondence run of `harness/props/c01.py`.  Specification: the independent encoder `TD.C01.encode` and the
decidable `Layout.conformant`, `SULW.conformant` (Spec.lean).
-/
import TD.C01.Lemmas
import TD.C01.Wf
import TD.C01.ObjLemmas

namespace TD.C01

/-- **Sequential read of any conformant file yields exactly the records written.**
For every storage unit label, every non-empty list of logical records and every conformant layout (any cut of the
payloads into segments of even length ≥ 16 with any combination of padding / checksum / trailing length /
encryption flags, any packing of the segments into visible records of length 20…16384), the model of
`FileRead.iter_logical_records()` returns the records — kind, type and payload, in order — and stops without error.

`recs ≠ []` is needed because the code rejects a label-only file (`iter_encode_empty` below; TODO in `_enter`). -/
theorem iter_encode (sul : SULW) (recs : List LR) (ℓ : Layout) (hs : sul.conformant = true) (hne : recs ≠ [])
    (hc : ℓ.conformant recs = true) : iterLogicalRecords (encode sul recs ℓ) = .ok recs := by
  unfold iterLogicalRecords
  rw [iterLR_encode sul recs ℓ hs hne hc]

/-- The same with the generator's final state explicit: all records are yielded and the iteration ends normally. -/
theorem iter_encode_state (sul : SULW) (recs : List LR) (ℓ : Layout) (hs : sul.conformant = true) (hne : recs ≠ [])
    (hc : ℓ.conformant recs = true) : iterLR (encode sul recs ℓ) = (recs, none) :=
  iterLR_encode sul recs ℓ hs hne hc

/-- **Any conformant storage unit label is accepted and its fields are reported as written** (any sequence number
1…9999 with '0'/' ' fill, any `V1.dd`, any maximum record length 20…16384 with fill, any 60 identifier bytes). -/
theorem sul_roundtrip (s : SULW) (h : s.conformant = true) :
    sulParse (encodeSUL s) = some ⟨s.seq, s.ver, recordWord, s.maxLen, s.ident⟩ :=
  sulParse_enc s h

/-- `FileRead.sul` of an encoded file is the label that was written. -/
theorem file_sul_encode (sul : SULW) (recs : List LR) (ℓ : Layout) (hs : sul.conformant = true) :
    fileSul (encode sul recs ℓ) = some ⟨sul.seq, sul.ver, recordWord, sul.maxLen, sul.ident⟩ := by
  unfold fileSul encode
  rw [List.take_left' (encodeSUL_length sul hs)]
  exact sulParse_enc sul hs

/-- **Nothing added, nothing dropped**: the number of records read equals the number of segments marked `first` in the
file (and the number of records written). -/
theorem iter_nothing_added (sul : SULW) (recs : List LR) (ℓ : Layout) (hs : sul.conformant = true) (hne : recs ≠ [])
    (hc : ℓ.conformant recs = true) :
    ∃ out, iterLogicalRecords (encode sul recs ℓ) = .ok out ∧
      out.length = ((cutAll recs ℓ.recs).filter (·.first)).length ∧ out.length = recs.length := by
  refine ⟨recs, iter_encode sul recs ℓ hs hne hc, ?_, rfl⟩
  rw [count_first_cutAll recs ℓ.recs (Layout.conformant_elim hc).1]

/-- The specification encoder emits a byte string: every element of the encoded file is < 256 (so the file the
theorems speak about is a real file; the harness additionally compares it byte for byte with an independent Python
encoder on every run). -/
theorem encode_bytes (sul : SULW) (recs : List LR) (ℓ : Layout) (hs : sul.conformant = true)
    (hc : ℓ.conformant recs = true) : ∀ x ∈ encode sul recs ℓ, x < 256 := by
  have hc := Layout.conformant_elim hc
  have hsm := cutAll_small recs ℓ.recs hc.1 (vrOK_bounds _ 0 (by omega) hc.2)
  intro x hx
  unfold encode at hx
  rcases List.mem_append.mp hx with hx | hx
  · exact encodeSUL_lt sul hs x hx
  · obtain ⟨s, hs1, hs2⟩ := List.mem_flatMap.mp hx
    exact TSeg.bytes_lt s (hsm s hs1) x hs2

/-- Informational (not part of the property): a label-only file — zero logical records — is rejected by the code
as it is (`FileRead._enter` reads a visible record unconditionally). -/
theorem iter_encode_empty (sul : SULW) (hs : sul.conformant = true) :
    iterLR (encode sul [] ⟨[]⟩) = ([], some .vrEOF) := by
  have hlen := encodeSUL_length sul hs
  have e : encode sul [] ⟨[]⟩ = encodeSUL sul := by simp [encode, cutAll]
  have hd : (encodeSUL sul).drop 80 = [] := by rw [List.drop_eq_nil_iff]; omega
  unfold iterLR
  rw [e, List.take_of_length_le (by omega), sulParse_enc sul hs]
  simp only [readVR_nil _ 80 hd]

/-! ### the reader OBJECT through histories of its generator methods -/

/-- **Every method of a reader object answers as a function of the file bytes alone.**  For every file, every history
of `iter_logical_records` / `iter_visible_records` / `iter_LRSHs_for_visible_record` calls on ONE `FileRead`, each
consumed completely or abandoned after any number of items, interleaved with any other method (`other`: random-access
fetches, position scans, validation, exit and re-enter — whatever they leave in the reader), and whatever an
(abandoned) generator leaves in the cursor / visible record / segment header objects (`kf`): the k-th result is the
result of that call on a fresh reader. -/
theorem reader_history_pure (kf : Bytes → RSt → ROp → RSt) (b : Bytes) (st : RSt) (ops : List ROp) :
    runR kf b st ops = ops.map (outR b default) :=
  hist_pure (run := runR kf b) (out := outR b) (fun _ => rfl) (fun _ _ _ => rfl) (outR_indep b) default ops st

/-- **After any history a full sequential read yields exactly the records written**: on a conformant file the n-th
result of ANY history whose n-th operation is a complete `iter_logical_records()` is the list of records written. -/
theorem reader_recs_encode (kf : Bytes → RSt → ROp → RSt) (sul : SULW) (recs : List LR) (ℓ : Layout)
    (hs : sul.conformant = true) (hne : recs ≠ []) (hc : ℓ.conformant recs = true) (st : RSt) (ops : List ROp) (n : Nat)
    (hn : ops[n]? = some (.recs none)) :
    (runR kf (encode sul recs ℓ) st ops)[n]? = some (.recs recs none) := by
  rw [reader_history_pure, List.getElem?_map, hn]
  simp [outR, truncate, recsR_encode sul recs ℓ hs hne hc]

/-! ### the hypotheses are satisfiable — padding + checksum + trailing length + encryption, 3 visible records -/

def exSul : SULW := ⟨10, [32, 32], [86, 49, 46, 48, 48], 8192, [48], List.replicate 60 65⟩

def exRecs : List LR :=
  [⟨true, 0, List.range 30⟩,            -- 30 payload bytes in 3 segments across 2 visible records
   ⟨false, 5, [1, 2, 3]⟩,               -- short record: 9 pad bytes
   ⟨false, 127, []⟩,                    -- empty payload: pad only
   ⟨true, 3, List.replicate 12 255⟩]    -- encrypted, exact fit

def exLayout : Layout := ⟨[
  [⟨10, 2, 0, none, false, false, false, some 40⟩,               -- VR 1 (40): 16 + 20
   ⟨12, 0, 0, some (170, 187), true, false, false, none⟩,
   ⟨8, 2, 7, some (1, 2), false, false, false, some 36⟩],        -- VR 2 (36): 16 + 16
  [⟨3, 9, 0, none, false, false, false, none⟩],
  [⟨0, 12, 1, none, false, false, false, some 36⟩,               -- VR 3 (36): 16 + 16
  ],
  [⟨12, 3, 0, none, false, true, true, none⟩]]⟩

example : exSul.conformant = true := by decide
example : exLayout.conformant exRecs = true := by decide
example : exRecs ≠ [] := by decide
/-- the concrete file is read back by the model (evaluated by the kernel, independently of the theorem) -/
example : iterLR (encode exSul exRecs exLayout) = (exRecs, none) := by decide +kernel
example : (encode exSul exRecs exLayout).length = 80 + 40 + 36 + 36 := by decide +kernel

/-- a non-conformant layout is recognised as such (visible record length does not match its segments) -/
example : (Layout.mk [[⟨3, 9, 0, none, false, false, false, some 22⟩]]).conformant [⟨false, 5, [1, 2, 3]⟩] = false := by
  decide

/-- visible records walked past the first one, an abandoned sequential read, another method, then a full read:
evaluated by the kernel on the stateful model of the example file -/
example : (runR (fun _ _ _ => ⟨150, ⟨120, 36⟩, ⟨160, 16, 1, 127⟩⟩) (encode exSul exRecs exLayout) default
      [.vrs none, .recs (some 2), .lrshs 120 36 none, .other ⟨7, ⟨156, 36⟩, ⟨176, 16, 0, 3⟩⟩, .recs none]).map
      (fun o => match o with
        | .recs l e => (l.length, e.isSome)
        | .vrs l e => (l.length, e.isSome)
        | .lrshs l e => (l.length, e.isSome)
        | .none => (0, false))
    = [(3, false), (2, false), (2, false), (0, false), (4, false)] := by decide +kernel

end TD.C01
