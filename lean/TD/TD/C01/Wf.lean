/-
C01 — the encoder emits bytes: every element of `encode sul recs ℓ` is < 256 for conformant input.
-/
import TD.C01.Lemmas

namespace TD.C01

theorem attrByte_lt (e f l : Bool) (d : SegDesc) : attrByte e f l d < 256 := by
  rw [attrByte_eq]; exact Nat.lt_of_lt_of_le (ofBits_lt _) (by simp)

/-- every element is a byte -/
def AllLt (l : Bytes) : Prop := ∀ x ∈ l, x < 256

theorem allLt_nil : AllLt [] := fun _ h => nomatch h

theorem AllLt.cons {x : Nat} {l : Bytes} (hx : x < 256) (h : AllLt l) : AllLt (x :: l) :=
  fun y hy => (List.mem_cons.mp hy).elim (fun e => e ▸ hx) (h y)

theorem AllLt.append {l m : Bytes} (h1 : AllLt l) (h2 : AllLt m) : AllLt (l ++ m) :=
  fun y hy => (List.mem_append.mp hy).elim (h1 y) (h2 y)

theorem u16_lt (n : Nat) (h : n < 65536) : AllLt (u16 n) :=
  .cons (by omega) (.cons (by omega) allLt_nil)

theorem vrOK_bounds : ∀ (ds : List SegDesc) (r : Nat), r ≤ 16384 → vrOK r ds = true →
    ∀ d ∈ ds, d.segLen ≤ 16384 ∧ (∀ L, d.vr = some L → L ≤ 16384) := by
  intro ds
  induction ds with
  | nil => intro r _ _ d hd; simp at hd
  | cons x xs ih =>
    intro r hr hv d hd
    simp only [vrOK] at hv
    cases hx : x.vr with
    | some L =>
      simp only [hx, Bool.and_eq_true, beq_iff_eq, decide_eq_true_eq] at hv
      obtain ⟨⟨⟨⟨_, _⟩, h2⟩, h3⟩, h4⟩ := hv
      rcases List.mem_cons.mp hd with rfl | hd'
      · exact ⟨by omega, fun L' hL' => by rw [hx] at hL'; cases hL'; exact h2⟩
      · exact ih _ (by omega) h4 d hd'
    | none =>
      simp only [hx, Bool.and_eq_true, bne_iff_ne, ne_eq, decide_eq_true_eq] at hv
      obtain ⟨⟨_, h1⟩, h2⟩ := hv
      rcases List.mem_cons.mp hd with rfl | hd'
      · exact ⟨by omega, fun L' hL' => by rw [hx] at hL'; cases hL'⟩
      · exact ih _ (by omega) h2 d hd'

/-- what is needed of a flat segment for its bytes to be bytes -/
def TSeg.small (s : TSeg) : Prop :=
  s.d.ok = true ∧ s.type < 256 ∧ (∀ x ∈ s.data, x < 256) ∧ s.d.segLen ≤ 16384 ∧ (∀ L, s.d.vr = some L → L ≤ 16384)

theorem TSeg.bytes_lt (s : TSeg) (h : s.small) : AllLt s.bytes := by
  obtain ⟨hok, ht, hdata, hsl, hvr⟩ := h
  unfold SegDesc.ok at hok
  simp only [Bool.and_eq_true, decide_eq_true_eq] at hok
  obtain ⟨⟨⟨⟨⟨hpad, hfill⟩, hchk⟩, _⟩, _⟩, _⟩ := hok
  unfold TSeg.bytes TSeg.lrsBytes
  refine .append ?_ (.append (.append (u16_lt _ (by omega)) (.cons (attrByte_lt _ _ _ _) (.cons ht allLt_nil)))
    (.append (.append hdata ?_) (.append ?_ ?_)))
  · cases hv : s.d.vr with
    | none => exact allLt_nil
    | some L => exact .append (u16_lt L (by have := hvr L hv; omega)) (.cons (by decide) (.cons (by decide) allLt_nil))
  · unfold SegDesc.padBytes
    split
    · exact allLt_nil
    · exact .append (fun x hx => (List.eq_of_mem_replicate hx) ▸ hfill) (.cons hpad allLt_nil)
  · unfold SegDesc.chkBytes
    cases hc : s.d.chk with
    | none => exact allLt_nil
    | some p =>
      rw [hc] at hchk
      simp only [Bool.and_eq_true, decide_eq_true_eq] at hchk
      exact .cons hchk.1 (.cons hchk.2 allLt_nil)
  · unfold SegDesc.trlBytes
    split
    · exact u16_lt _ (by omega)
    · exact allLt_nil

theorem cutRec_mem (r : LR) : ∀ (ds : List SegDesc) (f : Bool) (data : Bytes) (s : TSeg), s ∈ cutRec r f ds data →
    s.d ∈ ds ∧ s.type = r.type ∧ (∀ x ∈ s.data, x ∈ data) := by
  intro ds
  induction ds with
  | nil => intro f data s h; simp [cutRec] at h
  | cons d ds ih =>
    intro f data s h
    simp only [cutRec, List.mem_cons] at h
    rcases h with rfl | h
    · exact ⟨by simp, rfl, fun x hx => List.mem_of_mem_take hx⟩
    · obtain ⟨h1, h2, h3⟩ := ih false (data.drop d.n) s h
      exact ⟨by simp [h1], h2, fun x hx => List.mem_of_mem_drop (h3 x hx)⟩

theorem cutAll_small : ∀ (recs : List LR) (dss : List (List SegDesc)), recsOK recs dss = true →
    (∀ d ∈ dss.flatten, d.segLen ≤ 16384 ∧ (∀ L, d.vr = some L → L ≤ 16384)) →
    ∀ s ∈ cutAll recs dss, s.small :=
  recsOK_ind (fun _ _ hs => nomatch hs) fun rc rs d ds dss h _ ih hb s hs => by
    obtain ⟨_, ht, hp, hall⟩ := recOK_elim h
    simp only [cutAll, List.mem_append] at hs
    rcases hs with hs | hs
    · obtain ⟨h1, h2, h3⟩ := cutRec_mem rc (d :: ds) true rc.payload s hs
      have hbd := hb s.d (by simp only [List.flatten_cons, List.mem_append]; exact Or.inl h1)
      exact ⟨List.all_eq_true.mp hall _ h1, by rw [h2]; exact ht, fun x hx => hp x (h3 x hx), hbd.1, hbd.2⟩
    · exact ih (fun d hd => hb d (by simp [hd])) s hs

theorem encodeSUL_lt (s : SULW) (h : s.conformant = true) : AllLt (encodeSUL s) := by
  have hid : s.ident.all (· < 256) = true := by
    unfold SULW.conformant at h
    simp only [Bool.and_eq_true] at h
    exact h.2
  obtain ⟨_, h2, _, ⟨a, b, hv, ha, hb⟩, _, _, h7, _, _⟩ := s.conformant_iff h
  have hfill : ∀ (l : Bytes), l.all isFill = true → AllLt l := by
    intro l hl x hx
    have := List.all_eq_true.mp hl x hx
    simp only [isFill, Bool.or_eq_true, beq_iff_eq] at this
    omega
  have hdig : ∀ n, AllLt (decDigits n) := by
    intro n x hx
    have := (decDigits_spec n).2.1 x hx
    simp only [mDigit, Bool.and_eq_true, decide_eq_true_eq] at this
    omega
  simp only [mDigit, Bool.and_eq_true, decide_eq_true_eq] at ha hb
  unfold encodeSUL
  rw [hv]
  exact .append (.append (.append (.append (.append (hfill _ h2) (hdig _))
    (.cons (by decide) (.cons (by decide) (.cons (by decide) (.cons (by omega) (.cons (by omega) allLt_nil))))))
    (by unfold AllLt; decide)) (.append (hfill _ h7) (hdig _))) (fun x hx => by simpa using List.all_eq_true.mp hid x hx)

end TD.C01
