/-
C01 — reader-object histories: every method's result is a function of the file bytes alone.
-/
import TD.C01.ObjModel
import TD.C01.Lemmas

namespace TD.C01

theorem recsR_indep (b : Bytes) (st st' : RSt) : recsR b st = recsR b st' := by
  unfold recsR vrReadR
  simp only []
  cases readVR b 80 with
  | error e => rfl
  | ok vr =>
    simp only []
    unfold lrshReadR
    cases readLRSH b (80 + 4) with
    | error e => rfl
    | ok h => rfl

theorem vrsR_indep (b : Bytes) (st st' : RSt) : vrsR b st = vrsR b st' := by
  unfold vrsR vrReadR
  simp only []
  cases readVR b 80 with
  | error e => rfl
  | ok vr => rfl

theorem lrshsR_indep (b : Bytes) (st st' : RSt) (vp vl : Nat) : lrshsR b st vp vl = lrshsR b st' vp vl := by
  unfold lrshsR vrReadR
  simp only []
  cases readVR b vp with
  | error e => rfl
  | ok vr => rfl

theorem outR_indep (b : Bytes) (st st' : RSt) (op : ROp) : outR b st op = outR b st' op := by
  cases op with
  | recs k => simp only [outR, recsR_indep b st st']
  | vrs k => simp only [outR, vrsR_indep b st st']
  | lrshs vp vl k => simp only [outR, lrshsR_indep b st st' vp vl]
  | other j => rfl

/-- a fact about lists; here every method begins with an absolute seek and re-reads the headers -/
theorem hist_pure {σ α β : Type} {run : σ → List α → List β} {out : σ → α → β} {next : σ → α → σ}
    (hnil : ∀ s, run s [] = []) (hcons : ∀ s a as, run s (a :: as) = out s a :: run (next s a) as)
    (hind : ∀ s s' a, out s a = out s' a) (s0 : σ) : ∀ (as : List α) (s : σ), run s as = as.map (out s0)
  | [], s => hnil s
  | a :: as, s => by rw [hcons, List.map_cons, hist_pure hnil hcons hind s0 as, hind s s0]

/-- on an encoded conformant file the method is the sequential read of `iter_encode` -/
theorem recsR_encode (sul : SULW) (recs : List LR) (ℓ : Layout) (hs : sul.conformant = true) (hne : recs ≠ [])
    (hc : ℓ.conformant recs = true) (st : RSt) : recsR (encode sul recs ℓ) st = (recs, none) := by
  have hc := Layout.conformant_elim hc
  obtain ⟨vr, h, e1, e2, e3, e4⟩ := enter_flat sul _ hs (cutAll_ne_nil hc.1 hne) (segsWF_cutAll recs ℓ.recs hc.1 0 hc.2)
  unfold recsR vrReadR lrshReadR encode
  simp only [e1, e2, e3, e4, Bool.not_true, Bool.false_eq_true, if_false, collect_cutAll recs ℓ.recs hc.1]

end TD.C01
