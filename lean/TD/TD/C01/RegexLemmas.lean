/-
C01 — what the label expressions capture on `fill ++ digits`, `V1.dd`, `RECORD`.
-/
import TD.C01.Regex

namespace TD.C01

def clsFill : Cls := ⟨[(32, 32), (48, 48)], false⟩      -- [0 ]  (ranges in the translator's canonical order)
def clsNZ : Cls := ⟨[(49, 57)], false⟩                  -- [1-9]
def clsD : Cls := ⟨[(48, 57)], false⟩                   -- [0-9] and \d
def clsAny : Cls := ⟨[(10, 10)], true⟩                  -- .
def clsLit (c : Nat) : Cls := ⟨[(c, c)], false⟩

/-- `^[0 ]*([1-9][0-9]*)$` -/
def itemsNum : List RItem := [.bol, .star clsFill, .gopen, .one clsNZ, .star clsD, .gclose, .eol]
/-- `^(V1.\d\d)$` -/
def itemsVersion : List RItem :=
  [.bol, .gopen, .one (clsLit 86), .one (clsLit 49), .one clsAny, .one clsD, .one clsD, .gclose, .eol]
/-- `^(RECORD)$` -/
def itemsStructure : List RItem :=
  [.bol, .gopen, .one (clsLit 82), .one (clsLit 69), .one (clsLit 67), .one (clsLit 79), .one (clsLit 82), .one (clsLit 68),
   .gclose, .eol]

theorem clsFill_has (x : Nat) : clsFill.has x = (x == 48 || x == 32) := by
  unfold Cls.has clsFill
  by_cases h1 : x = 48
  · subst h1; rfl
  · by_cases h2 : x = 32
    · subst h2; rfl
    · have : (x == 48) = false := by simp [h1]
      have : (x == 32) = false := by simp [h2]
      simp [*]
      omega

theorem clsD_has (x : Nat) : clsD.has x = (decide (48 ≤ x) && decide (x ≤ 57)) := by
  simp [Cls.has, clsD]

theorem clsNZ_has (x : Nat) : clsNZ.has x = (decide (49 ≤ x) && decide (x ≤ 57)) := by
  simp [Cls.has, clsNZ]

theorem starRems_skip (c : Cls) (x : Nat) (t : List Nat) (hx : c.has x = false) :
    ∀ (pre : List Nat), (∀ y ∈ pre, c.has y = true) → ∃ more, starRems c (pre ++ x :: t) = (x :: t) :: more := by
  intro pre
  induction pre with
  | nil => intro _; exact ⟨[], by simp [starRems, hx]⟩
  | cons y ys ih =>
    intro h
    obtain ⟨more, hm⟩ := ih (fun z hz => h z (by simp [hz]))
    refine ⟨more ++ [y :: (ys ++ x :: t)], ?_⟩
    simp [starRems, h y (by simp), hm]

theorem starRems_all (c : Cls) : ∀ (t : List Nat), (∀ y ∈ t, c.has y = true) → ∃ more, starRems c t = [] :: more := by
  intro t
  induction t with
  | nil => intro _; exact ⟨[], rfl⟩
  | cons y ys ih =>
    intro h
    obtain ⟨more, hm⟩ := ih (fun z hz => h z (by simp [hz]))
    exact ⟨more ++ [y :: ys], by simp [starRems, h y (by simp), hm]⟩

theorem head?_flatMap_cons {α β : Type} (g : α → List β) (a : α) (l : List α) (b : β) (rest : List β)
    (h : g a = b :: rest) : ((a :: l).flatMap g).head? = some b := by
  simp [List.flatMap_cons, h]

/-- the number expression on `fill ++ digits` captures the digits -/
theorem reMatch_num (fill : List Nat) (d : Nat) (t : List Nat) (hf : ∀ y ∈ fill, (y == 48 || y == 32) = true)
    (hd1 : 49 ≤ d) (hd2 : d ≤ 57) (ht : ∀ y ∈ t, (decide (48 ≤ y) && decide (y ≤ 57)) = true) :
    reMatch itemsNum (fill ++ d :: t) = some (d :: t) := by
  have hdF : clsFill.has d = false := by rw [clsFill_has]; simp; omega
  obtain ⟨more1, h1⟩ := starRems_skip clsFill d t hdF fill (fun y hy => by rw [clsFill_has]; exact hf y hy)
  obtain ⟨more2, h2⟩ := starRems_all clsD t (fun y hy => by rw [clsD_has]; exact ht y hy)
  have hNZ : clsNZ.has d = true := by rw [clsNZ_has]; simp; omega
  unfold reMatch
  have key : (matchItems (fill ++ d :: t) itemsNum (fill ++ d :: t) none none).head?
      = some ([], some fill.length, some (fill ++ d :: t).length) := by
    simp only [itemsNum, matchItems, if_true, h1]
    apply head?_flatMap_cons
    simp only [hNZ, if_true, h2, List.flatMap_cons]
    simp
    rfl
  rw [key]
  simp

theorem reMatch_version (a b : Nat) (ha : (decide (48 ≤ a) && decide (a ≤ 57)) = true)
    (hb : (decide (48 ≤ b) && decide (b ≤ 57)) = true) :
    reMatch itemsVersion [86, 49, 46, a, b] = some [86, 49, 46, a, b] := by
  have h1 : (clsLit 86).has 86 = true := by decide
  have h2 : (clsLit 49).has 49 = true := by decide
  have h3 : clsAny.has 46 = true := by decide
  have h4 : clsD.has a = true := by rw [clsD_has]; exact ha
  have h5 : clsD.has b = true := by rw [clsD_has]; exact hb
  unfold reMatch
  simp [itemsVersion, matchItems, h1, h2, h3, h4, h5]

theorem reMatch_structure : reMatch itemsStructure [82, 69, 67, 79, 82, 68] = some [82, 69, 67, 79, 82, 68] := by
  decide

end TD.C01
