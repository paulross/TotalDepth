import TD.C15.Model
import Mathlib.Tactic.Ring
import Mathlib.Tactic.Linarith
import Mathlib.Data.List.Sort
import Mathlib.Data.List.Range

/-! Arithmetic behind the selectors: ranges, the adjusted slice, the `Sample` loop invariant. -/
namespace TD.C15

theorem rangeList_length (lo hi st : Int) : (rangeList lo hi st).length = rangeLen lo hi st := by
  simp [rangeList]

theorem lt_rangeLen_iff {lo hi st : Int} (hst : 0 < st) (k : Nat) :
    k < rangeLen lo hi st ↔ lo + k * st < hi := by
  have hk : 0 ≤ (k : Int) * st := Int.mul_nonneg (Int.natCast_nonneg k) (le_of_lt hst)
  unfold rangeLen
  rw [if_pos hst]
  split
  · have hq : 0 ≤ (hi - lo - 1) / st := Int.ediv_nonneg (by omega) (le_of_lt hst)
    have : (k : Int) ≤ (hi - lo - 1) / st ↔ (k : Int) * st ≤ hi - lo - 1 := Int.le_ediv_iff_mul_le hst
    omega
  · omega

theorem mem_rangeList_pos {lo hi st : Int} (hst : 0 < st) (i : Int) :
    i ∈ rangeList lo hi st ↔ lo ≤ i ∧ i < hi ∧ (i - lo) % st = 0 := by
  simp only [rangeList, List.mem_map, List.mem_range, lt_rangeLen_iff hst]
  constructor
  · rintro ⟨k, hk, rfl⟩
    have : 0 ≤ (k : Int) * st := Int.mul_nonneg (Int.natCast_nonneg k) (le_of_lt hst)
    exact ⟨by omega, hk, by rw [add_sub_cancel_left]; exact Int.mul_emod_left _ _⟩
  · rintro ⟨h1, h2, h3⟩
    obtain ⟨q, hq⟩ := Int.dvd_of_emod_eq_zero h3
    have hq0 : 0 ≤ q := nonneg_of_mul_nonneg_right (by omega : 0 ≤ st * q) hst
    have hi : lo + (q.toNat : Int) * st = i := by
      rw [Int.toNat_of_nonneg hq0, Int.mul_comm]; omega
    exact ⟨q.toNat, by rw [hi]; exact h2, hi⟩

theorem rangeList_pairwise_pos {lo hi st : Int} (hst : 0 < st) :
    (rangeList lo hi st).Pairwise (· < ·) := by
  unfold rangeList
  rw [List.pairwise_map]
  refine List.Pairwise.imp (fun {a b} hab => ?_) List.pairwise_lt_range
  have : (a : Int) * st < (b : Int) * st := Int.mul_lt_mul_of_pos_right (by exact_mod_cast hab) hst
  omega

theorem rangeList_head? {lo hi st : Int} (h : rangeList lo hi st ≠ []) : (rangeList lo hi st).head? = some lo := by
  unfold rangeList at h ⊢
  generalize rangeLen lo hi st = m at h ⊢
  cases m with
  | zero => exact absurd rfl h
  | succ m => simp [List.range_succ_eq_map]

theorem rangeList_neg_eq (lo hi st : Int) (hst : st < 0) :
    rangeList lo hi st = (rangeList (-lo) (-hi) (-st)).map (fun x => -x) := by
  have hlen : rangeLen lo hi st = rangeLen (-lo) (-hi) (-st) := by
    unfold rangeLen
    rw [if_neg (by omega : ¬ st > 0), if_pos hst, if_pos (by omega : -st > 0),
      show lo - hi - 1 = -hi - -lo - 1 by omega]
    by_cases h : hi < lo
    · rw [if_pos h, if_pos (by omega : -lo < -hi)]
    · rw [if_neg h, if_neg (by omega : ¬ -lo < -hi)]
  unfold rangeList
  rw [hlen, List.map_map]
  refine List.map_congr_left fun k _ => ?_
  simp only [Function.comp, Int.mul_neg]
  omega

theorem mem_rangeList_neg {lo hi st : Int} (hst : st < 0) (i : Int) :
    i ∈ rangeList lo hi st ↔ hi < i ∧ i ≤ lo ∧ (lo - i) % (-st) = 0 := by
  have hm := mem_rangeList_pos (lo := -lo) (hi := -hi) (show 0 < -st by omega) (-i)
  rw [show -i - -lo = lo - i by omega] at hm
  rw [rangeList_neg_eq lo hi st hst, List.mem_map]
  constructor
  · rintro ⟨x, hx, rfl⟩
    rw [Int.neg_neg] at hm
    have := hm.1 hx
    exact ⟨by omega, by omega, this.2.2⟩
  · rintro ⟨h1, h2, h3⟩
    exact ⟨-i, hm.2 ⟨by omega, by omega, h3⟩, Int.neg_neg i⟩

theorem rangeList_pairwise_neg {lo hi st : Int} (hst : st < 0) : (rangeList lo hi st).Pairwise (· > ·) := by
  rw [rangeList_neg_eq lo hi st hst, List.pairwise_map]
  exact (rangeList_pairwise_pos (show 0 < -st by omega)).imp (fun h => by omega)

theorem eq_of_mem_iff_of_pairwise_lt {l₁ l₂ : List Int} (h₁ : l₁.Pairwise (· < ·)) (h₂ : l₂.Pairwise (· < ·))
    (h : ∀ i, i ∈ l₁ ↔ i ∈ l₂) : l₁ = l₂ := by
  refine List.Perm.eq_of_pairwise (le := (· < ·)) (fun a b _ _ h1 h2 => by omega) h₁ h₂ ?_
  exact (List.perm_ext_iff_of_nodup (h₁.imp (fun h => ne_of_lt h)) (h₂.imp (fun h => ne_of_lt h))).2 h

theorem eq_filter_range_of_pairwise_lt {l : List Int} {n : Nat} {p : Int → Prop} [DecidablePred p]
    (hs : l.Pairwise (· < ·)) (hb : ∀ i ∈ l, 0 ≤ i ∧ i < n) (hm : ∀ i, i ∈ l ↔ p i) :
    l = ((List.range n).map (fun (k : Nat) => (k : Int))).filter (fun i => decide (p i)) := by
  refine eq_of_mem_iff_of_pairwise_lt hs ?_ fun i => ?_
  · refine List.Pairwise.filter _ ?_
    rw [List.pairwise_map]
    exact List.pairwise_lt_range.imp (fun h => by exact_mod_cast h)
  · simp only [List.mem_filter, List.mem_map, List.mem_range, decide_eq_true_eq, ← hm]
    refine ⟨fun h => ⟨⟨i.toNat, ?_, ?_⟩, h⟩, fun h => h.2⟩ <;> have := hb i h <;> omega

theorem eq_filter_reverse_range_of_pairwise_gt {l : List Int} {n : Nat} {p : Int → Prop} [DecidablePred p]
    (hs : l.Pairwise (· > ·)) (hb : ∀ i ∈ l, 0 ≤ i ∧ i < n) (hm : ∀ i, i ∈ l ↔ p i) :
    l = (((List.range n).map (fun (k : Nat) => (k : Int))).reverse).filter (fun i => decide (p i)) := by
  rw [List.filter_reverse, ← eq_filter_range_of_pairwise_lt (List.pairwise_reverse.2 hs)
    (fun i hi => hb i (List.mem_reverse.1 hi)) (fun i => by rw [List.mem_reverse]; exact hm i), List.reverse_reverse]

/-- One bound of `PySlice_AdjustIndices`.  CPython's case analysis is "add the length when negative, then clamp":
into `[0, len]` for a positive step, into `[-1, len - 1]` for a negative one. -/
theorem adjust_eq_clamp (a len L H : Int) (hL : -1 ≤ L) (hL0 : L ≤ 0) (hH : len - 1 ≤ H) (hHl : H ≤ len)
    (hLH : L ≤ H) :
    (if a < 0 then (if a + len < 0 then L else a + len) else (if a ≥ len then H else a)) =
      max L (min H (if a < 0 then a + len else a)) := by
  split
  · split
    · exact (max_eq_left ((min_le_right _ _).trans (by omega))).symm
    · rw [min_eq_right (by omega), max_eq_right (by omega)]
  · split
    · rw [min_eq_left (by omega), max_eq_right hLH]
    · rw [min_eq_right (by omega), max_eq_right (by omega)]

section
variable {start stop step : Option Int} {n : Nat} {s e st : Int}

theorem sliceIndices_of_adjust (h : sliceAdjust start stop step n = .ok (s, e, st)) :
    sliceIndices start stop step n = .ok (rangeList s e st) := by
  unfold sliceIndices; rw [h]

theorem sliceCount_of_indices {l : List Int} (h : sliceIndices start stop step n = .ok l) :
    sliceCount start stop step n = .ok l.length := by
  unfold sliceCount; rw [h]

theorem sliceFirst_of_adjust (h : sliceAdjust start stop step n = .ok (s, e, st)) :
    sliceFirst start stop step n = .ok s := by
  unfold sliceFirst; rw [h]

theorem sliceStep_of_adjust (h : sliceAdjust start stop step n = .ok (s, e, st)) :
    sliceStep start stop step n = .ok st := by
  unfold sliceStep; rw [h]

theorem sliceLast_of_adjust (h : sliceAdjust start stop step n = .ok (s, e, st)) (he : e ≤ n) :
    sliceLast start stop step n = .ok (st * Int.fdiv e st - 1) := by
  unfold sliceLast; rw [h]; exact if_neg (by omega)

end

/-- Specification of Python slicing for a positive step, stated independently of CPython's branchy
`PySlice_AdjustIndices`: a bound `a` (or the default when absent) is taken relative to the end when negative and then
clamped into `[0, n]`. -/
def pyBound (a : Option Int) (dflt : Int) (n : Nat) : Int :=
  match a with
  | none => dflt
  | some a => max 0 (min (n : Int) (if a < 0 then a + n else a))

/-- The set of positions Python's `xs[start:stop:step]` picks from a sequence of length `n` (positive step). -/
def pySelected (start stop : Option Int) (st : Int) (n : Nat) (i : Int) : Prop :=
  pyBound start 0 n ≤ i ∧ i < pyBound stop n n ∧ (i - pyBound start 0 n) % st = 0

theorem pyBound_mem_range (a : Option Int) {d : Int} {n : Nat} (h0 : 0 ≤ d) (hn : d ≤ n) :
    0 ≤ pyBound a d n ∧ pyBound a d n ≤ n := by
  cases a with
  | none => exact ⟨h0, hn⟩
  | some a => exact ⟨le_max_left _ _, max_le (Int.natCast_nonneg n) (min_le_left _ _)⟩

theorem pyBound_some_of_range (a d : Int) (n : Nat) (h0 : 0 ≤ a) (h1 : a ≤ n) : pyBound (some a) d n = a := by
  show max 0 (min (n : Int) (if a < 0 then a + n else a)) = a
  rw [if_neg (by omega), min_eq_right h1, max_eq_right h0]

/-! ### Sample loop -/

/-- closed form -/
def sampleSpec (n s : Nat) : List Nat :=
  if s ≥ n then List.range n else (List.range s).map (fun k => k * n / s)

/-- Invariant on entering round `k`: `index * s + rem = k * n` with `rem < s`, hence `index = ⌊k·n/s⌋`. -/
theorem loop_inv (n s : Nat) (hs : 0 < s) (hsn : s < n) :
    ∀ (fuel k index rem : Nat), index * s + rem = k * n → rem < s → k ≤ s → s - k ≤ fuel →
      sampleLoop n s fuel index rem = ((List.range (s - k)).map (fun j => (k + j) * n / s)) := by
  intro fuel
  induction fuel with
  | zero =>
    intro k index rem h1 h2 h3 h4
    rw [show s - k = 0 by omega]
    rfl
  | succ fuel ih =>
    intro k index rem h1 h2 h3 h4
    have hidx : index = k * n / s := by
      have : k * n = s * index + rem := by rw [← h1, Nat.mul_comm]
      rw [this, Nat.mul_add_div hs, Nat.div_eq_of_lt h2]; simp
    by_cases hk : k = s
    · subst hk
      have : ¬ index < n := by
        rw [hidx, Nat.mul_div_cancel_left _ hs]; omega
      rw [sampleLoop, if_neg this, Nat.sub_self]
      rfl
    · have hklt : k < s := by omega
      have hlt : index < n := by
        rw [hidx]
        apply Nat.div_lt_of_lt_mul
        exact Nat.mul_lt_mul_of_pos_right hklt (by omega)
      unfold sampleLoop
      simp only [hlt, if_true]
      have hrec := ih (k+1) (index + n / s + (rem + n % s) / s) ((rem + n % s) % s) ?_ (Nat.mod_lt _ hs) (by omega) (by omega)
      · rw [hrec]
        have : s - k = (s - (k+1)) + 1 := by omega
        rw [this, List.range_succ_eq_map]
        simp only [List.map_cons, List.map_map, Nat.add_zero]
        refine List.cons_eq_cons.mpr ⟨hidx, ?_⟩
        apply List.map_congr_left
        intro j _
        simp only [Function.comp]
        congr 2; omega
      · have hn := Nat.div_add_mod' n s
        have hr := Nat.div_add_mod' (rem + n % s) s
        simp only [Nat.add_mul, Nat.one_mul]
        omega

theorem sample_gap (n s k : Nat) (hs : 0 < s) :
    (k + 1) * n / s = k * n / s + n / s ∨ (k + 1) * n / s = k * n / s + n / s + 1 := by
  rw [Nat.add_mul, Nat.one_mul, Nat.add_div hs]
  split <;> simp

theorem sample_mono {n s : Nat} (hs : 0 < s) (hsn : s < n) {a b : Nat} (hab : a < b) : a * n / s < b * n / s := by
  have h : a * n + s ≤ b * n := by
    have := Nat.mul_le_mul_right n (Nat.succ_le_of_lt hab)
    rw [Nat.succ_mul] at this
    omega
  calc a * n / s < a * n / s + 1 := Nat.lt_succ_self _
    _ = (a * n + s) / s := (Nat.add_div_right _ hs).symm
    _ ≤ b * n / s := Nat.div_le_div_right h

end TD.C15
