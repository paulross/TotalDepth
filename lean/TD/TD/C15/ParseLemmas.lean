import TD.C15.Model

/-! Lemmas for the option-string printer/parser round trip (core Lean only). -/
namespace TD.C15

/-- canonical text of an integer as Python's `str(int)` prints it -/
def intChars (v : Int) : List Char :=
  if v < 0 then '-' :: Nat.toDigits 10 v.natAbs else Nat.toDigits 10 v.natAbs

/-- a part of a slice option: absent is printed as `""` or `"None"` (either is accepted) -/
def partChars (useNone : Bool) : Option Int → List Char
  | none => if useNone then "None".toList else []
  | some v => intChars v

theorem digitsVal_digits (l : List Char) (a : Nat) (h : ∀ c ∈ l, c.isDigit = true) :
    digitsVal l (some a) false = some (Nat.ofDigitChars 10 l a) := by
  induction l generalizing a with
  | nil => simp [digitsVal]
  | cons c cs ih =>
    have hc : c.isDigit = true := h c (by simp)
    simp only [digitsVal, hc, if_true, Option.getD_some]
    rw [ih _ (fun d hd => h d (by simp [hd])), Nat.ofDigitChars_cons, Nat.mul_comm]

theorem digitsVal_digits_none (l : List Char) (hne : l ≠ []) (h : ∀ c ∈ l, c.isDigit = true) :
    digitsVal l none false = some (Nat.ofDigitChars 10 l 0) := by
  cases l with
  | nil => exact absurd rfl hne
  | cons c cs =>
    have hc : c.isDigit = true := h c (by simp)
    simp only [digitsVal, hc, if_true, Option.getD_none]
    rw [digitsVal_digits _ _ (fun d hd => h d (by simp [hd])), Nat.ofDigitChars_cons]

theorem digitsVal_toDigits (n : Nat) : digitsVal (Nat.toDigits 10 n) none false = some n := by
  rw [digitsVal_digits_none _ Nat.toDigits_ne_nil
    (fun c hc => Nat.isDigit_of_mem_toDigits (by decide) (by decide) hc)]
  simp

theorem isDigit_not_ws (c : Char) (h : c.isDigit = true) : isPyWs c = false := by
  simp only [Char.isDigit, Bool.and_eq_true, decide_eq_true_eq] at h
  have h1 : 48 ≤ c.val := h.1
  simp only [isPyWs, Bool.or_eq_false_iff, decide_eq_false_iff_not]
  refine ⟨⟨⟨⟨⟨⟨⟨⟨⟨?_, ?_⟩, ?_⟩, ?_⟩, ?_⟩, ?_⟩, ?_⟩, ?_⟩, ?_⟩, ?_⟩ <;> (intro he; subst he; revert h1; decide)

theorem dropWhile_of_head_false {p : Char → Bool} : ∀ (l : List Char), (∀ c ∈ l.head?, p c = false) → l.dropWhile p = l
  | [], _ => rfl
  | c :: cs, h => by simp [List.dropWhile, h c (by simp)]

theorem stripWs_id (l : List Char) (hh : ∀ c ∈ l.head?, isPyWs c = false) (hl : ∀ c ∈ l.getLast?, isPyWs c = false) :
    stripWs l = l := by
  unfold stripWs
  rw [dropWhile_of_head_false l hh, dropWhile_of_head_false l.reverse (by simpa using hl)]
  simp

theorem toDigits_head_last_not_ws (n : Nat) :
    (∀ c ∈ (Nat.toDigits 10 n).head?, isPyWs c = false) ∧ (∀ c ∈ (Nat.toDigits 10 n).getLast?, isPyWs c = false) := by
  constructor
  · intro c hc
    exact isDigit_not_ws c (Nat.isDigit_of_mem_toDigits (by decide) (by decide) (List.mem_of_mem_head? hc))
  · intro c hc
    exact isDigit_not_ws c (Nat.isDigit_of_mem_toDigits (by decide) (by decide) (List.mem_of_mem_getLast? hc))

theorem stripWs_intChars (v : Int) : stripWs (intChars v) = intChars v := by
  have hd := toDigits_head_last_not_ws v.natAbs
  have hne : Nat.toDigits 10 v.natAbs ≠ [] := Nat.toDigits_ne_nil
  unfold intChars; split
  · apply stripWs_id
    · intro c hc; simp at hc; subst hc; decide
    · intro c hc; rw [List.getLast?_cons_of_ne_nil hne] at hc; exact hd.2 c hc
  · exact stripWs_id _ hd.1 hd.2

theorem pyInt_intChars (v : Int) : pyInt (intChars v) = some v := by
  unfold pyInt
  rw [stripWs_intChars]
  unfold intChars
  by_cases hneg : v < 0
  · rw [if_pos hneg]
    simp only [digitsVal_toDigits, Option.map_some]
    have := Int.ofNat_natAbs_of_nonpos (Int.le_of_lt hneg)
    congr 1; simp only [Int.ofNat_eq_natCast]; omega
  · rw [if_neg hneg]
    have hval : (digitsVal (Nat.toDigits 10 v.natAbs) none false).map Int.ofNat = some v := by
      rw [digitsVal_toDigits]
      have := Int.natAbs_of_nonneg (Int.not_lt.1 hneg)
      simp only [Option.map_some, Int.ofNat_eq_natCast]; congr 1
    cases hcs : Nat.toDigits 10 v.natAbs with
    | nil => exact absurd hcs Nat.toDigits_ne_nil
    | cons c cs =>
      have hc : c.isDigit = true :=
        Nat.isDigit_of_mem_toDigits (b := 10) (n := v.natAbs) (by decide) (by decide) (by rw [hcs]; simp)
      have hplus : c ≠ '+' := by intro h; subst h; revert hc; decide
      have hminus : c ≠ '-' := by intro h; subst h; revert hc; decide
      rw [hcs] at hval
      split
      · rename_i r heq; simp at heq; exact absurd heq.1 hplus
      · rename_i r heq; simp at heq; exact absurd heq.1 hminus
      · exact hval

theorem intChars_no_comma (v : Int) : ',' ∉ intChars v := by
  unfold intChars
  have : ',' ∉ Nat.toDigits 10 v.natAbs := by
    intro h
    have := Nat.isDigit_of_mem_toDigits (b := 10) (by decide) (by decide) h
    revert this; decide
  split
  · intro h; simp at h; exact this h
  · exact this

theorem partChars_no_comma (u : Bool) (a : Option Int) : ',' ∉ partChars u a := by
  cases a with
  | none => unfold partChars; cases u <;> decide
  | some v => exact intChars_no_comma v

theorem intChars_ne_nil (v : Int) : intChars v ≠ [] := by
  unfold intChars; split
  · simp
  · exact Nat.toDigits_ne_nil

theorem convertPart_partChars (u : Bool) (a : Option Int) : convertPart (partChars u a) = .ok a := by
  cases a with
  | none =>
    cases u
    · simp [partChars, convertPart, stripWs]
    · have h1 : stripWs ['N', 'o', 'n', 'e'] = ['N', 'o', 'n', 'e'] := by decide
      simp [partChars, convertPart, h1]
  | some v =>
    have hp := pyInt_intChars v
    have hs := stripWs_intChars v
    have hne : intChars v ≠ [] := intChars_ne_nil v
    have hnone : intChars v ≠ ['N', 'o', 'n', 'e'] := by
      unfold intChars; split
      · intro h; simp at h
      · intro h
        have : 'N' ∈ Nat.toDigits 10 v.natAbs := by rw [h]; simp
        have := Nat.isDigit_of_mem_toDigits (b := 10) (by decide) (by decide) this
        revert this; decide
    simp only [partChars, convertPart, hs, hp]
    simp [hne, hnone]

theorem splitOnComma_go_append (l t cur : List Char) (h : ',' ∉ l) :
    splitOnComma.go (l ++ t) cur = splitOnComma.go t (l.reverse ++ cur) := by
  induction l generalizing cur with
  | nil => rfl
  | cons c cs ih =>
    have hc : c ≠ ',' := fun e => h (e ▸ List.mem_cons_self ..)
    simp only [List.cons_append, splitOnComma.go, hc, if_false]
    rw [ih _ (fun e => h (List.mem_cons_of_mem _ e))]; simp

theorem splitOnComma_three (p q r : List Char) (hp : ',' ∉ p) (hq : ',' ∉ q) (hr : ',' ∉ r) :
    splitOnComma (p ++ ',' :: (q ++ ',' :: r)) = [p, q, r] := by
  have hr' := splitOnComma_go_append r [] [] hr
  rw [List.append_nil] at hr'
  simp [splitOnComma, splitOnComma_go_append _ _ _ hp, splitOnComma_go_append _ _ _ hq, hr', splitOnComma.go]

end TD.C15
