import TD.C15.Lemmas
import TD.C15.ParseLemmas

/-!
# C15 — Frame slice and sample selectors select what they say

Property theorems only.  The model (`TD.C15.Model`) transcribes `TotalDepth/common/Slice.py`; it is tied to the
Python source by the correspondence run of `./check C15`.
-/
namespace TD.C15

/-- The adjusted bounds computed by the code are the clamped bounds of the specification. -/
theorem slice_adjust_spec (start stop step : Option Int) (n : Nat) (hst : 0 < step.getD 1) :
    sliceAdjust start stop step n = .ok (pyBound start 0 n, pyBound stop n n, step.getD 1) := by
  have hn := Int.natCast_nonneg n
  unfold sliceAdjust
  simp only [show ¬ step.getD 1 = 0 by omega, if_false, hst, if_true]
  congr 2
  · cases start with
    | none => rfl
    | some a => exact adjust_eq_clamp a n 0 n (by decide) le_rfl (by omega) le_rfl hn
  · congr 1
    cases stop with
    | none => rfl
    | some a => exact adjust_eq_clamp a n 0 n (by decide) le_rfl (by omega) le_rfl hn

/-- **Slice, membership**: an index is generated iff Python slicing selects it (every n, start, stop, step ≥ 1). -/
theorem slice_indices_mem_iff (start stop step : Option Int) (n : Nat) (hst : 0 < step.getD 1) :
    ∃ l, sliceIndices start stop step n = .ok l ∧
      (∀ i, i ∈ l ↔ pySelected start stop (step.getD 1) n i) ∧
      l.Pairwise (· < ·) ∧ (∀ i ∈ l, 0 ≤ i ∧ i < n) := by
  refine ⟨_, sliceIndices_of_adjust (slice_adjust_spec _ _ _ _ hst), mem_rangeList_pos hst,
    rangeList_pairwise_pos hst, fun i hi => ?_⟩
  have := (mem_rangeList_pos hst i).1 hi
  have hb0 := (pyBound_mem_range start le_rfl (Int.natCast_nonneg n)).1
  have hb1 := (pyBound_mem_range stop (Int.natCast_nonneg n) le_rfl).2
  omega

/-- **Slice, as a list**: the generated index list *is* the increasing enumeration of the selected positions. -/
theorem slice_indices_eq_python (start stop step : Option Int) (n : Nat) (hst : 0 < step.getD 1) :
    sliceIndices start stop step n =
      .ok (((List.range n).map (fun (k : Nat) => (k : Int))).filter
            (fun i => decide (pyBound start 0 n ≤ i ∧ i < pyBound stop n n ∧ (i - pyBound start 0 n) % (step.getD 1) = 0))) := by
  obtain ⟨l, hl, hmem, hsorted, hbnd⟩ := slice_indices_mem_iff start stop step n hst
  rw [hl]
  exact congrArg _ (eq_filter_range_of_pairwise_lt (p := fun i => pyBound start 0 n ≤ i ∧ i < pyBound stop n n ∧
    (i - pyBound start 0 n) % (step.getD 1) = 0) hsorted hbnd hmem)

/-- **Slice, reports agree**: count, first and step are consistent with the generated list. -/
theorem slice_reports_agree (start stop step : Option Int) (n : Nat) (hst : 0 < step.getD 1) :
    ∃ l, sliceIndices start stop step n = .ok l ∧
      sliceCount start stop step n = .ok l.length ∧
      sliceStep start stop step n = .ok (step.getD 1) ∧
      (∀ f, sliceFirst start stop step n = .ok f → ∀ x ∈ l.head?, x = f) ∧
      (∀ k (hk : k + 1 < l.length), l[k+1] - l[k] = step.getD 1) := by
  have hadj := slice_adjust_spec start stop step n hst
  refine ⟨_, sliceIndices_of_adjust hadj, sliceCount_of_indices (sliceIndices_of_adjust hadj), sliceStep_of_adjust hadj, ?_, ?_⟩
  · intro f hf x hx
    rw [sliceFirst_of_adjust hadj] at hf
    rw [rangeList_head? (fun h => by rw [h] at hx; cases hx)] at hx
    exact (Option.some.inj hx).symm.trans (Except.ok.inj hf)
  · intro k hk
    simp only [rangeList, List.getElem_map, List.getElem_range]
    push_cast; ring

/-- A zero step is refused (Python raises `ValueError`), never a selection. -/
theorem slice_zero_step_rejected (start stop : Option Int) (n : Nat) :
    sliceIndices start stop (some 0) n = .error .valueError := by
  simp [sliceIndices, sliceAdjust]

/-! ## Sample -/

/-- **Sample, closed form**: the loop of `Sample.gen_indices` yields `⌊k·n/N⌋` for `k = 0 … N−1` when `N < n`,
and every index when `N ≥ n`. -/
theorem sample_eq_spec (n s : Nat) (hs : 0 < s) : sampleIndices n s = sampleSpec n s := by
  unfold sampleIndices sampleSpec
  split
  · rfl
  · rename_i h
    have := loop_inv n s hs (by omega) n 0 0 0 (by simp) hs (by omega) (by omega)
    simpa using this

/-- **Sample, count**: exactly `min(N, n)` indices, and `count()` reports that number. -/
theorem sample_count (n s : Nat) (hs : 0 < s) :
    (sampleIndices n s).length = min s n ∧ sampleCount n s = (sampleIndices n s).length := by
  rw [sample_eq_spec n s hs]; unfold sampleSpec sampleCount
  split <;> simp <;> omega

/-- **Sample, shape**: strictly increasing, begins with 0 (when n > 0), inside the sequence, and consecutive gaps
are `⌊n/N⌋` or `⌊n/N⌋+1` (so they differ by at most one). -/
theorem sample_shape (n s : Nat) (hs : 0 < s) :
    (sampleIndices n s).Pairwise (· < ·) ∧
    (0 < n → (sampleIndices n s).head? = some 0) ∧
    (∀ i ∈ sampleIndices n s, i < n) ∧
    (∀ k (hk : k + 1 < (sampleIndices n s).length),
        let g := (sampleIndices n s)[k+1] - (sampleIndices n s)[k]
        let q := if s ≥ n then 1 else n / s
        g = q ∨ g = q + 1) := by
  simp only [sample_eq_spec n s hs]; unfold sampleSpec
  by_cases h : s ≥ n
  · simp only [h, if_true]
    refine ⟨List.pairwise_lt_range, ?_, fun i hi => List.mem_range.1 hi, fun k hk => by simp⟩
    intro hn
    obtain ⟨m, rfl⟩ := Nat.exists_eq_succ_of_ne_zero (Nat.ne_of_gt hn)
    simp [List.range_succ_eq_map]
  · simp only [h, if_false]
    have hsn : s < n := by omega
    refine ⟨?_, ?_, ?_, ?_⟩
    · rw [List.pairwise_map]
      exact List.pairwise_lt_range.imp (sample_mono hs hsn)
    · intro _
      obtain ⟨m, rfl⟩ := Nat.exists_eq_succ_of_ne_zero (Nat.ne_of_gt hs)
      simp [List.range_succ_eq_map]
    · intro i hi
      simp only [List.mem_map, List.mem_range] at hi
      obtain ⟨k, hk, rfl⟩ := hi
      exact Nat.div_lt_of_lt_mul (Nat.mul_lt_mul_of_pos_right hk (by omega))
    · intro k hk
      simp only [List.getElem_map, List.getElem_range]
      have hq : 1 ≤ n / s := Nat.div_pos (le_of_lt hsn) hs
      rcases sample_gap n s k hs with e | e <;> omega

/-! ## Option strings -/

/-- A string without a comma whose integer value is below one is rejected (sample size must be ≥ 1). -/
theorem parse_rejects_small_sample (cs : List Char) (v : Int) (hc : cs.contains ',' = false)
    (hv : pyInt cs = some v) (hlt : v < 1) : parseSelector cs = .error .valueError := by
  have hc' : ¬ ',' ∈ cs := by simpa using hc
  simp [parseSelector, hc', hv, hlt]

/-- A string without a comma that is not an integer is rejected. -/
theorem parse_rejects_non_integer (cs : List Char) (hc : cs.contains ',' = false)
    (hv : pyInt cs = none) : parseSelector cs = .error .valueError := by
  have hc' : ¬ ',' ∈ cs := by simpa using hc
  simp [parseSelector, hc', hv]

/-- A comma separated string is accepted only with exactly three parts, each absent/`None`/an integer. -/
theorem parse_slice_iff (cs : List Char) (hc : cs.contains ',' = true) (sel : Selector) :
    parseSelector cs = .ok sel ↔
      ∃ a b c, partsAll (splitOnComma cs) = .ok [a, b, c] ∧ sel = .slice a b c := by
  unfold parseSelector
  simp only [hc, if_true]
  constructor
  · intro h
    split at h
    · simp at h
    · rename_i a b c heq; exact ⟨a, b, c, heq, by simpa using h.symm⟩
    · simp at h
  · rintro ⟨a, b, c, h, rfl⟩
    rw [h]

/-- Accepted sample strings denote the integer they spell. -/
theorem parse_sample_iff (cs : List Char) (hc : cs.contains ',' = false) (sel : Selector) :
    parseSelector cs = .ok sel ↔ ∃ v : Int, pyInt cs = some v ∧ 1 ≤ v ∧ sel = .sample v.toNat := by
  have hc' : ¬ ',' ∈ cs := by simpa using hc
  unfold parseSelector
  simp only [List.contains_eq_mem, hc', decide_false, Bool.false_eq_true, if_false]
  constructor
  · intro h
    cases hv : pyInt cs with
    | none => simp [hv] at h
    | some v =>
      simp only [hv] at h
      split at h
      · simp at h
      · exact ⟨v, rfl, by omega, by simpa using h.symm⟩
  · rintro ⟨v, hv, h1, rfl⟩
    have : ¬ v < 1 := by omega
    simp [hv, this]

/-- **Option string round trip (slice)**: the canonical text of a slice selector — each part the decimal integer,
or absent printed as the empty string or as `None` (any of the 8 choices) — parses to the selector it denotes. -/
theorem parse_print_slice (a b c : Option Int) (ua ub uc : Bool) :
    parseSelector (partChars ua a ++ ',' :: (partChars ub b ++ ',' :: partChars uc c)) = .ok (.slice a b c) := by
  have hc : ',' ∈ partChars ua a ++ ',' :: (partChars ub b ++ ',' :: partChars uc c) := by simp
  unfold parseSelector
  simp only [List.contains_eq_mem, hc, decide_true, if_true]
  rw [splitOnComma_three _ _ _ (partChars_no_comma ua a) (partChars_no_comma ub b) (partChars_no_comma uc c)]
  simp [partsAll, convertPart_partChars]

/-- **Option string round trip (sample)**: the decimal text of `N ≥ 1` parses to `Sample(N)`. -/
theorem parse_print_sample (n : Nat) (hn : 1 ≤ n) :
    parseSelector (Nat.toDigits 10 n) = .ok (.sample n) := by
  have hi : intChars (n : Int) = Nat.toDigits 10 n := by
    have : ¬ ((n : Int) < 0) := by omega
    simp [intChars, this]
  have hc : ¬ ',' ∈ Nat.toDigits 10 n := by
    have := intChars_no_comma (n : Int)
    rwa [hi] at this
  have hp : pyInt (Nat.toDigits 10 n) = some (n : Int) := by
    have := pyInt_intChars (n : Int)
    rwa [hi] at this
  unfold parseSelector
  simp only [List.contains_eq_mem, hc, decide_false, Bool.false_eq_true, if_false, hp]
  have : ¬ ((n : Int) < 1) := by omega
  simp [this]

/-! ## Non-vacuity: the hypotheses are met by concrete, non-trivial instances. -/

example : sliceIndices (some 4) (some 10) (some 2) 20 = .ok [4, 6, 8] := by decide +kernel
example : sliceIndices (some (-7)) none (some 3) 12 = .ok [5, 8, 11] := by decide +kernel
example : sampleIndices 12 7 = [0, 1, 3, 5, 6, 8, 10] := by decide +kernel
example : parseSelector "40,-1,4".toList = .ok (.slice (some 40) (some (-1)) (some 4)) := by decide +kernel
example : parseSelector ",,".toList = .ok (.slice none none none) := by decide +kernel
example : parseSelector "64".toList = .ok (.sample 64) := by decide +kernel
example : parseSelector "1,2".toList = .error .valueError := by decide +kernel
example : parseSelector "0".toList = .error .valueError := by decide +kernel

end TD.C15
