import TD.C17.Lemmas

/-!
# C17 — Unit conversion is consistent: invertible, transitive, dimension-checked

Property theorems only.  The model (`TD.C17.Model`) transcribes `common/units.py`, `LIS/core/Units.py` and the
conversion entry points of `LIS/core/EngVal.py`; the tables `TD.Gen.C17Osdd` / `TD.Gen.C17Lis` are regenerated from
`osdd_units.json` / `__RAW_UNIT_MAP` on every run of `./check C17`, so every theorem below that mentions `osddTable`
or `lisTable` is re-proved about the table that is in the repository *now*.

All theorems are over `ℚ` (exact arithmetic, the values of the table doubles taken exactly) and hold for **all**
values.  The clause "to within floating-point rounding" of the property is *not* a theorem here (IEEE rounding of
`Float` is opaque to the kernel); it is exercised by the harness with a derived running error bound against these exact
results (see `harness/props/c17.py`).  The two statements that need no arithmetic law at all
(`convertArrayInplace_eq_convertArray`, `array_offset_branch_eq_map`) are proved for *every* number type, so they hold
bit for bit in binary64 too.
-/
namespace TD.C17

/-! ## Independent specification: an affine map through the base unit of the dimension -/

/-- value in unit `u` ↦ value in the base unit -/
def toBase (u : Unit ℚ) (v : ℚ) : ℚ := (v - u.offset) * u.scale
/-- value in the base unit ↦ value in unit `u` -/
def fromBase (u : Unit ℚ) (x : ℚ) : ℚ := x / u.scale + u.offset

def exDegC : Unit ℚ := ⟨"DEGC", "Temperature", 1, -5463 / 20⟩
def exDegF : Unit ℚ := ⟨"DEGF", "Temperature", 5 / 9, -45967 / 100⟩
def exDegK : Unit ℚ := ⟨"DEGK", "Temperature", 1, 0⟩
def exFeet : Unit ℚ := ⟨"FEET", "Length", 381 / 1250, 0⟩
def exInch : Unit ℚ := ⟨"INCH", "Length", 127 / 5000, 0⟩

theorem fromBase_toBase (u : Unit ℚ) (h : u.scale ≠ 0) (v : ℚ) : fromBase u (toBase u v) = v := by
  unfold fromBase toBase; field_simp; ring

theorem toBase_fromBase (u : Unit ℚ) (h : u.scale ≠ 0) (x : ℚ) : toBase u (fromBase u x) = x := by
  unfold fromBase toBase; field_simp; ring

example : exDegF.scale ≠ 0 := by decide +kernel

/-- **The formula as coded is the specification** (both branches of `_convert`): same dimension ⇒ the result is the
value taken to the base unit by `unit_from` and back by `unit_to`. -/
theorem convert_spec (v : ℚ) (a b : Unit ℚ) (hd : a.dim = b.dim) :
    convert v a b = .ok (fromBase b (toBase a v)) := by
  unfold convert
  rw [(sameDimension_iff a b).2 hd]
  simp only [Bool.not_true, Bool.false_eq_true, if_false, convertRaw_eq, fromBase, toBase]

example : exDegC.dim = exDegF.dim := by decide +kernel
example : convertRaw 0 exDegC exDegF = 32 := by decide +kernel
example : convertRaw 12 exFeet exInch = 144 := by decide +kernel

/-! ## The generated OSDD table -/

/-- **No zero scale** in the whole table as it is in the repository now (kernel evaluation over all rows). -/
theorem scale_ne_zero : ∀ u ∈ osddTable, u.scale ≠ 0 := by
  intro u hu
  obtain ⟨r, hr, rfl⟩ := List.mem_map.1 hu
  exact mkRat_ne_zero_of_rowOk (List.all_eq_true.1 osdd_rows_ok r hr)

/-- the table has as many entries as the generator counted (2035 for the present file) -/
theorem osdd_table_length : osddTable.length = TD.Gen.C17Osdd.rowCount := by
  simp [osddTable, osdd_row_count]

example : osddTable.length = 2035 := by rw [osdd_table_length]; rfl

/-! ## Exact laws of `convert` (all values, all units with non-zero scales) -/

/-- **Identity**: converting to the same unit returns the value. -/
theorem identity (a : Unit ℚ) (ha : a.scale ≠ 0) (v : ℚ) : convert v a a = .ok v := by
  rw [convert_spec v a a rfl, fromBase_toBase a ha]

/-- **Round trip**: there and back returns the value. -/
theorem roundtrip (a b : Unit ℚ) (ha : a.scale ≠ 0) (hb : b.scale ≠ 0) (hd : a.dim = b.dim) (v : ℚ) :
    ∃ w, convert v a b = .ok w ∧ convert w b a = .ok v := by
  refine ⟨_, convert_spec v a b hd, ?_⟩
  rw [convert_spec _ b a hd.symm, toBase_fromBase b hb, fromBase_toBase a ha]

/-- **Transitivity**: via a third unit equals directly. -/
theorem transitive (a b c : Unit ℚ) (hb : b.scale ≠ 0) (hab : a.dim = b.dim) (hbc : b.dim = c.dim) (v : ℚ) :
    ∃ w, convert v a b = .ok w ∧ convert w b c = convert v a c := by
  refine ⟨_, convert_spec v a b hab, ?_⟩
  rw [convert_spec _ b c hbc, convert_spec v a c (hab.trans hbc), toBase_fromBase b hb]

example : exDegC.scale ≠ 0 ∧ exDegF.scale ≠ 0 ∧ exDegK.scale ≠ 0 ∧ exDegC.dim = exDegF.dim ∧ exDegF.dim = exDegK.dim := by
  decide +kernel

/-- **Dimension check**: different dimensions ⇒ the units error, for every value. -/
theorem dimension_checked (a b : Unit ℚ) (h : a.dim ≠ b.dim) (v : ℚ) : convert v a b = .error .unitsDimension := by
  unfold convert
  rw [(sameDimension_eq_false_iff a b).2 h]; rfl

example : exDegC.dim ≠ exFeet.dim := by decide +kernel

/-- … and never a number: `convert` returns a value exactly when the dimensions agree. -/
theorem convert_ok_iff (a b : Unit ℚ) (v : ℚ) : (∃ w, convert v a b = .ok w) ↔ a.dim = b.dim := by
  constructor
  · rintro ⟨w, hw⟩
    by_contra h
    rw [dimension_checked a b h v] at hw
    cases hw
  · intro h; exact ⟨_, convert_spec v a b h⟩

/-- `convert_function` is refused under the same condition, when the function is requested … -/
theorem dimension_checked_function (a b : Unit ℚ) (h : a.dim ≠ b.dim) :
    ∀ f, convertFunction a b ≠ .ok f := by
  intro f
  unfold convertFunction
  rw [(sameDimension_eq_false_iff a b).2 h]; nofun

/-- … and otherwise is `convert` with the units fixed. -/
theorem convertFunction_eq_convert (a b : Unit ℚ) (h : a.dim = b.dim) :
    ∃ f, convertFunction a b = .ok f ∧ ∀ v, convert v a b = .ok (f v) := by
  simp [convertFunction, convert, (sameDimension_iff a b).2 h]

/-! ### The same laws for every entry of the generated OSDD table -/

theorem osdd_identity : ∀ a ∈ osddTable, ∀ v : ℚ, convert v a a = .ok v :=
  fun a ha v => identity a (scale_ne_zero a ha) v

theorem osdd_roundtrip : ∀ a ∈ osddTable, ∀ b ∈ osddTable, a.dim = b.dim → ∀ v : ℚ,
    ∃ w, convert v a b = .ok w ∧ convert w b a = .ok v :=
  fun a ha b hb hd v => roundtrip a b (scale_ne_zero a ha) (scale_ne_zero b hb) hd v

theorem osdd_transitive : ∀ a ∈ osddTable, ∀ b ∈ osddTable, ∀ c ∈ osddTable, a.dim = b.dim → b.dim = c.dim →
    ∀ v : ℚ, ∃ w, convert v a b = .ok w ∧ convert w b c = convert v a c :=
  fun a _ b hb c _ hab hbc v => transitive a b c (scale_ne_zero b hb) hab hbc v

theorem osdd_dimension_checked : ∀ a ∈ osddTable, ∀ b ∈ osddTable, a.dim ≠ b.dim → ∀ v : ℚ,
    convert v a b = .error .unitsDimension :=
  fun a _ b _ h v => dimension_checked a b h v

/-- the table quantifiers are not vacuous: it holds two different units of one dimension and two of different ones -/
example : ∃ a ∈ osddTable, ∃ b ∈ osddTable, a.dim = b.dim ∧ a.code ≠ b.code := by decide +kernel
example : ∃ a ∈ osddTable, ∃ b ∈ osddTable, a.dim ≠ b.dim := by decide +kernel

/-! ## Array forms = element-wise scalar form, refusal included -/

section anyNumberType
variable {α : Type} [Add α] [Sub α] [Mul α] [Div α] [BEq α] [OfNat α 0]

/-- In place and copying agree for **every** number type (no arithmetic law used: the same check and the same
operations in the same order), hence bit for bit in binary64. -/
theorem convertArrayInplace_eq_convertArray (xs : List α) (a b : Unit α) :
    convertArrayInplace xs a b = convertArray xs a b := by
  unfold convertArrayInplace convertArray
  split
  · rfl
  · split
    · simp only [List.map_map]; rfl
    · rfl

/-- In the offset branch the array forms are `map` of the scalar form for **every** number type. -/
theorem array_offset_branch_eq_map (xs : List α) (a b : Unit α) (hd : sameDimension a b = true)
    (h : (a.hasOffset || b.hasOffset) = true) :
    convertArray xs a b = .ok (xs.map (fun x => convertRaw x a b)) := by
  unfold convertArray convertRaw
  simp only [hd, Bool.not_true, Bool.false_eq_true, if_false, h, if_true]

end anyNumberType

/-- `convert_array` (copying): refused exactly when the scalar `convert` is refused (different dimensions), otherwise
`map` of the scalar `_convert` (over ℚ; the offset-free branch multiplies by the pre-divided factor, which is the same
number exactly but not in floating point). -/
theorem convertArray_eq_map (xs : List ℚ) (a b : Unit ℚ) :
    convertArray xs a b =
      if a.dim = b.dim then .ok (xs.map (fun x => convertRaw x a b)) else .error .unitsDimension := by
  unfold convertArray
  by_cases hd : a.dim = b.dim
  · rw [(sameDimension_iff a b).2 hd]
    simp only [Bool.not_true, Bool.false_eq_true, if_false, hd, if_true]
    unfold convertRaw
    split
    · rfl
    · congr 1; apply List.map_congr_left; intro x _; rw [mul_div_assoc]
  · rw [(sameDimension_eq_false_iff a b).2 hd, if_neg hd]; rfl

/-- `convert_array_inplace`: refused under the same condition, otherwise leaves `map` of the scalar `_convert`. -/
theorem convertArrayInplace_eq_map (xs : List ℚ) (a b : Unit ℚ) :
    convertArrayInplace xs a b =
      if a.dim = b.dim then .ok (xs.map (fun x => convertRaw x a b)) else .error .unitsDimension := by
  rw [convertArrayInplace_eq_convertArray, convertArray_eq_map]

/-- **Array result = the scalar results, element by element; error iff the scalar conversion errors.** -/
theorem array_elementwise (xs : List ℚ) (a b : Unit ℚ) :
    (a.dim = b.dim →
      ∃ ys, convertArray xs a b = .ok ys ∧ convertArrayInplace xs a b = .ok ys ∧ ys.length = xs.length ∧
        ∀ (i : Nat) (h : i < xs.length) (h' : i < ys.length), convert xs[i] a b = .ok ys[i]) ∧
    (a.dim ≠ b.dim →
      convertArray xs a b = .error .unitsDimension ∧ convertArrayInplace xs a b = .error .unitsDimension ∧
        ∀ x, convert x a b = .error .unitsDimension) := by
  simp only [convertArrayInplace_eq_convertArray, convertArray_eq_map]
  refine ⟨fun hd => ⟨_, if_pos hd, if_pos hd, by simp, fun i h h' => ?_⟩,
    fun hd => ⟨if_neg hd, if_neg hd, dimension_checked a b hd⟩⟩
  unfold convert
  simp [(sameDimension_iff a b).2 hd]

/-- **Dimension check of the array forms**: different dimensions ⇒ both refuse with the units error and the
in-place form leaves the caller's array as it was. -/
theorem array_dimension_checked (xs : List ℚ) (a b : Unit ℚ) (h : a.dim ≠ b.dim) :
    convertArray xs a b = .error .unitsDimension ∧ convertArrayInplace xs a b = .error .unitsDimension ∧
      arrayAfterInplace xs a b = xs := by
  obtain ⟨h1, h2, _⟩ := (array_elementwise xs a b).2 h
  refine ⟨h1, h2, ?_⟩
  unfold arrayAfterInplace; rw [h2]

/-- … and a list of numbers exactly when the dimensions agree. -/
theorem convertArray_ok_iff (xs : List ℚ) (a b : Unit ℚ) :
    (∃ ys, convertArray xs a b = .ok ys) ↔ a.dim = b.dim := by
  rw [convertArray_eq_map]
  by_cases hd : a.dim = b.dim <;> simp [hd]

/-- **Held results**: the results of a sequence of conversions are the conversions of the individual requests — a
later call has no influence on an earlier result (the model is a function; the HOLD streams of the harness check that the
arrays / `EngVal`s the Python code hands out behave like that: no shared or re-used storage). -/
theorem convertArray_results_independent (reqs : List (List ℚ × Unit ℚ × Unit ℚ)) (i : Nat) (h : i < reqs.length) :
    (reqs.map (fun r => convertArray r.1 r.2.1 r.2.2))[i]'(by simpa using h) =
      convertArray reqs[i].1 reqs[i].2.1 reqs[i].2.2 := by
  simp

example : convertArray [0, 100] exDegC exDegF = .ok [32, 212] := by decide +kernel
example : convertArrayInplace [12, 24] exFeet exInch = .ok [144, 288] := by decide +kernel
example : convertArray [1] exFeet exDegC = .error .unitsDimension := by decide +kernel
example : sameDimension exDegC exDegK = true ∧ (exDegC.hasOffset || exDegK.hasOffset) = true := by decide +kernel

/-! ## LIS: `LIS/core/Units.py` -/

/-- what the import-time asserts of the module guarantee: unit names unique in the table, category keys unique -/
def LisWF {α : Type} (t : List (LisCat α)) : Prop := (allNames t).Nodup ∧ (t.map (fun k => k.cat)).Nodup

/-- the generated LIS table is well formed (kernel evaluation) -/
theorem lisTable_wf : LisWF lisTable := lisTable_nodup

/-- **No zero multiplier** in the generated LIS table. -/
theorem lis_mult_ne_zero : ∀ k ∈ lisTable, ∀ x ∈ k.units, x.mult ≠ 0 := by
  intro k hk x hx
  obtain ⟨c, hc, rfl⟩ := List.mem_map.1 hk
  obtain ⟨r, hr, rfl⟩ := List.mem_map.1 hx
  exact mkRat_ne_zero_of_rowOk (List.all_eq_true.1 (List.all_eq_true.1 lis_rows_ok c hc) r hr)

/-- two units of one category: module `convert` reaches `UnitConvert.convert` of exactly those two entries -/
theorem lis_convert_known {α : Type} [Add α] [Sub α] [Mul α] [Div α] [OfNat α 0]
    (t : List (LisCat α)) (hwf : LisWF t) (k : LisCat α) (hk : k ∈ t)
    (x y : LisUnit α) (hx : x ∈ k.units) (hy : y ∈ k.units) (v : Option α) :
    lisConvert t v x.name y.name = .ok (x.convert v y) := by
  have hxn : x.name ∈ k.names := List.mem_map.2 ⟨x, hx, rfl⟩
  have hyn : y.name ∈ k.names := List.mem_map.2 ⟨y, hy, rfl⟩
  have hnd := names_nodup_of_mem t hwf.1 k hk
  unfold lisConvert
  rw [unitToCategory_of_mem t hwf.1 k hk _ hxn, unitToCategory_of_mem t hwf.1 k hk _ hyn]
  simp only [unitMap_of_mem t hwf.2 k hk]
  unfold LisCat.convert
  rw [unitConvertor_of_mem k hnd x hx, unitConvertor_of_mem k hnd y hy]

theorem lisTable_convert {k : LisCat ℚ} (hk : k ∈ lisTable) {x y : LisUnit ℚ} (hx : x ∈ k.units) (hy : y ∈ k.units)
    (v : ℚ) : lisConvert lisTable (some v) x.name y.name = convert v x.unit y.unit :=
  (lis_convert_known lisTable lisTable_wf k hk x y hx hy _).trans (lisUnit_convert_eq x y v).symm

/-- **LIS identity** -/
theorem lis_identity : ∀ k ∈ lisTable, ∀ x ∈ k.units, ∀ v : ℚ,
    lisConvert lisTable (some v) x.name x.name = .ok v := by
  intro k hk x hx v
  rw [lisTable_convert hk hx hx]
  exact identity x.unit (lis_mult_ne_zero k hk x hx) v

/-- **LIS round trip** for any two units of one category -/
theorem lis_roundtrip : ∀ k ∈ lisTable, ∀ x ∈ k.units, ∀ y ∈ k.units, ∀ v : ℚ,
    ∃ w, lisConvert lisTable (some v) x.name y.name = .ok w ∧ lisConvert lisTable (some w) y.name x.name = .ok v := by
  intro k hk x hx y hy v
  simp only [lisTable_convert hk hx hy, lisTable_convert hk hy hx]
  exact roundtrip x.unit y.unit (lis_mult_ne_zero k hk x hx) (lis_mult_ne_zero k hk y hy) rfl v

/-- **LIS transitivity** for any three units of one category -/
theorem lis_transitive : ∀ k ∈ lisTable, ∀ x ∈ k.units, ∀ y ∈ k.units, ∀ z ∈ k.units, ∀ v : ℚ,
    ∃ w, lisConvert lisTable (some v) x.name y.name = .ok w ∧
      lisConvert lisTable (some w) y.name z.name = lisConvert lisTable (some v) x.name z.name := by
  intro k hk x hx y hy z hz v
  simp only [lisTable_convert hk hx hy, lisTable_convert hk hy hz, lisTable_convert hk hx hz]
  exact transitive x.unit y.unit z.unit (lis_mult_ne_zero k hk y hy) rfl rfl v

/-- the quantifiers above are not vacuous -/
example : ∃ k ∈ lisTable, 3 ≤ k.units.length := by decide +kernel

/-- `val is None` converts to `0.` whatever the units (as coded) -/
theorem lis_none_is_zero : ∀ k ∈ lisTable, ∀ x ∈ k.units, ∀ y ∈ k.units,
    lisConvert lisTable none x.name y.name = .ok 0 := by
  intro k hk x hx y hy
  rw [lis_convert_known lisTable lisTable_wf k hk x y hx hy]; rfl

/-- **Unknown unit ⇒ refused** (`ExceptionUnitsUnknownUnit`), for any table, value and partner. -/
theorem unknown_unit_refused {α : Type} [Add α] [Sub α] [Mul α] [Div α] [OfNat α 0]
    (t : List (LisCat α)) (v : Option α) (u1 u2 : String)
    (h : u1 ∉ allNames t ∨ u2 ∉ allNames t) : lisConvert t v u1 u2 = .error .lisUnknownUnit := by
  unfold lisConvert
  rcases h with h | h
  · rw [(unitToCategory_eq_none_iff t u1).2 h]
  · rw [(unitToCategory_eq_none_iff t u2).2 h]
    cases unitToCategory t u1 <;> rfl

example : "XXXX" ∉ allNames lisTable := by decide +kernel

/-- … in particular an unknown unit **to itself** is refused by the module-level `convert` (the first lookup fails); only
`EngVal` short-cuts equal units (`engval_same_units`). -/
theorem unknown_unit_to_itself_refused {α : Type} [Add α] [Sub α] [Mul α] [Div α] [OfNat α 0]
    (t : List (LisCat α)) (v : Option α) (u : String) (h : u ∉ allNames t) :
    lisConvert t v u u = .error .lisUnknownUnit :=
  unknown_unit_refused t v u u (Or.inl h)

/-- **Category mismatch ⇒ refused**: two known units of different categories never give a number. The refusal is
the `ExceptionUnitsNoUnitInCategory` raised by `unitConvertor(u_2)` on the category of `u_1` — the path the code takes
(the `ExceptionUnitsMissmatchedCategory` of the docstring is constructed but not raised). -/
theorem category_mismatch_refused {α : Type} [Add α] [Sub α] [Mul α] [Div α] [OfNat α 0]
    (t : List (LisCat α)) (hwf : LisWF t) (v : Option α) (u1 u2 c1 c2 : String)
    (h1 : unitToCategory t u1 = some c1) (h2 : unitToCategory t u2 = some c2) (hne : c1 ≠ c2) :
    lisConvert t v u1 u2 = .error .lisNoUnitInCategory := by
  obtain ⟨k, hk, hkc, hu1⟩ := unitToCategory_some t u1 c1 h1
  obtain ⟨x, hx, hxn⟩ := List.mem_map.1 hu1
  have hu2 : u2 ∉ k.names := by
    intro hm
    have := unitToCategory_of_mem t hwf.1 k hk u2 hm
    rw [h2, hkc] at this
    exact hne (Option.some.inj this).symm
  have hnd := names_nodup_of_mem t hwf.1 k hk
  unfold lisConvert
  rw [h1, h2]
  simp only [← hkc, unitMap_of_mem t hwf.2 k hk]
  unfold LisCat.convert
  rw [← hxn, unitConvertor_of_mem k hnd x hx, unitConvertor_of_not_mem k u2 hu2]

example : unitToCategory lisTable "FEET" = some "LENG" ∧ unitToCategory lisTable "DEGC" = some "TEMP" := by
  decide +kernel

/-- **A number exactly for two known units of one category** (well-formed table). -/
theorem lis_convert_ok_iff {α : Type} [Add α] [Sub α] [Mul α] [Div α] [OfNat α 0]
    (t : List (LisCat α)) (hwf : LisWF t) (v : Option α) (u1 u2 : String) :
    (∃ w, lisConvert t v u1 u2 = .ok w) ↔ ∃ c, unitToCategory t u1 = some c ∧ unitToCategory t u2 = some c := by
  constructor
  · rintro ⟨w, hw⟩
    cases h1 : unitToCategory t u1 with
    | none =>
      rw [unknown_unit_refused t v u1 u2 (Or.inl ((unitToCategory_eq_none_iff t u1).1 h1))] at hw; cases hw
    | some c1 =>
      cases h2 : unitToCategory t u2 with
      | none =>
        rw [unknown_unit_refused t v u1 u2 (Or.inr ((unitToCategory_eq_none_iff t u2).1 h2))] at hw; cases hw
      | some c2 =>
        by_cases hc : c1 = c2
        · exact ⟨c1, rfl, by rw [hc]⟩
        · rw [category_mismatch_refused t hwf v u1 u2 c1 c2 h1 h2 hc] at hw; cases hw
  · rintro ⟨c, h1, h2⟩
    obtain ⟨k, hk, hkc, hu1⟩ := unitToCategory_some t u1 c h1
    obtain ⟨k', hk', hkc', hu2'⟩ := unitToCategory_some t u2 c h2
    have hkk : k' = k := by
      have := unitMap_of_mem t hwf.2 k hk
      have h' := unitMap_of_mem t hwf.2 k' hk'
      rw [hkc] at this; rw [hkc'] at h'
      exact Option.some.inj (h'.symm.trans this)
    subst hkk
    obtain ⟨x, hx, rfl⟩ := List.mem_map.1 hu1
    obtain ⟨y, hy, rfl⟩ := List.mem_map.1 hu2'
    exact ⟨_, lis_convert_known t hwf k' hk' x y hx hy v⟩

/-- every refusal of a well-formed table is a member of the units-exception family (never a bare `KeyError`) -/
theorem lis_refusal_is_units_error {α : Type} [Add α] [Sub α] [Mul α] [Div α] [OfNat α 0]
    (t : List (LisCat α)) (hwf : LisWF t) (v : Option α) (u1 u2 : String) (e : Err)
    (h : lisConvert t v u1 u2 = .error e) : e.isUnitsError = true := by
  cases h1 : unitToCategory t u1 with
  | none =>
    rw [unknown_unit_refused t v u1 u2 (Or.inl ((unitToCategory_eq_none_iff t u1).1 h1))] at h
    cases h; rfl
  | some c1 =>
    cases h2 : unitToCategory t u2 with
    | none =>
      rw [unknown_unit_refused t v u1 u2 (Or.inr ((unitToCategory_eq_none_iff t u2).1 h2))] at h
      cases h; rfl
    | some c2 =>
      by_cases hc : c1 = c2
      · obtain ⟨w, hw⟩ := (lis_convert_ok_iff t hwf v u1 u2).2 ⟨c1, h1, by rw [h2, hc]⟩
        rw [hw] at h; cases h
      · rw [category_mismatch_refused t hwf v u1 u2 c1 c2 h1 h2 hc] at h
        cases h; rfl

/-! ## LIS `EngVal`: the conversion entry points -/

section engval
variable {α : Type} [Add α] [Sub α] [Mul α] [Div α] [OfNat α 0]

/-- equal units: the value is returned untouched, before any table lookup (so also for a unit the table lacks) -/
theorem engval_same_units (t : List (LisCat α)) (e : EngVal α) : e.getInUnits t e.uom = .ok e.value := by
  simp [EngVal.getInUnits]

/-- different units: exactly the module-level `convert`, refusals included -/
theorem engval_getInUnits_eq (t : List (LisCat α)) (e : EngVal α) (u : String) (h : u ≠ e.uom) :
    e.getInUnits t u = lisConvert t (some e.value) e.uom u := by
  simp [EngVal.getInUnits, h]

/-- `convert` (in place) and `newEngValInUnits` carry the value of `getInUnits` and the requested units -/
theorem engval_forms_agree (t : List (LisCat α)) (e : EngVal α) (u : String) :
    e.convert t u = (e.getInUnits t u).map (fun v => ⟨v, u⟩) ∧
    e.newEngValInUnits t u = (e.getInUnits t u).map (fun v => ⟨v, u⟩) := by
  unfold EngVal.convert EngVal.newEngValInUnits EngVal.getInUnits
  by_cases h : u = e.uom
  · subst h; simp [Except.map]
  · simp only [bne_iff_ne, ne_eq, h, not_false_eq_true, if_true, beq_iff_eq, if_false]
    cases lisConvert t (some e.value) e.uom u <;> simp [Except.map]

/-! ### History independence of one `EngVal` object

In the model the state of the object *is* `(value, uom)`; the theorems below spell out what that means for the mutable
Python object and are what the HISTORY streams of the harness compare it with: whatever sequence of operations was
applied, every observable is the observable of a fresh object built from the final `(value, uom)`. -/

/-- reading operations do not change the object -/
theorem engval_observe_keeps_state (t : List (LisCat α)) (e : EngVal α) : e.step t .observe = e := rfl

/-- a refused in-place conversion leaves the object as it was -/
theorem engval_refused_convert_keeps_state (t : List (LisCat α)) (e : EngVal α) (u : String) (err : Err)
    (h : e.convert t u = .error err) : e.step t (.convert u) = e := by
  simp [EngVal.step, h]

/-- **History independence**: after any history the observables are those of a fresh `EngVal(value, uom)` made from
the final value and units. -/
theorem engval_history (t : List (LisCat α)) (e : EngVal α) (ops : List (EngOp α)) (u : String) :
    (e.run t ops).getInUnits t u = (EngVal.mk (e.run t ops).value (e.run t ops).uom).getInUnits t u ∧
    (e.run t ops).convert t u = (EngVal.mk (e.run t ops).value (e.run t ops).uom).convert t u ∧
    (e.run t ops).newEngValInUnits t u = (EngVal.mk (e.run t ops).value (e.run t ops).uom).newEngValInUnits t u :=
  ⟨rfl, rfl, rfl⟩

/-- two objects that reached the same value and units by different histories are indistinguishable -/
theorem engval_history_determined (t : List (LisCat α)) (e₁ e₂ : EngVal α) (ops₁ ops₂ : List (EngOp α))
    (hv : (e₁.run t ops₁).value = (e₂.run t ops₂).value) (hu : (e₁.run t ops₁).uom = (e₂.run t ops₂).uom) (u : String) :
    (e₁.run t ops₁).getInUnits t u = (e₂.run t ops₂).getInUnits t u ∧
    (e₁.run t ops₁).convert t u = (e₂.run t ops₂).convert t u := by
  rw [show e₁.run t ops₁ = ⟨(e₁.run t ops₁).value, (e₁.run t ops₁).uom⟩ from rfl, hv, hu]
  exact ⟨rfl, rfl⟩

/-- the history is the fold of single steps (each depends on the previous *state* only) -/
theorem engval_run_append (t : List (LisCat α)) (e : EngVal α) (ops₁ ops₂ : List (EngOp α)) :
    e.run t (ops₁ ++ ops₂) = (e.run t ops₁).run t ops₂ := by
  simp [EngVal.run, List.foldl_append]

end engval

/-- `*=` by a real then reading in other units = reading then scaling, for offset-free units of one category (ℚ): the
in-place arithmetic commutes with the conversion, so a stale reading would be visibly wrong. -/
theorem engval_imul_then_get : ∀ k ∈ lisTable, ∀ x ∈ k.units, ∀ y ∈ k.units, x.offs = none → y.offs = none →
    ∀ v r : ℚ, ∃ w, (⟨v, x.name⟩ : EngVal ℚ).getInUnits lisTable y.name = .ok w ∧
      (((⟨v, x.name⟩ : EngVal ℚ).step lisTable (.imulReal r)).getInUnits lisTable y.name) = .ok (w * r) := by
  intro k hk x hx y hy hxo hyo v r
  by_cases hn : y.name = x.name
  · refine ⟨v, by simp [EngVal.getInUnits, hn], by simp [EngVal.getInUnits, EngVal.step, hn]⟩
  · have h (v : ℚ) := (lisTable_convert hk hx hy v).trans (convert_spec v x.unit y.unit rfl)
    simp only [EngVal.getInUnits, EngVal.step, beq_iff_eq, hn, if_false, h]
    refine ⟨_, rfl, ?_⟩
    simp only [fromBase, toBase, LisUnit.unit, hxo, hyo, Option.getD_none]
    congr 1; ring

/-- for a unit of the table the shortcut for equal units *is* the conversion (over ℚ) -/
theorem engval_shortcut_is_conversion : ∀ k ∈ lisTable, ∀ x ∈ k.units, ∀ v : ℚ,
    (⟨v, x.name⟩ : EngVal ℚ).getInUnits lisTable x.name = lisConvert lisTable (some v) x.name x.name := by
  intro k hk x hx v
  rw [lis_identity k hk x hx v]; exact engval_same_units lisTable ⟨v, x.name⟩

end TD.C17
