import TD.C17.Model
import Mathlib.Tactic.FieldSimp
import Mathlib.Tactic.Ring
import Mathlib.Data.Rat.Defs
import Mathlib.Data.List.Nodup

/-!
# C17 — helper lemmas (a duplicate check, table facts decided by the kernel, field algebra, list lookups)
-/
namespace TD.C17

/-! ## a duplicate check in `n log n` kernel steps

`ins` puts a key into an unbalanced search tree and refuses one already on its search path. No order invariant is needed:
the search path of `y` is the same before and after `x` went in, up to the new node (`ins_ins`). -/

inductive KeyTree
  | leaf
  | node (l : KeyTree) (k : Nat) (r : KeyTree)

namespace KeyTree

def ins : KeyTree → Nat → Option KeyTree
  | leaf, x => some (node leaf x leaf)
  | node l k r, x =>
    if x < k then (l.ins x).map (node · k r) else if k < x then (r.ins x).map (node l k ·) else none

theorem ins_ins {x : Nat} : ∀ {t t' : KeyTree}, t.ins x = some t' →
    ∀ y, t'.ins y = none ↔ y = x ∨ t.ins y = none
  | leaf, _, h, y => by
    cases h; simp only [ins]; split_ifs <;> simp <;> omega
  | node l k r, _, h, y => by
    simp only [ins] at h
    split_ifs at h
    · obtain ⟨l', hl, rfl⟩ := Option.map_eq_some_iff.1 h
      simp only [ins]; split_ifs <;> simp [ins_ins hl y]
      omega
    · obtain ⟨r', hr, rfl⟩ := Option.map_eq_some_iff.1 h
      simp only [ins]; split_ifs <;> simp [ins_ins hr y]
      omega

theorem nodup_of_insAll : ∀ (l : List Nat) (t : KeyTree), (l.foldlM ins t).isSome →
    l.Nodup ∧ ∀ x ∈ l, t.ins x ≠ none
  | [], _, _ => ⟨.nil, nofun⟩
  | x :: xs, t, h => by
    rw [List.foldlM_cons] at h
    cases hx : t.ins x with
    | none => simp [hx] at h
    | some t' =>
      obtain ⟨hnd, hfresh⟩ := nodup_of_insAll xs t' (by simpa [hx] using h)
      have hins := ins_ins hx
      exact ⟨List.nodup_cons.2 ⟨fun hm => hfresh x hm ((hins x).2 (.inl rfl)), hnd⟩,
        List.forall_mem_cons.2 ⟨by simp [hx], fun y hy hn => hfresh y hy ((hins y).2 (.inr hn))⟩⟩

end KeyTree

/-- bytes, not characters: the kernel decodes UTF-8 slowly -/
def nameKey (s : String) : Nat := s.toByteArray.data.toList.foldl (fun a c => a * 256 + c.toNat) 1

theorem nodup_of_keys (l : List String) (h : ((l.map nameKey).foldlM KeyTree.ins .leaf).isSome) : l.Nodup :=
  (KeyTree.nodup_of_insAll _ _ h).1.of_map nameKey

/-! ## facts about the generated tables, evaluated by the kernel on every build -/

theorem osdd_rows_ok : TD.Gen.C17Osdd.rows.all osddRowOk = true := by decide +kernel

theorem osdd_row_count : TD.Gen.C17Osdd.rows.length = TD.Gen.C17Osdd.rowCount := by decide +kernel

theorem lis_rows_ok : lisRowsOk = true := by decide +kernel

theorem lisTable_nodup : (allNames lisTable).Nodup ∧ (lisTable.map (fun k => k.cat)).Nodup :=
  ⟨nodup_of_keys _ (by decide +kernel), nodup_of_keys _ (by decide +kernel)⟩

theorem mkRat_ne_zero_of_rowOk {n : Int} {d e : Nat} (h : (n != 0 && d != 0 && e != 0) = true) : mkRat n d ≠ 0 := by
  simp only [Bool.and_eq_true, bne_iff_ne, ne_eq] at h
  exact (Rat.mkRat_ne_zero h.1.2).2 h.1.1

/-! ## common/units.py over ℚ -/

theorem hasOffset_false {u : Unit ℚ} (h : u.hasOffset = false) : u.offset = 0 := by
  simpa [Unit.hasOffset] using h

/-- Over ℚ both branches of `_convert` are the one affine formula (the offset-free branch is taken only when both
offsets are 0). -/
theorem convertRaw_eq (v : ℚ) (a b : Unit ℚ) :
    convertRaw v a b = (v - a.offset) * a.scale / b.scale + b.offset := by
  unfold convertRaw
  split
  · rfl
  · rename_i h
    simp only [Bool.or_eq_true, not_or, Bool.not_eq_true] at h
    rw [hasOffset_false h.1, hasOffset_false h.2]; simp

theorem sameDimension_iff {α : Type} (a b : Unit α) : sameDimension a b = true ↔ a.dim = b.dim := by
  simp [sameDimension]

theorem sameDimension_eq_false_iff {α : Type} (a b : Unit α) : sameDimension a b = false ↔ a.dim ≠ b.dim := by
  rw [← Bool.not_eq_true, sameDimension_iff]

/-! ## LIS over ℚ -/

/-- one nameless dimension; `offs = None` is offset 0 -/
def LisUnit.unit (x : LisUnit ℚ) : Unit ℚ := ⟨x.name, "", x.mult, x.offs.getD 0⟩

theorem lisUnit_convert_eq (x y : LisUnit ℚ) (v : ℚ) :
    convert v x.unit y.unit = .ok (x.convert (some v) y) := by
  simp only [convert, sameDimension, LisUnit.unit, beq_self_eq_true, Bool.not_true, Bool.false_eq_true, if_false,
    convertRaw_eq, LisUnit.convert]
  cases x.offs <;> cases y.offs <;> simp

/-! ## list lookups -/

theorem nodupB_iff (l : List String) : nodupB l = true ↔ l.Nodup := by
  induction l with
  | nil => simp [nodupB]
  | cons x xs ih => simp [nodupB, ih, List.nodup_cons]

theorem find?_key_of_nodup {β : Type} (f : β → String) :
    ∀ (l : List β), (l.map f).Nodup → ∀ x ∈ l, l.find? (fun y => f y == f x) = some x
  | c :: rest, hnd, x, hx => by
    rw [List.map_cons, List.nodup_cons] at hnd
    rcases List.mem_cons.1 hx with rfl | hx
    · simp
    · have hne : f c ≠ f x := fun h => hnd.1 (h ▸ List.mem_map_of_mem hx)
      simpa [hne] using find?_key_of_nodup f rest hnd.2 x hx

section lookups
variable {α : Type}

theorem any_name_iff (k : LisCat α) (u : String) :
    k.units.any (fun x => x.name == u) = true ↔ u ∈ k.names := by
  simp only [LisCat.names, List.any_eq_true, beq_iff_eq, List.mem_map]

theorem unitToCategory_eq_find? (t : List (LisCat α)) (u : String) :
    unitToCategory t u = (t.find? (fun c => c.units.any (fun x => x.name == u))).map (fun c => c.cat) := by
  induction t with
  | nil => rfl
  | cons c rest ih => rw [unitToCategory, List.find?_cons]; split <;> simp [*]

/-- the category map knows exactly the names of the table -/
theorem unitToCategory_eq_none_iff (t : List (LisCat α)) (u : String) :
    unitToCategory t u = none ↔ u ∉ allNames t := by
  rw [unitToCategory_eq_find?, Option.map_eq_none_iff, List.find?_eq_none]
  simp only [any_name_iff, allNames, List.mem_flatMap, not_exists, not_and]

/-- a category reported by the map is that of a table entry holding the name -/
theorem unitToCategory_some (t : List (LisCat α)) (u c : String) (h : unitToCategory t u = some c) :
    ∃ k ∈ t, k.cat = c ∧ u ∈ k.names := by
  obtain ⟨k, hk, hc⟩ := Option.map_eq_some_iff.1 (unitToCategory_eq_find? t u ▸ h)
  have hu := List.find?_some hk
  exact ⟨k, List.mem_of_find?_eq_some hk, hc, (any_name_iff k u).1 hu⟩

/-- with unique names the map sends every name of an entry to that entry's category -/
theorem unitToCategory_of_mem (t : List (LisCat α)) (hnd : (allNames t).Nodup) (k : LisCat α) (hk : k ∈ t)
    (u : String) (hu : u ∈ k.names) : unitToCategory t u = some k.cat := by
  induction t with
  | nil => cases hk
  | cons c rest ih =>
    have hnd' : (c.names ++ allNames rest).Nodup := by simpa [allNames] using hnd
    unfold unitToCategory
    rcases List.mem_cons.1 hk with rfl | hk
    · simp [(any_name_iff k u).2 hu]
    · have hn : u ∉ c.names := fun hm => List.disjoint_of_nodup_append hnd' hm (List.mem_flatMap.2 ⟨k, hk, hu⟩)
      rw [if_neg (mt (any_name_iff c u).1 hn)]
      exact ih hnd'.of_append_right hk

theorem names_nodup_of_mem (t : List (LisCat α)) (hnd : (allNames t).Nodup) (k : LisCat α) (hk : k ∈ t) :
    k.names.Nodup :=
  (List.nodup_flatMap.1 hnd).1 k hk

theorem unitMap_of_mem (t : List (LisCat α)) (hnd : (t.map (fun k => k.cat)).Nodup) (k : LisCat α) (hk : k ∈ t) :
    unitMap t k.cat = some k :=
  find?_key_of_nodup (fun k : LisCat α => k.cat) t hnd k hk

theorem unitConvertor_of_mem (k : LisCat α) (hnd : k.names.Nodup) (x : LisUnit α) (hx : x ∈ k.units) :
    k.unitConvertor x.name = .ok x := by
  unfold LisCat.unitConvertor
  rw [find?_key_of_nodup (fun x : LisUnit α => x.name) k.units hnd x hx]

theorem unitConvertor_of_not_mem (k : LisCat α) (u : String) (hu : u ∉ k.names) :
    k.unitConvertor u = .error .lisNoUnitInCategory := by
  rw [LisCat.unitConvertor,
    List.find?_eq_none.2 fun x hx hxu => hu (List.mem_map.2 ⟨x, hx, by simpa using hxu⟩)]

end lookups

theorem lisWFB_iff {α : Type} (t : List (LisCat α)) :
    lisWFB t = true ↔ (allNames t).Nodup ∧ (t.map (fun k => k.cat)).Nodup := by
  simp [lisWFB, nodupB_iff]

/-- the Boolean form of `lisTable_nodup` -/
theorem lisTable_wfB : lisWFB lisTable = true := (lisWFB_iff lisTable).2 lisTable_nodup

end TD.C17
