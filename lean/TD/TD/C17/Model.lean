import TD.Gen.C17Osdd
import TD.Gen.C17Lis

/-!
# C17 — unit conversion: model of the code as it is

* `TotalDepth/common/units.py`: `Unit`, `same_dimension`, `_convert`, `convert`, `convert_function`, `convert_array`,
  `convert_array_inplace` (table: `data/osdd_units.json`, regenerated into `TD.Gen.C17Osdd` on every run);
* `TotalDepth/LIS/core/Units.py`: `UnitConvert.convert`, `UnitConvertCategory.unitConvertor/convert`, module `convert`,
  `category` (table: `__RAW_UNIT_MAP`, regenerated into `TD.Gen.C17Lis`);
* `TotalDepth/LIS/core/EngVal.py`: `convert`, `getInUnits`, `newEngValInUnits`.

Every function is written once, generically in the number type `α` (only `+ - * /`, `!= 0` are used, exactly the
operations of the Python source, in the same order).  It is instantiated at

* `Rat` (core Lean) — exact arithmetic; all theorems of `Props.lean` are about this instance, and
* `Float` (IEEE binary64, what CPython and numpy compute with) — run by the native driver, compared *bit for bit*
  with the implementation on every case of the correspondence run.

Core Lean only (the driver is compiled from this file).
-/
namespace TD.C17

/-- The exceptions the modelled code raises. -/
inductive Err
  /-- `common.units.ExceptionUnitsDimension` -/
  | unitsDimension
  /-- `LIS.core.Units.ExceptionUnitsUnknownUnit` -/
  | lisUnknownUnit
  /-- `LIS.core.Units.ExceptionUnitsNoUnitInCategory` -/
  | lisNoUnitInCategory
  /-- a bare `KeyError` from `__UNIT_MAP[c_1]` (only if the two module maps were misaligned) -/
  | keyError
deriving DecidableEq, Repr

/-- Is the exception a member of the documented units-exception family (a subclass of the module's `ExceptionUnits`)? -/
def Err.isUnitsError : Err → Bool
  | .keyError => false
  | _ => true

/-! ## common/units.py -/

/-- `class Unit(typing.NamedTuple)` — the fields the conversion uses (`name`, `standard_form` play no part). -/
structure Unit (α : Type) where
  code : String
  dim : String
  scale : α
  offset : α

section generic
variable {α : Type} [Add α] [Sub α] [Mul α] [Div α] [BEq α] [OfNat α 0]

/-- `Unit.has_offset`: `self.offset != 0.0` -/
def Unit.hasOffset (u : Unit α) : Bool := u.offset != 0

/-- `same_dimension(a, b)`: `a.dimension == b.dimension` -/
def sameDimension (a b : Unit α) : Bool := a.dim == b.dim

/-- `_convert(value, unit_from, unit_to)` — both branches as coded. -/
def convertRaw (v : α) (a b : Unit α) : α :=
  if a.hasOffset || b.hasOffset then
    ((v - a.offset) * a.scale) / b.scale + b.offset
  else
    v * a.scale / b.scale

/-- `convert(value, unit_from, unit_to)` -/
def convert (v : α) (a b : Unit α) : Except Err α :=
  if !sameDimension a b then .error .unitsDimension
  else .ok (convertRaw v a b)

/-- `convert_function(unit_from, unit_to)`: the check happens when the function is made. -/
def convertFunction (a b : Unit α) : Except Err (α → α) :=
  if !sameDimension a b then .error .unitsDimension
  else .ok (fun v => convertRaw v a b)

/-- `convert_array(array, unit_from, unit_to)` (numpy broadcasting = `map`): the dimension check of `convert`, then
the offset-free branch multiplies by the *pre-divided* factor `unit_from.scale / unit_to.scale`. -/
def convertArray (xs : List α) (a b : Unit α) : Except Err (List α) :=
  if !sameDimension a b then .error .unitsDimension
  else if a.hasOffset || b.hasOffset then
    .ok (xs.map (fun x => ((x - a.offset) * a.scale) / b.scale + b.offset))
  else
    .ok (xs.map (fun x => x * (a.scale / b.scale)))

/-- `convert_array_inplace`: the dimension check (raised before the array is touched), then four successive
whole-array updates (`-=`, `*=`, `/=`, `+=`), or one `*=`. `.ok ys`: the content of the array afterwards. -/
def convertArrayInplace (xs : List α) (a b : Unit α) : Except Err (List α) :=
  if !sameDimension a b then .error .unitsDimension
  else if a.hasOffset || b.hasOffset then
    let xs := xs.map (fun x => x - a.offset)
    let xs := xs.map (fun x => x * a.scale)
    let xs := xs.map (fun x => x / b.scale)
    .ok (xs.map (fun x => x + b.offset))
  else
    .ok (xs.map (fun x => x * (a.scale / b.scale)))

/-- the content of the caller's array after `convert_array_inplace` returned or raised -/
def arrayAfterInplace (xs : List α) (a b : Unit α) : List α :=
  match convertArrayInplace xs a b with
  | .ok ys => ys
  | .error _ => xs

/-! ## LIS/core/Units.py -/

/-- `class UnitConvert`: `name`, `mult`, `offs` (`None` for a 4-tuple). -/
structure LisUnit (α : Type) where
  name : String
  mult : α
  offs : Option α

/-- `class UnitConvertCategory`: `cat` and the `_unitMap` in insertion order. -/
structure LisCat (α : Type) where
  cat : String
  units : List (LisUnit α)

/-- `UnitConvert.convert(self, val, other)`; `val is None` gives `0.` -/
def LisUnit.convert (self : LisUnit α) (val : Option α) (other : LisUnit α) : α :=
  match val with
  | none => 0
  | some v =>
    let v := match self.offs with
      | some o => v - o
      | none => v
    let baseVal := v * self.mult
    let retVal := baseVal / other.mult
    match other.offs with
    | some o => retVal + o
    | none => retVal

/-- `__UNIT_TO_CATEGORY_MAP[u]` (a dict filled category by category; names are asserted unique at import). -/
def unitToCategory (t : List (LisCat α)) (u : String) : Option String :=
  match t with
  | [] => none
  | c :: rest => if c.units.any (fun x => x.name == u) then some c.cat else unitToCategory rest u

/-- `__UNIT_MAP[c]` -/
def unitMap (t : List (LisCat α)) (c : String) : Option (LisCat α) :=
  t.find? (fun k => k.cat == c)

/-- `UnitConvertCategory.unitConvertor(u)`: `KeyError` becomes `ExceptionUnitsNoUnitInCategory`. -/
def LisCat.unitConvertor (c : LisCat α) (u : String) : Except Err (LisUnit α) :=
  match c.units.find? (fun x => x.name == u) with
  | some x => .ok x
  | none => .error .lisNoUnitInCategory

/-- `UnitConvertCategory.convert(v, u_1, u_2)`: `self.unitConvertor(u_1).convert(v, self.unitConvertor(u_2))`
(`u_1` is looked up first). -/
def LisCat.convert (c : LisCat α) (v : Option α) (u1 u2 : String) : Except Err α :=
  match c.unitConvertor u1 with
  | .error e => .error e
  | .ok x1 =>
    match c.unitConvertor u2 with
    | .error e => .error e
    | .ok x2 => .ok (x1.convert v x2)

/-- module-level `convert(v, u_1, u_2)`. The statement under `if c_1 != c_2:` builds an
`ExceptionUnitsMissmatchedCategory` object and drops it (there is no `raise`), so it has no effect and the model has
no branch for it: a category mismatch is refused two lines later by `unitConvertor(u_2)` on the category of `u_1`. -/
def lisConvert (t : List (LisCat α)) (v : Option α) (u1 u2 : String) : Except Err α :=
  match unitToCategory t u1 with
  | none => .error .lisUnknownUnit
  | some c1 =>
    match unitToCategory t u2 with
    | none => .error .lisUnknownUnit
    | some _c2 =>
      match unitMap t c1 with
      | none => .error .keyError
      | some ucc => ucc.convert v u1 u2

/-- all unit names of one category (`UnitConvertCategory.units()`) -/
def LisCat.names (k : LisCat α) : List String := k.units.map (fun x => x.name)

/-- all unit names of the table (`units()`), in table order -/
def allNames (t : List (LisCat α)) : List String := t.flatMap LisCat.names

/-- `category(unit)` -/
def lisCategory (t : List (LisCat α)) (u : String) : Except Err String :=
  match unitToCategory t u with
  | some c => .ok c
  | none => .error .lisUnknownUnit

/-! ## LIS/core/EngVal.py (the conversion entry points) -/

structure EngVal (α : Type) where
  value : α
  uom : String

/-- `EngVal.getInUnits(theUnits)`: equal units are returned untouched *before* any table lookup. -/
def EngVal.getInUnits (t : List (LisCat α)) (e : EngVal α) (u : String) : Except Err α :=
  if u == e.uom then .ok e.value else lisConvert t (some e.value) e.uom u

/-- `EngVal.convert(theUnits)` (in place; the result is the object afterwards). -/
def EngVal.convert (t : List (LisCat α)) (e : EngVal α) (u : String) : Except Err (EngVal α) :=
  if u != e.uom then
    match lisConvert t (some e.value) e.uom u with
    | .ok v => .ok ⟨v, u⟩
    | .error err => .error err
  else .ok e

/-- `EngVal.newEngValInUnits(theUnits)` -/
def EngVal.newEngValInUnits (t : List (LisCat α)) (e : EngVal α) (u : String) : Except Err (EngVal α) :=
  if u == e.uom then .ok ⟨e.value, e.uom⟩
  else
    match lisConvert t (some e.value) e.uom u with
    | .ok v => .ok ⟨v, u⟩
    | .error err => .error err

/-! ### One `EngVal` object over time

The Python object is mutable; its whole state is the pair `(value, uom)` (there is no other attribute). A mutating
operation either completes or raises *before* the assignment, leaving the object as it was. -/

/-- the operations applied to one `EngVal` object -/
inductive EngOp (α : Type) where
  /-- `e += r`, `e -= r`, `e *= r`, `e /= r` with a real number -/
  | iaddReal (r : α) | isubReal (r : α) | imulReal (r : α) | idivReal (r : α)
  /-- `e += o`, `e -= o` with an `EngVal`: `self.value ±= other.getInUnits(self.uom)` -/
  | iaddEng (o : EngVal α) | isubEng (o : EngVal α)
  /-- `e *= o`, `e /= o` with an `EngVal`: only a dimensionless one (`uom == b'    '`), else `NotImplemented` (`TypeError`) -/
  | imulEng (o : EngVal α) | idivEng (o : EngVal α)
  /-- `e.convert(u)` -/
  | convert (u : String)
  /-- `e.value = v`, `e.uom = u` -/
  | setValue (v : α) | setUom (u : String)
  /-- anything that only reads: `getInUnits`, `newEngValInUnits`, comparisons, binary `+ - * /` -/
  | observe
deriving Inhabited

/-- the LIS dimensionless unit `DIMENSIONLESS = Mnem(b'    ')` -/
def dimensionless : String := "    "

/-- state of the object after one operation (a refused / unsupported operation leaves it unchanged) -/
def EngVal.step (t : List (LisCat α)) (e : EngVal α) : EngOp α → EngVal α
  | .iaddReal r => ⟨e.value + r, e.uom⟩
  | .isubReal r => ⟨e.value - r, e.uom⟩
  | .imulReal r => ⟨e.value * r, e.uom⟩
  | .idivReal r => ⟨e.value / r, e.uom⟩
  | .iaddEng o => match o.getInUnits t e.uom with
    | .ok w => ⟨e.value + w, e.uom⟩
    | .error _ => e
  | .isubEng o => match o.getInUnits t e.uom with
    | .ok w => ⟨e.value - w, e.uom⟩
    | .error _ => e
  | .imulEng o => if o.uom == dimensionless then ⟨e.value * o.value, e.uom⟩ else e
  | .idivEng o => if o.uom == dimensionless then ⟨e.value / o.value, e.uom⟩ else e
  | .convert u => match e.convert t u with
    | .ok e' => e'
    | .error _ => e
  | .setValue v => ⟨v, e.uom⟩
  | .setUom u => ⟨e.value, u⟩
  | .observe => e

/-- state after a whole history of operations -/
def EngVal.run (t : List (LisCat α)) (e : EngVal α) (ops : List (EngOp α)) : EngVal α := ops.foldl (EngVal.step t) e

/-- the states after each operation of a history, in order -/
def EngVal.trace (t : List (LisCat α)) (e : EngVal α) : List (EngOp α) → List (EngVal α)
  | [] => []
  | op :: ops => e.step t op :: EngVal.trace t (e.step t op) ops

end generic

/-! ## The generated tables at the two number types -/

/-- exact rational table row -/
def osddUnit (r : TD.Gen.C17Osdd.Row) : Unit Rat := ⟨r.code, r.dim, mkRat r.sn r.sd, mkRat r.on r.od⟩

/-- The OSDD table over `Rat` (the exact values of the JSON doubles), in file order. -/
def osddTable : List (Unit Rat) := TD.Gen.C17Osdd.rows.map osddUnit

def lisUnit (r : TD.Gen.C17Lis.Row) : LisUnit Rat :=
  ⟨r.name, mkRat r.mn r.md, if r.hasOffs then some (mkRat r.on r.od) else none⟩

def lisCat (c : TD.Gen.C17Lis.Cat) : LisCat Rat := ⟨c.cat, c.units.map lisUnit⟩

/-- The LIS table over `Rat`. -/
def lisTable : List (LisCat Rat) := TD.Gen.C17Lis.cats.map lisCat

/-- `n / d` as a binary64, exact when `d` is a power of two and `|n| < 2^53` (always so for the value of a double). -/
def floatOfRatio (n : Int) (d : Nat) : Float := (Float.ofInt n).scaleB (-(d.log2 : Int))

def osddUnitF (r : TD.Gen.C17Osdd.Row) : Unit Float := ⟨r.code, r.dim, floatOfRatio r.sn r.sd, floatOfRatio r.on r.od⟩
def osddTableF : Array (Unit Float) := (TD.Gen.C17Osdd.rows.map osddUnitF).toArray
def osddTableQ : Array (Unit Rat) := osddTable.toArray

def lisUnitF (r : TD.Gen.C17Lis.Row) : LisUnit Float :=
  ⟨r.name, floatOfRatio r.mn r.md, if r.hasOffs then some (floatOfRatio r.on r.od) else none⟩
def lisCatF (c : TD.Gen.C17Lis.Cat) : LisCat Float := ⟨c.cat, c.units.map lisUnitF⟩
def lisTableF : List (LisCat Float) := TD.Gen.C17Lis.cats.map lisCatF

/-! ## Table well-formedness checks (Boolean; `Lemmas.lean` proves them true of the generated tables) -/

/-- every scale is a non-zero finite number and every offset a finite number -/
def osddRowOk (r : TD.Gen.C17Osdd.Row) : Bool := r.sn != 0 && r.sd != 0 && r.od != 0

def lisRowOk (r : TD.Gen.C17Lis.Row) : Bool := r.mn != 0 && r.md != 0 && r.od != 0

/-- no repeated element (Boolean) -/
def nodupB : List String → Bool
  | [] => true
  | x :: xs => !xs.contains x && nodupB xs

/-- what the import-time `assert`s of `LIS/core/Units.py` check: unit names unique over the whole table, category
names unique (they are dictionary keys). Looks at names only. -/
def lisWFB {α : Type} (t : List (LisCat α)) : Bool := nodupB (allNames t) && nodupB (t.map (fun k => k.cat))

def lisRowsOk : Bool := TD.Gen.C17Lis.cats.all (fun c => c.units.all lisRowOk)

end TD.C17
