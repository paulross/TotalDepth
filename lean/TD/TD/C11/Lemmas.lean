import TD.C11.Model
import TD.C15.Props
import TD.C04.SliceNeg

/-! What the converters compute from the adjusted triple of a slice, for either sign of the step. -/
namespace TD.C11
open TD.C15

theorem sliceIndices_some_of_range {a b st : Int} {n : Nat} (ha : 0 ≤ a) (han : a ≤ n) (hb : 0 ≤ b) (hbn : b ≤ n)
    (hst : 0 < st) : sliceIndices (some a) (some b) (some st) n = .ok (rangeList a b st) := by
  have h := slice_adjust_spec (some a) (some b) (some st) n hst
  rw [pyBound_some_of_range a 0 n ha han, pyBound_some_of_range b n n hb hbn] at h
  exact sliceIndices_of_adjust h

section
variable {start stop step : Option Int} {n : Nat} {s e st : Int}

theorem convRowsSlice_of_adjust (h : sliceAdjust start stop step n = .ok (s, e, st)) (he : e ≤ n) :
    convRowsSlice start stop step n = sliceIndices (some s) (some (st * Int.fdiv e st)) (some st) n := by
  unfold convRowsSlice
  rw [sliceFirst_of_adjust h, sliceLast_of_adjust h he, sliceStep_of_adjust h]
  simp only [sub_add_cancel]

theorem well_section_of_adjust (h : sliceAdjust start stop step n = .ok (s, e, st)) (he : e ≤ n) :
    ∃ l, rp66RowsSlice start stop step n = .ok l ∧
      (l ≠ [] → ∃ f lst, sliceFirst start stop step n = .ok f ∧ l.head? = some f ∧
                  rp66StopIndexSlice start stop step n = .ok lst ∧ l.getLast? = some lst) := by
  refine ⟨_, sliceIndices_of_adjust h, fun hne => ?_⟩
  obtain ⟨y, hy⟩ := Option.isSome_iff_exists.1 (List.getLast?_isSome.2 hne)
  refine ⟨s, y, sliceFirst_of_adjust h, rangeList_head? hne, ?_, hy⟩
  unfold rp66StopIndexSlice
  rw [sliceIndices_of_adjust h, sliceLast_of_adjust h he]
  simp only [hy, Option.getD_some]

end

theorem pyBoundNeg_stop_le (stop : Option Int) (n : Nat) : TD.C04.pyBoundNeg stop (-1) n ≤ n := by
  have := (TD.C04.pyBoundNeg_mem_range stop (n := n) le_rfl (by omega)).2
  omega

/-- `Slice.last()` for a positive step: the stop bound rounded down to a multiple of the step, minus one. -/
theorem sliceLast_pos (start stop step : Option Int) (n : Nat) (hst : 0 < step.getD 1) :
    sliceLast start stop step n = .ok (step.getD 1 * (pyBound stop n n / step.getD 1) - 1) := by
  rw [sliceLast_of_adjust (slice_adjust_spec _ _ _ _ hst) (pyBound_mem_range stop (Int.natCast_nonneg n) le_rfl).2,
    Int.fdiv_eq_ediv_of_nonneg _ (le_of_lt hst)]

/-- The rows the LIS/BIT converters write for a slice with positive step. -/
theorem convRowsSlice_eq (start stop step : Option Int) (n : Nat) (hst : 0 < step.getD 1) :
    convRowsSlice start stop step n =
      .ok (rangeList (pyBound start 0 n) (step.getD 1 * (pyBound stop n n / step.getD 1)) (step.getD 1)) := by
  have hs := pyBound_mem_range start (n := n) le_rfl (Int.natCast_nonneg n)
  have he := pyBound_mem_range stop (n := n) (Int.natCast_nonneg n) le_rfl
  have hB0 := Int.mul_nonneg (le_of_lt hst) (Int.ediv_nonneg he.1 (le_of_lt hst))
  have hBe := Int.mul_ediv_self_le (x := pyBound stop n n) (ne_of_gt hst)
  rw [convRowsSlice_of_adjust (slice_adjust_spec start stop step n hst) he.2, Int.fdiv_eq_ediv_of_nonneg _ (le_of_lt hst)]
  exact sliceIndices_some_of_range hs.1 hs.2 hB0 (by omega) hst

/-- The idea: a term in the window `[st·⌊e/st⌋, e)`, which is shorter than a step, has the residue of `s`. -/
theorem rangeList_floor_stop {s e st : Int} (hst : 0 < st) :
    rangeList s e st = rangeList s (st * (e / st)) st ++
      (if s < e ∧ s % st < e % st then [st * (e / st) + s % st] else []) := by
  have he := Int.mul_ediv_add_emod e st
  have hs := Int.mul_ediv_add_emod s st
  have hre0 := Int.emod_nonneg e (ne_of_gt hst)
  have hrs0 := Int.emod_nonneg s (ne_of_gt hst)
  have hrs1 := Int.emod_lt_of_pos s hst
  have hre1 := Int.emod_lt_of_pos e hst
  have key : ∀ i, (i - s) % st = 0 → st * (e / st) ≤ i → i < e → i = st * (e / st) + s % st := by
    intro i hi h1 h2
    have h3 : (i - st * (e / st)) % st = s % st := by
      rw [Int.sub_mul_emod_self_left]; exact Int.emod_eq_emod_iff_emod_sub_eq_zero.2 hi
    rw [Int.emod_eq_of_lt (by omega) (by omega)] at h3
    omega
  by_cases hc : s < e ∧ s % st < e % st
  · rw [if_pos hc]
    have hmul : st * (s / st) ≤ st * (e / st) :=
      Int.mul_le_mul_of_nonneg_left (Int.ediv_le_ediv hst (le_of_lt hc.1)) (le_of_lt hst)
    refine eq_of_mem_iff_of_pairwise_lt (rangeList_pairwise_pos hst) ?_ fun i => ?_
    · refine List.pairwise_append.2 ⟨rangeList_pairwise_pos hst, List.pairwise_singleton _ _, fun a ha b hb => ?_⟩
      have := ((mem_rangeList_pos hst a).1 ha).2.1
      rw [List.mem_singleton.1 hb]; omega
    · rw [List.mem_append, List.mem_singleton, mem_rangeList_pos hst, mem_rangeList_pos hst]
      constructor
      · rintro ⟨a, b, c⟩
        by_cases hi : i < st * (e / st)
        · exact Or.inl ⟨a, hi, c⟩
        · exact Or.inr (key i c (by omega) b)
      · rintro (⟨a, b, c⟩ | rfl)
        · exact ⟨a, by omega, c⟩
        · refine ⟨by omega, by omega, ?_⟩
          rw [show st * (e / st) + s % st - s = st * (e / st - s / st) by rw [Int.mul_sub]; omega]
          exact Int.mul_emod_right _ _
  · rw [if_neg hc, List.append_nil]
    refine eq_of_mem_iff_of_pairwise_lt (rangeList_pairwise_pos hst) (rangeList_pairwise_pos hst) fun i => ?_
    rw [mem_rangeList_pos hst, mem_rangeList_pos hst]
    constructor
    · rintro ⟨a, b, c⟩
      refine ⟨a, ?_, c⟩
      by_contra hi
      have := key i c (by omega) b
      exact hc ⟨by omega, by omega⟩
    · rintro ⟨a, b, c⟩
      exact ⟨a, by omega, c⟩

/-- `Slice.last()` for a negative step (the clamped stop is at most `n - 1`, so the first branch is never taken). -/
theorem sliceLast_neg (start stop step : Option Int) (n : Nat) (hst : step.getD 1 < 0) :
    sliceLast start stop step n =
      .ok (step.getD 1 * Int.fdiv (TD.C04.pyBoundNeg stop (-1) n) (step.getD 1) - 1) :=
  sliceLast_of_adjust (TD.C04.slice_adjust_neg _ _ _ _ hst) (pyBoundNeg_stop_le stop n)

end TD.C11
