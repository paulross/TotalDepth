import TD.C11.Lemmas

/-!
# C11 — conversion to LAS keeps exactly the selected frames (selection arithmetic)

The end-to-end pipeline (file → frames → LAS text → values) is exercised by the oracle of `./check C11`; the theorems
here decide the *selection* logic of the three converters for every n, start, stop, non-zero step and sample size.
-/
namespace TD.C11
open TD.C15

/-- **RP66V1**: the rows written are exactly the indices Python slicing selects (`populate_frame_array` is driven by
`gen_indices`; corollary of C15). -/
theorem rp66_rows_eq_python (start stop step : Option Int) (n : Nat) (hst : 0 < step.getD 1) :
    ∃ l, rp66RowsSlice start stop step n = .ok l ∧ (∀ i, i ∈ l ↔ pySelected start stop (step.getD 1) n i) ∧
      l.Pairwise (· < ·) := by
  obtain ⟨l, h1, h2, h3, _⟩ := slice_indices_mem_iff start stop step n hst
  exact ⟨l, h1, h2, h3⟩

/-- **RP66V1 STRT/STOP** (after the repair of the call site): the indices whose X values are printed as STRT and STOP
are the first and the last row actually written. -/
theorem rp66_well_section_describes_rows (start stop step : Option Int) (n : Nat) (hst : 0 < step.getD 1) :
    ∃ l, rp66RowsSlice start stop step n = .ok l ∧
      (l ≠ [] → ∃ f lst, sliceFirst start stop step n = .ok f ∧ l.head? = some f ∧
                  rp66StopIndexSlice start stop step n = .ok lst ∧ l.getLast? = some lst) :=
  well_section_of_adjust (slice_adjust_spec _ _ _ _ hst) (pyBound_mem_range stop (Int.natCast_nonneg n) le_rfl).2

/-- **LIS / BIT, membership**: the rows the converters write (`xs[first : last+1 : step]`) are the selected positions
below the stop bound *rounded down to a multiple of the step*. -/
theorem conv_rows_mem_iff (start stop step : Option Int) (n : Nat) (hst : 0 < step.getD 1) :
    ∃ l, convRowsSlice start stop step n = .ok l ∧ l.Pairwise (· < ·) ∧
      ∀ i, i ∈ l ↔ (pyBound start 0 n ≤ i ∧ i < step.getD 1 * (pyBound stop n n / step.getD 1) ∧
                    (i - pyBound start 0 n) % step.getD 1 = 0) := by
  refine ⟨_, convRowsSlice_eq start stop step n hst, rangeList_pairwise_pos hst, fun i => mem_rangeList_pos hst i⟩

/-- **LIS / BIT, never a wrong frame**: every row written is a selected frame (the converters can only *drop* frames). -/
theorem conv_rows_subset_python (start stop step : Option Int) (n : Nat) (hst : 0 < step.getD 1) :
    ∃ l, convRowsSlice start stop step n = .ok l ∧ ∀ i ∈ l, pySelected start stop (step.getD 1) n i := by
  obtain ⟨l, h1, _, h3⟩ := conv_rows_mem_iff start stop step n hst
  refine ⟨l, h1, fun i hi => ?_⟩
  obtain ⟨a, b, c⟩ := (h3 i).1 hi
  have : step.getD 1 * (pyBound stop n n / step.getD 1) ≤ pyBound stop n n := Int.mul_ediv_self_le (ne_of_gt hst)
  exact ⟨a, by omega, c⟩

/-- **LIS / BIT, exact condition** (this turns defect F11 into a precise predicate): the rows written are exactly the
frames Python slicing selects **iff** the selection is empty or `stop mod step ≤ start mod step` (bounds normalised).
In particular always for `step = 1`. Otherwise the last selected frame is dropped. -/
theorem conv_rows_correct_iff (start stop step : Option Int) (n : Nat) (hst : 0 < step.getD 1) :
    convRowsSlice start stop step n = sliceIndices start stop step n ↔
      (pyBound stop n n ≤ pyBound start 0 n ∨
       pyBound stop n n % step.getD 1 ≤ pyBound start 0 n % step.getD 1) := by
  rw [convRowsSlice_eq _ _ _ _ hst, sliceIndices_of_adjust (slice_adjust_spec _ _ _ _ hst),
    rangeList_floor_stop (s := pyBound start 0 n) (e := pyBound stop n n) hst]
  by_cases hc : pyBound start 0 n < pyBound stop n n ∧ pyBound start 0 n % step.getD 1 < pyBound stop n n % step.getD 1
  · rw [if_pos hc]
    refine ⟨fun h => ?_, fun h => by omega⟩
    have := congrArg List.length (Except.ok.inj h)
    simp at this
  · rw [if_neg hc, List.append_nil]
    exact ⟨fun _ => by omega, fun _ => rfl⟩

/-- **LIS / BIT, what is lost** (the class of known finding F11, at full strength): outside the exact condition of
`conv_rows_correct_iff` the frames Python slicing selects are the rows written **followed by exactly one more frame** —
the converters lose the last selected frame and nothing else. -/
theorem conv_rows_drops_exactly_last (start stop step : Option Int) (n : Nat) (hst : 0 < step.getD 1)
    (hlt : pyBound start 0 n < pyBound stop n n)
    (hmod : pyBound start 0 n % step.getD 1 < pyBound stop n n % step.getD 1) :
    ∃ l w, convRowsSlice start stop step n = .ok l ∧ sliceIndices start stop step n = .ok (l ++ [w]) := by
  refine ⟨_, step.getD 1 * (pyBound stop n n / step.getD 1) + pyBound start 0 n % step.getD 1,
    convRowsSlice_eq _ _ _ _ hst, ?_⟩
  rw [sliceIndices_of_adjust (slice_adjust_spec _ _ _ _ hst),
    rangeList_floor_stop (s := pyBound start 0 n) (e := pyBound stop n n) hst, if_pos ⟨hlt, hmod⟩]

/-- Corollary: with step 1 (or absent) the LIS/BIT converters write exactly the selected frames. -/
theorem conv_rows_correct_step_one (start stop : Option Int) (n : Nat) :
    convRowsSlice start stop none n = sliceIndices start stop none n := by
  rw [conv_rows_correct_iff start stop none n (by simp)]
  right; simp

/-- Negation witness for F11 (kept as a known finding): `4,5,6` on ten frames selects frame 4, the LIS/BIT
converters write none. -/
theorem conv_rows_drops_frame_witness :
    convRowsSlice (some 4) (some 5) (some 6) 10 = .ok [] ∧ sliceIndices (some 4) (some 5) (some 6) 10 = .ok [4] := by
  decide +kernel

/-- **LIS / BIT, sample**: for a sample of N the rows written are at most N, strictly increasing, and begin with the
first frame (what C11 demands of a sample). -/
theorem conv_rows_sample (n s : Nat) (hs : 0 < s) :
    ∃ l, convRowsSample n s = .ok l ∧ l.length ≤ s ∧ l.Pairwise (· < ·) ∧ (0 < n → l.head? = some 0) ∧
      ∀ i ∈ l, 0 ≤ i ∧ i < n := by
  -- the rows are `range(0, E, q)` with `q ≥ 1` and `E ≤ min n (s·q)`
  have hq : (0 : Int) < (sampleStep n s : Nat) := by
    unfold sampleStep
    split
    · exact Int.one_pos
    · exact_mod_cast Nat.div_pos (by omega) hs
  have hE : 0 ≤ sampleLast n s + 1 ∧ sampleLast n s + 1 ≤ n ∧ (0 < n → 0 < sampleLast n s + 1) ∧
      sampleLast n s + 1 ≤ (s : Int) * (sampleStep n s : Nat) := by
    unfold sampleLast sampleStep
    split
    · refine ⟨by omega, by omega, by omega, ?_⟩
      rw [Nat.cast_one, Int.mul_one]; omega
    · have h1 : (n : Int) = s * ((n / s : Nat) : Int) + ((n % s : Nat) : Int) := by
        exact_mod_cast (Nat.div_add_mod n s).symm
      have h2 : ((n % s : Nat) : Int) < s := by exact_mod_cast Nat.mod_lt n hs
      exact ⟨by omega, by omega, by omega, by omega⟩
  refine ⟨_, sliceIndices_some_of_range (n := n) (Int.natCast_nonneg _) (Int.natCast_nonneg _) hE.1 hE.2.1 hq, ?_,
    rangeList_pairwise_pos hq, fun hn => ?_, fun i hi => ?_⟩
  · rw [rangeList_length]
    refine Nat.le_of_not_lt fun h => ?_
    have := (lt_rangeLen_iff hq s).1 h
    simp only [sampleFirst, Nat.cast_zero] at this
    have := hE.2.2.2
    omega
  · refine rangeList_head? (List.ne_nil_of_mem ((mem_rangeList_pos hq _).2 ⟨le_rfl, hE.2.2.1 hn, ?_⟩))
    rw [Int.sub_self]; rfl
  · have := (mem_rangeList_pos hq i).1 hi
    simp only [sampleFirst, Nat.cast_zero] at this
    omega

/-- **RP66V1 STOP for a sample**: the index whose X is printed as STOP is the last row written. -/
theorem rp66_sample_stop_is_last_row (n s : Nat) (h : rp66RowsSample n s ≠ []) :
    (rp66RowsSample n s).getLast? = some (rp66StopIndexSample n s).toNat ∧ 0 ≤ rp66StopIndexSample n s := by
  unfold rp66StopIndexSample rp66RowsSample at *
  cases hl : (sampleIndices n s).getLast? with
  | none => simp [List.getLast?_eq_none_iff] at hl; exact absurd hl h
  | some y => simp

/-! ## Negative steps (`start,stop,-k` are Python slices too: rows come out in reverse order) -/

open TD.C04 in
/-- **RP66V1, negative step**: the rows written are exactly the positions Python slicing selects, strictly decreasing. -/
theorem rp66_rows_eq_python_neg (start stop step : Option Int) (n : Nat) (hst : step.getD 1 < 0) :
    ∃ l, rp66RowsSlice start stop step n = .ok l ∧ (∀ i, i ∈ l ↔ pySelectedNeg start stop (step.getD 1) n i) ∧
      l.Pairwise (· > ·) ∧ (∀ i ∈ l, 0 ≤ i ∧ i < n) :=
  slice_indices_mem_iff_neg start stop step n hst

open TD.C04 in
/-- **RP66V1 STRT/STOP, negative step**: the indices whose X values are printed as STRT and STOP are the first and the
last row actually written. -/
theorem rp66_well_section_describes_rows_neg (start stop step : Option Int) (n : Nat) (hst : step.getD 1 < 0) :
    ∃ l, rp66RowsSlice start stop step n = .ok l ∧
      (l ≠ [] → ∃ f lst, sliceFirst start stop step n = .ok f ∧ l.head? = some f ∧
                  rp66StopIndexSlice start stop step n = .ok lst ∧ l.getLast? = some lst) :=
  well_section_of_adjust (slice_adjust_neg _ _ _ _ hst) (pyBoundNeg_stop_le stop n)

open TD.C04 in
/-- **BIT (and the slice handed to LIS), negative step, exactly**: the sliced rows are Python slicing from the clamped
start down to `step * floor(stop' / step)` (the clamped stop rounded *up* to a multiple of |step|; `-1` for
`stop' = step = -1`), that value being interpreted once more as a Python bound — a `-1` there means "the last element". -/
theorem conv_rows_neg_unfold (start stop step : Option Int) (n : Nat) (hst : step.getD 1 < 0) :
    convRowsSlice start stop step n =
      sliceIndices (some (pyBoundNeg start ((n : Int) - 1) n))
        (some (step.getD 1 * Int.fdiv (pyBoundNeg stop (-1) n) (step.getD 1))) (some (step.getD 1)) n :=
  convRowsSlice_of_adjust (slice_adjust_neg _ _ _ _ hst) (pyBoundNeg_stop_le stop n)

/-- Witnesses for the negative-step classes (known findings `C11-bit-negative-step-rows-lost`,
`C11-lis-negative-step-unsupported`): `,,-1` loses every row (IndexError in BIT), `,,-3` loses the last one, `8,2,-2` is
right, `-100,,-2` would slice five rows although nothing is selected (BIT writes nothing: `count()` is 0); LIS raises as
soon as its frame set is not empty. -/
theorem conv_rows_neg_witnesses :
    (convRowsSlice none none (some (-1)) 10 = .ok [] ∧ sliceIndices none none (some (-1)) 10 = .ok [9, 8, 7, 6, 5, 4, 3, 2, 1, 0] ∧
      bitOutSlice none none (some (-1)) 10 = .ok .indexError) ∧
    (convRowsSlice none none (some (-3)) 10 = .ok [9, 6, 3] ∧ sliceIndices none none (some (-3)) 10 = .ok [9, 6, 3, 0]) ∧
    (bitOutSlice (some 8) (some 2) (some (-2)) 10 = .ok (.rows [8, 6, 4]) ∧ sliceIndices (some 8) (some 2) (some (-2)) 10 = .ok [8, 6, 4]) ∧
    (convRowsSlice (some (-100)) none (some (-2)) 10 = .ok [9, 7, 5, 3, 1] ∧ sliceIndices (some (-100)) none (some (-2)) 10 = .ok [] ∧
      bitOutSlice (some (-100)) none (some (-2)) 10 = .ok (.rows [])) ∧
    (lisOutSlice [5, 5] (some 8) (some 2) (some (-2)) 10 = .ok .planError ∧
      lisOutSlice [2, 2, 2, 2, 2] (some 8) (some 2) (some (-2)) 10 = .ok (.rows [4, 6, 8]) ∧
      lisOutSlice [5, 5] (some 5) (some 4) (some (-3)) 10 = .ok (.rows []) ∧
      sliceIndices (some 5) (some 4) (some (-3)) 10 = .ok [5] ∧ lisOutSlice [7, 7, 6] (some 4) (some 10) (some 2) 20 = .ok (.rows [4, 6, 8])) := by
  decide +kernel

/-- **LIS, negative step, exactly**: with `l = range(first, last+1, step)` (no wrapping): nothing is written when `l` is
empty, the plan raises when a data record holds two frames of `l`, otherwise the frames of `l` are written in *ascending*
order. In no case with two or more selected frames is the Python selection (descending) written. -/
theorem lis_neg_step_outcome (fpr : List Nat) (start stop step : Option Int) (n : Nat) (hst : step.getD 1 < 0) :
    ∃ l, l = rangeList (TD.C04.pyBoundNeg start ((n : Int) - 1) n)
              (step.getD 1 * Int.fdiv (TD.C04.pyBoundNeg stop (-1) n) (step.getD 1)) (step.getD 1) ∧
      l.Pairwise (· > ·) ∧
      lisOutSlice fpr start stop step n =
        .ok (if l = [] then .rows [] else if sharesRecord fpr l then .planError else .rows l.reverse) := by
  have hadj := TD.C04.slice_adjust_neg start stop step n hst
  refine ⟨_, rfl, rangeList_pairwise_neg hst, ?_⟩
  unfold lisOutSlice
  rw [sliceFirst_of_adjust hadj, sliceLast_neg _ _ _ _ hst, sliceStep_of_adjust hadj]
  simp only [sub_add_cancel, show step.getD 1 < 1 by omega, if_true, ← rangeList_length, List.length_eq_zero_iff]
  rw [apply_ite Except.ok, apply_ite Except.ok]

/-! ## Non-vacuity -/
example : convRowsSlice none none (some 3) 10 = .ok [0, 3, 6] ∧ sliceIndices none none (some 3) 10 = .ok ([0, 3, 6] ++ [9]) := by decide +kernel
example : pyBound (none : Option Int) 0 10 < pyBound (none : Option Int) 10 10 ∧
    pyBound (none : Option Int) 0 10 % 3 < pyBound (none : Option Int) 10 10 % 3 := by decide +kernel
example : rp66RowsSample 12 7 = [0, 1, 3, 5, 6, 8, 10] ∧ rp66StopIndexSample 12 7 = 10 := by decide +kernel
example : convRowsSlice (some 4) (some 10) (some 2) 20 = .ok [4, 6, 8] := by decide +kernel
example : convRowsSlice none none (some 3) 10 = .ok [0, 3, 6] ∧ sliceIndices none none (some 3) 10 = .ok [0, 3, 6, 9] := by decide +kernel
example : convRowsSample 12 7 = .ok [0, 1, 2, 3, 4, 5] := by decide +kernel
example : rp66StopIndexSlice none none (some 3) 10 = .ok 9 := by decide +kernel
example : rp66RowsSlice (some 8) (some 2) (some (-2)) 10 = .ok [8, 6, 4] ∧ rp66StopIndexSlice (some 8) (some 2) (some (-2)) 10 = .ok 4 := by decide +kernel

end TD.C11
