import TD.C13.Model
import TD.C13.Spec

/-!
# C13 — what the reader must report, and the lemmas of the round trip

The output side of the specification (`PassC.wf`, `expectedPass`, `expectedFrom`, `xSpec` and what they rest on) is here,
among the lemmas that follow the reader through an encoded file.
-/
namespace TD.C13
open TD.C13.Spec

/-! ## TIF walker on a laid-out record list -/

/-- what `yield_tif_blocks` yields for a record list: type 0 → DATA, first non-zero type → END_LOG_PASS,
a non-zero type after a non-zero type → END_FILE (and stop); running out of bytes → END_FILE. -/
def classify : Nat → List (Nat × List Nat) → List Block
  | _, [] => [⟨.endFile, []⟩]
  | pt, (typ, pl) :: rs =>
    if typ = 0 then ⟨.data, pl⟩ :: classify typ rs
    else if pt ≠ 0 then [⟨.endFile, pl⟩]
    else ⟨.endLogPass, pl⟩ :: classify typ rs

theorem digits4 (n b : Nat) :
    n % b + b * (n / b % b) + b * b * (n / (b * b) % b) + b * b * b * (n / (b * b * b) % b) = n % (b * b * b * b) := by
  rw [← Nat.mod_mul, ← Nat.mod_mul, ← Nat.mod_mul]

theorem u32le_append (pre l : List Nat) (i : Nat) : u32le (pre ++ l) (pre.length + i) = u32le l i := by
  simp only [u32le, List.getD_eq_getElem?_getD, Nat.add_assoc, List.getElem?_append_right (Nat.le_add_right _ _),
    Nat.add_sub_cancel_left]

theorem u32le_u32bytes (n : Nat) (suf : List Nat) (h : n < 2 ^ 32) : u32le (u32bytes n ++ suf) 0 = n :=
  (digits4 n 256).trans (Nat.mod_eq_of_lt h)

theorem walk_step (fuel tell typ prev : Nat) (pv : Marker) (m pl more : List Nat) (hm : m.length = 12)
    (hpv : pv.next = tell) (h0 : u32le m 0 = typ) (h4 : u32le m 4 = prev) (h8 : u32le m 8 = tell + 12 + pl.length) :
    walk (fuel + 1) (m ++ (pl ++ more)) tell pv =
      if typ = 0 then consBlock ⟨.data, pl⟩ (walk fuel more (tell + 12 + pl.length) ⟨tell, typ, prev, tell + 12 + pl.length⟩)
      else if pv.typ ≠ 0 then ([⟨.endFile, pl⟩], none)
      else consBlock ⟨.endLogPass, pl⟩ (walk fuel more (tell + 12 + pl.length) ⟨tell, typ, prev, tell + 12 + pl.length⟩) := by
  have hplen : ((tell + 12 + pl.length : Nat) : Int) - (tell : Int) - 12 = (pl.length : Int) := by omega
  have hneg : ¬ ((pl.length : Int) < 0) := by omega
  rw [walk]
  simp only [List.take_left' hm, List.drop_left' hm, hm, Nat.lt_irrefl, if_false, hpv, h0, h4, h8, hplen, hneg,
    Int.toNat_natCast, List.take_left', List.drop_left', ne_eq, not_true_eq_false, and_false, and_not_self]

theorem u32le_marker (a b c : Nat) (ha : a < 2 ^ 32) (hb : b < 2 ^ 32) (hc : c < 2 ^ 32) :
    u32le (u32bytes a ++ (u32bytes b ++ u32bytes c)) 0 = a ∧ u32le (u32bytes a ++ (u32bytes b ++ u32bytes c)) 4 = b ∧
      u32le (u32bytes a ++ (u32bytes b ++ u32bytes c)) 8 = c :=
  ⟨u32le_u32bytes a _ ha, (u32le_append (u32bytes a) _ 0).trans (u32le_u32bytes b _ hb),
    (u32le_append (u32bytes a) _ 4).trans ((u32le_append (u32bytes b) _ 0).trans (u32le_u32bytes c [] hc))⟩

theorem layout_length_cons (tell prev typ : Nat) (pl : List Nat) (rs : List (Nat × List Nat)) :
    (layout tell prev ((typ, pl) :: rs)).length
      = pl.length + (layout (tell + 12 + pl.length) tell rs).length + 12 := by
  simp only [layout, u32bytes, List.cons_append, List.nil_append, List.length_cons, List.length_append]

theorem walk_layout (recs : List (Nat × List Nat)) :
    ∀ (fuel tell prev : Nat) (pv : Marker), recs.length < fuel → pv.next = tell →
      tell + (layout tell prev recs).length < 2 ^ 32 → prev < 2 ^ 32 → (∀ r ∈ recs, r.1 < 2 ^ 32) →
      walk fuel (layout tell prev recs) tell pv = (classify pv.typ recs, none) := by
  induction recs with
  | nil =>
    intro fuel tell prev pv hf _ _ _ _
    cases fuel with
    | zero => exact absurd hf (Nat.not_lt_zero _)
    | succ f => rfl
  | cons r rs ih =>
    obtain ⟨typ, pl⟩ := r
    intro fuel tell prev pv hf hpv hsz hprev hty
    cases fuel with
    | zero => exact absurd hf (Nat.not_lt_zero _)
    | succ f =>
    rw [layout_length_cons] at hsz
    have ⟨hnext, hsz', htell⟩ : tell + 12 + pl.length < 2 ^ 32 ∧
        tell + 12 + pl.length + (layout (tell + 12 + pl.length) tell rs).length < 2 ^ 32 ∧ tell < 2 ^ 32 := by omega
    obtain ⟨h0, h4, h8⟩ := u32le_marker typ prev (tell + 12 + pl.length) (hty (typ, pl) (.head _)) hprev hnext
    have hlay : layout tell prev ((typ, pl) :: rs) = (u32bytes typ ++ (u32bytes prev ++ u32bytes (tell + 12 + pl.length)))
        ++ (pl ++ layout (tell + 12 + pl.length) tell rs) := by simp only [layout, List.append_assoc]
    rw [hlay, walk_step f tell typ prev pv _ pl _ rfl hpv h0 h4 h8,
      ih f (tell + 12 + pl.length) tell ⟨tell, typ, prev, tell + 12 + pl.length⟩ (Nat.lt_of_succ_lt_succ hf) rfl hsz'
        htell (fun r hr => hty r (.tail _ hr)), classify]
    by_cases ht : typ = 0
    · rw [if_pos ht, if_pos ht]; rfl
    · rw [if_neg ht, if_neg ht]
      by_cases hp : pv.typ ≠ 0
      · rw [if_pos hp, if_pos hp]
      · rw [if_neg hp, if_neg hp]; rfl

/-! ## Header block -/

theorem readN_append (n : Nat) (xs r : List Nat) (h : xs.length = n) : readN n (xs ++ r) = .ok (xs, r) := by
  subst h
  simp [readN]

theorem readU16be_ok (rest : List Nat) (h : 2 ≤ rest.length) :
    readU16be rest = .ok (256 * rest.getD 0 0 + rest.getD 1 0) := if_neg (Nat.not_lt.2 h)

theorem readU16be_u16be (c : Nat) (r : List Nat) (hc : c < 65536) : readU16be (u16be c ++ r) = .ok c :=
  (readU16be_ok (u16be c ++ r) (Nat.le_add_left 2 r.length)).trans
    (congrArg Except.ok ((Nat.add_comm _ _).trans (Nat.mod_mul.symm.trans (Nat.mod_eq_of_lt hc))))

/-- a channel name as the header stores it: four ASCII bytes -/
def nameOk (nm : List Nat) : Prop := nm.length = 4 ∧ ∀ b ∈ nm, b < 128

theorem readNames_flatten (names : List (List Nat)) (r : List Nat) (h : ∀ nm ∈ names, nameOk nm) :
    readNames names.length (names.flatten ++ r) = .ok (names, r) := by
  induction names with
  | nil => simp [readNames]
  | cons nm rest ih =>
    have hnm := h nm (by simp)
    have hany : nm.any (fun b => decide (128 ≤ b)) = false := by
      rw [List.any_eq_false]; intro b hb; have := hnm.2 b hb; simp; omega
    simp only [List.length_cons, List.flatten_cons, List.append_assoc, readNames]
    rw [readN_append 4 nm _ hnm.1]
    simp only [bind, Except.bind, hany]
    rw [ih (fun x hx => h x (by simp [hx]))]
    rfl

/-- the header decoder applied to a stored word -/
def ibmWord (w : Word) : Fl := bytesToFloat w.b0 w.b1 w.b2 w.b3

/-- the frame decoder (as coded) applied to a stored word -/
def genWord (w : Word) : Fl := genFloat w.b0 w.b1 w.b2 w.b3

theorem readFloats_words (ws : List Word) (r : List Nat) :
    readFloats ws.length (words ws ++ r) = .ok (ws.map ibmWord, r) := by
  induction ws with
  | nil => rfl
  | cons w rest ih =>
    have hr := readN_append 4 w.bytes (words rest ++ r) rfl
    rw [show words (w :: rest) ++ r = w.bytes ++ (words rest ++ r) from List.append_assoc ..]
    simp only [List.length_cons, readFloats, hr, ih, bind, Except.bind]
    rfl

/-- well-formed abstract content of one log pass -/
structure Spec.PassC.wf (p : PassC) : Prop where
  head : p.head.length = 4
  desc : p.desc.length = 72
  ua : p.ua.length = 5
  ub : p.ub.length = 75
  uc : p.uc.length = 8
  null : p.null.length = 2
  nch_pos : 0 < p.names.length
  nch_le : p.names.length ≤ 20
  names : ∀ nm ∈ p.names, nameOk nm
  nodup : hasDup (xIdent :: p.names) = false
  filler : p.filler.length = 4 * (20 - p.names.length)
  range : p.range.length = 5
  /-- every block has one column per channel, all of the same length -/
  blocks : ∀ b ∈ p.blocks, b.length = p.names.length ∧ ∃ nf, ∀ col ∈ b, col.length = nf

theorem chanWords_append (nch : Nat) (xs ys : List (List (List Word))) :
    chanWords nch (xs ++ ys) = List.zipWith (· ++ ·) (chanWords nch xs) (chanWords nch ys) := by
  simp only [chanWords, List.flatMap_append, List.zipWith_map, List.zipWith_self]

theorem map_range_getD {α : Type} (l : List (List α)) :
    (List.range l.length).map (fun c => l.getD c []) = l := by
  apply List.ext_getElem (by simp)
  intro i h1 h2
  simp [h2]

theorem chanWords_single (b : List (List Word)) : chanWords b.length [b] = b := by
  simp only [chanWords, List.flatMap_cons, List.flatMap_nil, List.append_nil, map_range_getD]

theorem chanWords_cons {nch : Nat} (b : List (List Word)) (bs : List (List (List Word))) (h : b.length = nch) :
    chanWords nch (b :: bs) = List.zipWith (· ++ ·) b (chanWords nch bs) := by
  subst h
  rw [← List.singleton_append, chanWords_append, chanWords_single]

theorem chanWords_nil {nch : Nat} (chans : List (List Word)) (hl : chans.length = nch) (he : ∀ c ∈ chans, c = []) :
    chanWords nch [] = chans := by
  rw [List.eq_replicate_iff.2 ⟨hl, he⟩]
  simp only [chanWords, List.flatMap_nil, List.map_const', List.length_range]

/-- frames in a block = length of its first column -/
def nfOf (cols : List (List Word)) : Nat := (cols.headD []).length

/-- the reader's pass `i` once the blocks `pre` have been added: the spec's view of `pre` -/
def passAfter (i : Nat) (p : PassC) (pre : List (List (List Word))) : Pass :=
  { ident := i, head := p.head, desc := p.desc, ua := p.ua, ub := p.ub, uc := p.uc, names := p.names,
    range := p.range.map ibmWord, tail := p.tail, frameCount := (pre.map nfOf).sum,
    chans := (chanWords p.names.length pre).map (·.map genWord) }

theorem parseHeader_headerBytes (ident : Nat) (p : PassC) (h : p.wf) :
    parseHeader ident (headerBytes p) = .ok (passAfter ident p []) := by
  have hle := h.nch_le
  have hnull := readU16be_ok (p.null ++ (p.names.flatten ++ (p.filler ++ (words p.range ++ p.tail))))
    (by rw [List.length_append, h.null]; exact Nat.le_add_right ..)
  have hfl := readFloats_words p.range p.tail
  have h2 : (u16be p.names.length).length = 2 := rfl
  rw [h.range] at hfl
  simp only [parseHeader, headerBytes, bind, Except.bind, readN_append _ _ _ h.head, readN_append _ _ _ h.desc,
    readN_append _ _ _ h.ua, readN_append _ _ _ h.ub, readN_append _ _ _ h.uc,
    readU16be_u16be _ _ (show p.names.length < 65536 by omega), if_neg (Nat.not_lt.2 hle),
    List.drop_left' h2, hnull, List.drop_left' h.null,
    readNames_flatten _ _ h.names, List.drop_left' h.filler, hfl, passAfter, chanWords, List.flatMap_nil, List.map_const',
    List.length_range, List.map_replicate, List.map_nil]
  rfl

/-! ## add_block on a channel-major block -/

theorem appendAt_append (done : List (List Fl)) (t : List Fl) (ts : List (List Fl)) (v : Fl) :
    appendAt (done ++ t :: ts) done.length v = done ++ (t ++ [v]) :: ts := by
  induction done with
  | nil => simp [appendAt]
  | cons d ds ih => simp [appendAt, ih]

theorem words_cons (w : Word) (ws : List Word) (more : List Nat) :
    words (w :: ws) ++ more = w.b0 :: w.b1 :: w.b2 :: w.b3 :: (words ws ++ more) := by
  simp [words, Word.bytes]

theorem words_length (ws : List Word) : (words ws).length = 4 * ws.length := by
  induction ws with
  | nil => simp [words]
  | cons w rest ih => simp [words, Word.bytes] at ih ⊢; omega

/-- one column: the values of channel `done.length` -/
theorem addVals_col (nf limit : Nat) (col : List Word) :
    ∀ (base : Nat) (done : List (List Fl)) (t : List Fl) (ts : List (List Fl)) (more : List Nat),
      done.length * nf ≤ base → base + col.length ≤ (done.length + 1) * nf → base + col.length ≤ limit →
      addVals nf limit base (words col ++ more) (done ++ t :: ts)
        = addVals nf limit (base + col.length) more (done ++ (t ++ col.map genWord) :: ts) := by
  induction col with
  | nil => intro base done t ts more _ _ _; simp [words]
  | cons w rest ih =>
    intro base done t ts more h1 h2 h3
    simp only [List.length_cons] at h2 h3 ⊢
    have ⟨hlim, hhi, h1', h2', h3'⟩ : ¬ base ≥ limit ∧ base < (done.length + 1) * nf ∧ done.length * nf ≤ base + 1 ∧
        base + 1 + rest.length ≤ (done.length + 1) * nf ∧ base + 1 + rest.length ≤ limit := by omega
    rw [words_cons, addVals, if_neg hlim, Nat.div_eq_of_lt_le h1 hhi, appendAt_append,
      ih (base + 1) done (t ++ [genFloat w.b0 w.b1 w.b2 w.b3]) ts more h1' h2' h3',
      Nat.add_assoc base, Nat.add_comm 1, List.append_assoc]
    rfl

theorem blockBytes_cons (col : List Word) (cs : List (List Word)) :
    blockBytes (col :: cs) = words col ++ blockBytes cs := by
  simp [blockBytes]

/-- all the columns of a block -/
theorem addVals_cols (nf limit : Nat) (cols : List (List Word)) :
    ∀ (done todo : List (List Fl)), todo.length = cols.length → (∀ col ∈ cols, col.length = nf) →
      (done.length + cols.length) * nf ≤ limit →
      addVals nf limit (done.length * nf) (blockBytes cols) (done ++ todo)
        = .ok (done ++ List.zipWith (· ++ ·) todo (cols.map (·.map genWord))) := by
  induction cols with
  | nil =>
    intro done todo ht _ _
    match todo, ht with
    | [], _ => simp [blockBytes, addVals]
  | cons col cs ih =>
    intro done todo ht hcol hlim
    match todo, ht with
    | t :: ts, ht =>
    have hc : col.length = nf := hcol col (.head _)
    have hs : (done ++ [t ++ col.map genWord]).length = done.length + 1 := List.length_append
    have hb : done.length * nf + col.length = (done ++ [t ++ col.map genWord]).length * nf := by
      rw [hs, hc, Nat.succ_mul]
    have hlim' : ((done ++ [t ++ col.map genWord]).length + cs.length) * nf ≤ limit := by
      rw [hs, Nat.add_assoc, Nat.add_comm 1]; exact hlim
    rw [blockBytes_cons, addVals_col nf limit col (done.length * nf) done t ts (blockBytes cs) (Nat.le_refl _)
      (by rw [hc, Nat.succ_mul]; exact Nat.le_refl _)
      (by rw [hb]; exact Nat.le_trans (Nat.mul_le_mul_right nf (Nat.le_add_right ..)) hlim'),
      hb, List.append_cons done _ ts, ih _ ts (Nat.succ.inj ht) (fun c h => hcol c (.tail _ h)) hlim', List.append_assoc]
    rfl

theorem blockBytes_length (nf : Nat) (cols : List (List Word)) (h : ∀ col ∈ cols, col.length = nf) :
    (blockBytes cols).length = 4 * nf * cols.length := by
  induction cols with
  | nil => simp [blockBytes]
  | cons c cs ih =>
    rw [blockBytes_cons, List.length_append, words_length, ih (fun x hx => h x (by simp [hx])), h c (by simp)]
    simp [Nat.mul_add, Nat.add_comm]

/-- the pass after one more block: column `c` appended to channel `c`, `nf` more frames -/
def Pass.addCols (P : Pass) (nf : Nat) (cols : List (List Word)) : Pass :=
  { P with chans := List.zipWith (· ++ ·) P.chans (cols.map (·.map genWord))
           frameCount := P.frameCount + nf }

/-- `add_block` on an encoded block appends column `c` to channel `c` and adds the block's frame count -/
theorem addBlock_blockBytes (P : Pass) (nf : Nat) (cols : List (List Word)) (hn : 0 < P.names.length)
    (hch : P.chans.length = P.names.length) (hlen : cols.length = P.names.length)
    (hcol : ∀ col ∈ cols, col.length = nf) :
    addBlock P (blockBytes cols) = .ok (P.addCols nf cols) := by
  unfold addBlock
  have hl := blockBytes_length nf cols hcol
  rw [hlen] at hl
  have h0 : ¬ (P.names.length = 0) := by omega
  have hmod : (blockBytes cols).length % P.names.length = 0 := by
    rw [hl]; exact Nat.mul_mod_left _ _
  have hdiv : (blockBytes cols).length / (4 * P.names.length) = nf := by
    rw [hl, Nat.mul_assoc, Nat.mul_comm nf, ← Nat.mul_assoc]
    exact Nat.mul_div_cancel_left _ (by omega)
  simp only [h0, if_false, hmod, ne_eq, not_true_eq_false, hdiv]
  have := addVals_cols nf (nf * P.names.length) cols [] P.chans (by omega) hcol
    (by simp [hlen, Nat.mul_comm])
  simp only [List.length_nil, Nat.zero_mul, List.nil_append] at this
  rw [this]
  rfl

/-! ## The consumer loop over the blocks of one pass -/

/-- a block is well formed for `nch` channels (the body of `PassC.wf.blocks`) -/
def blockOk (nch : Nat) (b : List (List Word)) : Prop := b.length = nch ∧ ∃ nf, ∀ col ∈ b, col.length = nf

theorem blockOk_nfOf {nch : Nat} {b : List (List Word)} (h : blockOk nch b) (hn : 0 < nch) :
    ∀ col ∈ b, col.length = nfOf b := by
  obtain ⟨hl, nf, hnf⟩ := h
  cases b with
  | nil => simp at hl; omega
  | cons c cs =>
    intro col hcol
    simp only [nfOf, List.headD_cons]
    rw [hnf col hcol, hnf c (by simp)]

theorem addCols_names (P : Pass) (nf : Nat) (cols : List (List Word)) : (P.addCols nf cols).names = P.names := rfl

theorem passAfter_addCols (i : Nat) (p : PassC) (pre : List (List (List Word))) (b : List (List Word))
    (h : b.length = p.names.length) : (passAfter i p pre).addCols (nfOf b) b = passAfter i p (pre ++ [b]) := by
  simp only [Pass.addCols, passAfter, chanWords_append, ← h, chanWords_single, List.map_zipWith, List.zipWith_map,
    List.map_append, List.sum_append, List.map_cons, List.map_nil, List.sum_cons, List.sum_nil, Nat.add_zero]

theorem consume_blocks (g : Option Err) (i : Nat) (p : PassC) (hn : 0 < p.names.length) (bs : List (List (List Word))) :
    ∀ (pre : List (List (List Word))) (rest : List Block) (done : List LogPassOut),
      (∀ b ∈ bs, blockOk p.names.length b) →
      consume g (bs.map (fun b => ⟨.data, blockBytes b⟩) ++ rest) done (some (passAfter i p pre))
        = consume g rest done (some (passAfter i p (pre ++ bs))) := by
  induction bs with
  | nil => intro pre rest done _; rw [List.append_nil]; rfl
  | cons b bs ih =>
    intro pre rest done hb
    have hbk := hb b (.head _)
    have hadd := addBlock_blockBytes (passAfter i p pre) (nfOf b) b hn
      (by simp only [passAfter, chanWords, List.length_map, List.length_range]) hbk.1 (blockOk_nfOf hbk hn)
    rw [passAfter_addCols i p pre b hbk.1] at hadd
    rw [List.append_cons pre b bs, ← ih (pre ++ [b]) rest done fun x hx => hb x (.tail _ hx)]
    simp only [List.map_cons, List.cons_append, consume, hadd, show ¬ (TifType.data = TifType.endFile) by decide,
      if_false, if_true]

/-- the blocks the walker yields for one encoded pass -/
def passBlocks (p : PassC) : List Block :=
  ⟨.data, headerBytes p⟩ :: (p.blocks.map (fun b => ⟨.data, blockBytes b⟩) ++ [⟨.endLogPass, []⟩])

/-- `iter f n a = f (f (… a))`, `n` times -/
def iter {α : Type} (f : α → α) : Nat → α → α
  | 0, a => a
  | n + 1, a => iter f n (f a)

/-- one step of the X axis: by `abs(spacing)`, towards larger values iff stop > start -/
def xStep (range : List Fl) (x : Fl) : Fl :=
  if isIncreasing range then fadd x (fabs (range.getD 2 ⟨false, 0⟩)) else fsub x (fabs (range.getD 2 ⟨false, 0⟩))

/-- SPEC of the X axis: value `i` is the start depth moved `i` times by the spacing (binary64 steps) -/
def xSpec (range : List Fl) (n : Nat) : List Fl :=
  (List.range n).map (fun i => iter (xStep range) i (range.getD 0 ⟨false, 0⟩))

/-- frames recorded in a pass: sum over its blocks -/
def frames (p : PassC) : Nat := (p.blocks.map nfOf).sum

/-- SPEC: what a reader must report for pass number `i` with content `p` (values through the decoders AS CODED) -/
def expectedPass (i : Nat) (p : PassC) : LogPassOut :=
  ⟨i, p.desc, p.names, p.range.map ibmWord, p.tail, frames p,
    some (xSpec (p.range.map ibmWord) (frames p), (chanWords p.names.length p.blocks).map (·.map genWord))⟩

def expectedFrom : Nat → List PassC → List LogPassOut
  | _, [] => []
  | i, p :: ps => expectedPass i p :: expectedFrom (i + 1) ps

theorem xAxisGo_eq (inc : Bool) (sp : Fl) (n : Nat) : ∀ x : Fl,
    xAxisGo inc sp n x = (List.range n).map (fun i => iter (fun y => if inc then fadd y sp else fsub y sp) i x) := by
  induction n with
  | zero => intro x; simp [xAxisGo]
  | succ n ih =>
    intro x
    rw [xAxisGo, ih, List.range_succ_eq_map]
    simp [iter]

theorem complete_passAfter (i : Nat) (p : PassC) (h : p.wf) :
    complete (passAfter i p p.blocks) = .ok (expectedPass i p) := by
  have hlen : ¬ (passAfter i p p.blocks).chans.length = 0 := by
    simp only [passAfter, chanWords, List.length_map, List.length_range]; exact Nat.ne_of_gt h.nch_pos
  have hnd : hasDup (xIdent :: (passAfter i p p.blocks).names) = false := h.nodup
  simp only [complete, hlen, hnd, Bool.false_eq_true, if_false, xAxisGo_eq]
  rfl

theorem consume_pass (g : Option Err) (p : PassC) (h : p.wf) (rest : List Block) (done : List LogPassOut) :
    consume g (passBlocks p ++ rest) done none = consume g rest (done ++ [expectedPass done.length p]) none := by
  unfold passBlocks
  simp only [List.cons_append, List.append_assoc, consume]
  simp only [show ¬ (TifType.data = TifType.endFile) by decide, show ¬ (TifType.data = TifType.endLogPass) by decide,
    if_false, parseHeader_headerBytes _ p h]
  rw [consume_blocks g _ p h.nch_pos p.blocks [] _ done h.blocks]
  simp only [List.nil_append, consume]
  simp only [show ¬ (TifType.endLogPass = TifType.endFile) by decide, show ¬ (TifType.endLogPass = TifType.data) by decide,
    if_false, complete_passAfter _ p h]

/-! ## classification of the encoder's records -/

theorem classify_data (blocks : List (List (List Word))) (rest : List (Nat × List Nat)) :
    classify 0 (blocks.map (fun b => (0, blockBytes b)) ++ rest)
      = blocks.map (fun b => (⟨.data, blockBytes b⟩ : Block)) ++ classify 0 rest := by
  induction blocks with
  | nil => simp
  | cons b bs ih => simp [classify, ih]

theorem classify_pass (pt : Nat) (p : PassC) (more : List (Nat × List Nat)) :
    classify pt (passRecords p ++ more) = passBlocks p ++ classify 1 more := by
  unfold passRecords passBlocks
  simp only [List.cons_append, List.append_assoc, classify, if_true]
  rw [classify_data]
  simp [classify]

theorem layout_length_ge (recs : List (Nat × List Nat)) : ∀ tell prev, 12 * recs.length ≤ (layout tell prev recs).length := by
  induction recs with
  | nil => intro _ _; simp [layout]
  | cons r rs ih =>
    obtain ⟨typ, pl⟩ := r
    intro tell prev
    rw [layout_length_cons]
    have := ih (tell + 12 + pl.length) tell
    simp only [List.length_cons]; omega

theorem records_types (ps : List PassC) (k : Nat) :
    ∀ r ∈ ps.flatMap passRecords ++ List.replicate k (1, []), r.1 < 2 ^ 32 := by
  intro r hr
  simp only [passRecords, List.mem_append, List.mem_flatMap, List.mem_cons, List.mem_map,
    List.mem_replicate, List.not_mem_nil, or_false] at hr
  rcases hr with ⟨p, -, rfl | ⟨b, -, rfl⟩ | rfl⟩ | ⟨-, rfl⟩ <;> simp

theorem readBIT_layout (recs : List (Nat × List Nat)) (hsz : (layout 0 0 recs).length < 2 ^ 32)
    (hty : ∀ r ∈ recs, r.1 < 2 ^ 32) : readBIT (layout 0 0 recs) = consume none (classify 0 recs) [] none := by
  have hfuel : recs.length < (layout 0 0 recs).length + 1 := by
    have := layout_length_ge recs 0 0
    omega
  unfold readBIT
  rw [walk_layout recs _ 0 0 ⟨0, 0, 0, 0⟩ hfuel rfl (by rw [Nat.zero_add]; exact hsz) (by decide) hty]

theorem consume_end (done : List LogPassOut) (k pt : Nat) :
    consume none (classify pt (List.replicate k (1, []))) done none = .ok done := by
  have h1 : ∀ k, consume none (classify 1 (List.replicate k (1, []))) done none = .ok done := fun k => by cases k <;> rfl
  cases k with
  | zero => rfl
  | succ k =>
    by_cases hp : pt = 0
    · subst hp; exact h1 k
    · simp [List.replicate, classify, hp, consume, finish]

theorem consume_classify (k : Nat) (ps : List PassC) : ∀ (pt : Nat) (done : List LogPassOut), (∀ p ∈ ps, p.wf) →
    consume none (classify pt (ps.flatMap passRecords ++ List.replicate k (1, []))) done none
      = .ok (done ++ expectedFrom done.length ps) := by
  induction ps with
  | nil => intro pt done _; rw [expectedFrom, List.append_nil]; exact consume_end done k pt
  | cons p ps ih =>
    intro pt done h
    rw [List.flatMap_cons, List.append_assoc, classify_pass, consume_pass none p (h p (.head _)),
      ih 1 _ fun q hq => h q (.tail _ hq), List.append_assoc, List.length_append]
    rfl

/-- `k` type-1 markers after the last pass: the encoder writes one, a file cut there has none -/
theorem readBIT_passes (ps : List PassC) (k : Nat) (hwf : ∀ p ∈ ps, p.wf)
    (hsize : (layout 0 0 (ps.flatMap passRecords ++ List.replicate k (1, []))).length < 2 ^ 32) :
    readBIT (layout 0 0 (ps.flatMap passRecords ++ List.replicate k (1, []))) = .ok (expectedFrom 0 ps) := by
  rw [readBIT_layout _ hsize (records_types ps k), consume_classify k ps 0 [] hwf]
  rfl

/-! ## IBM single precision: the decoders in closed form -/

theorem pow16_pos (e : Nat) : 0 < pow16 e := Rat.zpow_pos (by decide)

theorem Fl.ite_sign (c : Prop) [Decidable c] (r : Rat) : (if c then (⟨true, r⟩ : Fl) else ⟨false, r⟩) = ⟨decide c, r⟩ := by
  split <;> simp [*]

theorem bytesToFloat_eq (b0 b1 b2 b3 : Nat) : bytesToFloat b0 b1 b2 b3 =
    ⟨decide (b0 &&& 0x80 ≠ 0), (genMantissa b1 b2 b3 : Rat) / 0x1000000 * pow16 (b0 &&& 0x7f)⟩ := Fl.ite_sign ..

theorem genFloat_eq (b0 b1 b2 b3 : Nat) : genFloat b0 b1 b2 b3 =
    ⟨decide (b0 &&& 0x80 ≠ 0), rndDiv (genMantissa b1 b2 b3) 0xffffff * pow16 (b0 &&& 0x7f)⟩ := Fl.ite_sign ..

theorem rescale (m p : Rat) : m / 16777215 * p = m / 16777216 * p * (16777216 / 16777215) := by grind

theorem column_length (p : PassC) (h : p.wf) (c : Nat) (hc : c < p.names.length) :
    ∀ blocks : List (List (List Word)), (∀ b ∈ blocks, blockOk p.names.length b) →
      (blocks.flatMap (fun b => b.getD c [])).length = (blocks.map nfOf).sum := by
  intro blocks
  induction blocks with
  | nil => intro _; simp
  | cons b bs ih =>
    intro hb
    have hbk := hb b (by simp)
    have hcb : c < b.length := by rw [hbk.1]; exact hc
    have : (b.getD c []).length = nfOf b := by
      apply blockOk_nfOf hbk h.nch_pos
      simp [List.getD_eq_getElem?_getD, hcb]
    simp only [List.flatMap_cons, List.length_append, List.map_cons, List.sum_cons, this]
    rw [ih (fun x hx => hb x (by simp [hx]))]

theorem step_towards (x d : Rat) (h : 0 ≤ d) : x ≤ x + d ∧ x + -d ≤ x := by grind

theorem iter_succ_outer {α : Type} (f : α → α) (n : Nat) : ∀ a, iter f (n + 1) a = f (iter f n a) := by
  induction n with
  | zero => intro a; rfl
  | succ n ih => intro a; rw [iter, ih (f a)]; rfl

end TD.C13
