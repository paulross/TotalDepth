import TD.C13.Lemmas

/-!
# C13 — Western Atlas BIT log passes decode to the recorded numbers

Property theorems only.  The model (`TD.C13.Model`) transcribes `TotalDepth/BIT/ReadBIT.py` AS CODED; the
specification (`TD.C13.Spec`) is an independent encoder of BIT files.  The model is tied to the Python source by the
correspondence run of `./check C13`.
-/
namespace TD.C13
open TD.C13.Spec

/-! ## The numbers -/

/-- **Header decoder = RP66V1 ISINGL** on every four bytes (all 2^32 words and beyond: any naturals). -/
theorem ibm_header_eq_isingl (b0 b1 b2 b3 : Nat) : bytesToFloat b0 b1 b2 b3 = isingl b0 b1 b2 b3 := rfl

example : bytesToFloat 0xc2 0x76 0xa0 0x00 = ⟨true, 949 / 8⟩ := by decide +kernel

/-- **F12, witness**: the statement "frame decoder = header decoder = ISINGL on every word" is FALSE for the code as
it is: on the bytes `42 10 00 00` `gen_floats` gives 16.000000953674373, the other two give 16. -/
theorem gen_floats_ne :
    ¬ (∀ b0 b1 b2 b3 : Nat, genFloat b0 b1 b2 b3 = bytesToFloat b0 b1 b2 b3 ∧ bytesToFloat b0 b1 b2 b3 = isingl b0 b1 b2 b3) := by
  intro h
  have := (h 0x42 0x10 0 0).1
  revert this
  decide +kernel

example : genFloat 0x42 0x10 0 0 = ⟨false, 281474993487873 / 17592186044416⟩ := by decide +kernel
example : bytesToFloat 0x42 0x10 0 0 = ⟨false, 16⟩ := by decide +kernel

/-- **F12, exact relation**: for every word the rational `gen_floats` aims at is the IBM value times 2^24/(2^24-1). -/
theorem gen_floats_rel_error (b0 b1 b2 b3 : Nat) :
    genExact b0 b1 b2 b3 = (bytesToFloat b0 b1 b2 b3).mag * (16777216 / 16777215) := by
  rw [bytesToFloat_eq]; exact rescale ..

/-- `gen_floats` as coded: same sign bit as the header decoder; magnitude = the correctly rounded quotient
`mantissa / 0xffffff` scaled exactly by `16^(exp-64)` (so it is the binary64 nearest to `genExact`). -/
theorem gen_floats_as_coded (b0 b1 b2 b3 : Nat) :
    (genFloat b0 b1 b2 b3).neg = (bytesToFloat b0 b1 b2 b3).neg ∧
    (genFloat b0 b1 b2 b3).mag = rndDiv (genMantissa b1 b2 b3) 0xffffff * pow16 (b0 &&& 0x7f) := by
  rw [genFloat_eq, bytesToFloat_eq]; exact ⟨rfl, rfl⟩

/-- **F12, every word**: whenever the mantissa is non-zero the exact value aimed at differs from the IBM value. -/
theorem gen_exact_ne_ibm (b0 b1 b2 b3 : Nat) (hm : genMantissa b1 b2 b3 ≠ 0) :
    genExact b0 b1 b2 b3 ≠ (bytesToFloat b0 b1 b2 b3).mag := by
  have hpos : 0 < (bytesToFloat b0 b1 b2 b3).mag := by
    rw [bytesToFloat_eq, Rat.div_def]
    exact Rat.mul_pos (Rat.mul_pos (by exact_mod_cast Nat.pos_of_ne_zero hm) (Rat.inv_pos.2 (by decide))) (pow16_pos _)
  rw [gen_floats_rel_error]
  generalize (bytesToFloat b0 b1 b2 b3).mag = x at hpos
  intro h
  grind

example : genMantissa 0x10 0 0 ≠ 0 := by decide

/-! ## Reading a file -/

/-- **Round trip** (unbounded: any number of passes, 1..20 channels, any list of blocks whose columns have a common
length — in particular blocks of `fib` frames with a short last block, see `mkBlocks_spec` — any words, any header
numbers, up or down logs).  The reader applied to the file written by the spec encoder returns, for pass number `i`,
exactly `expectedPass i p`: the identity `i`, the description, the channel names of the header, the five header numbers
decoded by `bytes_to_float`, the tail, the frame count, the synthesised X axis and, for channel `c`, the words of
column `c` of every block in file order, each decoded by `gen_floats` as coded. -/
theorem bit_roundtrip (ps : List PassC) (hwf : ∀ p ∈ ps, p.wf) (hsize : (encode ps).length < 2 ^ 32) :
    readBIT (encode ps) = .ok (expectedFrom 0 ps) :=
  readBIT_passes ps 1 hwf hsize

/-- the pass list is reported in file order, one output per recorded pass -/
theorem expectedFrom_spec (ps : List PassC) : ∀ (i : Nat),
    (expectedFrom i ps).length = ps.length ∧
    ∀ k (hk : k < ps.length), (expectedFrom i ps)[k]? = some (expectedPass (i + k) ps[k]) := by
  induction ps with
  | nil => intro i; simp [expectedFrom]
  | cons p ps ih =>
    intro i
    obtain ⟨h1, h2⟩ := ih (i + 1)
    refine ⟨by simp [expectedFrom, h1], ?_⟩
    intro k hk
    cases k with
    | zero => simp [expectedFrom]
    | succ k =>
      simp only [List.length_cons] at hk
      have := h2 k (by omega)
      simp only [expectedFrom, List.getElem?_cons_succ, List.getElem_cons_succ, this]
      congr 2; omega

/-- the words of channel `c` in frame order: column `c` of every block, blocks in file order -/
theorem channel_values (p : PassC) (i c : Nat) (hc : c < p.names.length) :
    ∃ x chans, (expectedPass i p).frameArray = some (x, chans) ∧
      chans[c]? = some ((p.blocks.flatMap (fun b => b.getD c [])).map genWord) := by
  refine ⟨_, _, rfl, ?_⟩
  simp [chanWords, hc]

/-- **Frame count**: the reported frame count is the number of frames recorded (sum over the blocks), the X axis and
every channel array have exactly that many values, and there is one array per channel name. -/
theorem frame_count (p : PassC) (h : p.wf) (i : Nat) :
    (expectedPass i p).frameCount = frames p ∧
    ∃ x chans, (expectedPass i p).frameArray = some (x, chans) ∧ x.length = frames p ∧
      chans.length = p.names.length ∧ ∀ ch ∈ chans, ch.length = frames p := by
  refine ⟨rfl, _, _, rfl, by simp [xSpec], by simp [chanWords], ?_⟩
  intro ch hch
  simp only [chanWords, List.map_map, List.mem_map, List.mem_range] at hch
  obtain ⟨c, hc, rfl⟩ := hch
  simp only [Function.comp, List.length_map]
  exact column_length p h c hc p.blocks (fun b hb => h.blocks b hb)

/-! ## X axis -/

/-- **X axis**: `n` values; the first is the header's start depth; each next value is the previous one moved by
`abs(header spacing)` with one binary64 addition (`stop > start`) or subtraction (otherwise). -/
theorem x_axis (range : List Fl) (n : Nat) :
    (xSpec range n).length = n ∧
    (0 < n → (xSpec range n)[0]? = some (range.getD 0 ⟨false, 0⟩)) ∧
    (∀ i, i + 1 < n → ∃ xi, (xSpec range n)[i]? = some xi ∧
        (xSpec range n)[i + 1]? = some (if (range.getD 0 ⟨false, 0⟩).toRat < (range.getD 1 ⟨false, 0⟩).toRat
                                          then fadd xi (fabs (range.getD 2 ⟨false, 0⟩))
                                          else fsub xi (fabs (range.getD 2 ⟨false, 0⟩)))) := by
  refine ⟨by simp [xSpec], ?_, ?_⟩
  · intro hn
    simp [xSpec, hn, iter]
  · intro i hi
    refine ⟨iter (xStep range) i (range.getD 0 ⟨false, 0⟩), ?_, ?_⟩
    · simp [xSpec, show i < n by omega]
    · simp only [xSpec, List.getElem?_map, List.getElem?_range hi, Option.map_some, iter_succ_outer]
      simp [xStep, isIncreasing]

/-- every header number decoded by `bytes_to_float` has a non-negative magnitude -/
theorem ibmWord_mag_nonneg (w : Word) : 0 ≤ (ibmWord w).mag := by
  rw [ibmWord, bytesToFloat_eq, Rat.div_def]
  exact Rat.mul_nonneg (Rat.mul_nonneg (Rat.natCast_nonneg) (Rat.le_of_lt (Rat.inv_pos.2 (by decide))))
    (Rat.le_of_lt (pow16_pos _))

/-- **X axis moves TOWARDS the stop depth, for either sign of the header spacing**: with `d = |spacing| ≥ 0` (the
magnitude of the header number, its sign bit is discarded), the exact target of a step from `x` is `x + d ≥ x` when
`stop > start` and `x − d ≤ x` otherwise; the stored value is the binary64 rounding of that target (`x_step_exact`). -/
theorem x_axis_towards_stop (range : List Fl) (x : Fl) (hsp : 0 ≤ (range.getD 2 ⟨false, 0⟩).mag) :
    let d := (fabs (range.getD 2 ⟨false, 0⟩)).toRat
    d = (range.getD 2 ⟨false, 0⟩).mag ∧ 0 ≤ d ∧
    ((range.getD 0 ⟨false, 0⟩).toRat < (range.getD 1 ⟨false, 0⟩).toRat →
        xStep range x = fadd x (fabs (range.getD 2 ⟨false, 0⟩)) ∧ x.toRat ≤ x.toRat + d) ∧
    (¬ (range.getD 0 ⟨false, 0⟩).toRat < (range.getD 1 ⟨false, 0⟩).toRat →
        xStep range x = fadd x (fneg (fabs (range.getD 2 ⟨false, 0⟩))) ∧
        (fneg (fabs (range.getD 2 ⟨false, 0⟩))).toRat = -d ∧ x.toRat + -d ≤ x.toRat) := by
  have hd : (fabs (range.getD 2 ⟨false, 0⟩)).toRat = (range.getD 2 ⟨false, 0⟩).mag := by simp [fabs, Fl.toRat]
  simp only [hd]
  refine ⟨trivial, hsp, ?_, ?_⟩
  · intro h
    refine ⟨by simp only [xStep, isIncreasing, decide_eq_true_eq]; rw [if_pos h], ?_⟩
    exact (step_towards x.toRat _ hsp).1
  · intro h
    refine ⟨by simp only [xStep, isIncreasing, decide_eq_true_eq]; rw [if_neg h]; rfl, by simp [fneg, fabs, Fl.toRat], ?_⟩
    exact (step_towards x.toRat _ hsp).2

/-- one X step in exact terms: the target is `x ± spacing` as a rational, the result its binary64 rounding -/
theorem x_step_exact (x sp : Fl) :
    (x.toRat + sp.toRat = 0 → (fadd x sp).toRat = 0) ∧
    (0 < x.toRat + sp.toRat → (fadd x sp).toRat = rndRat (x.toRat + sp.toRat)) ∧
    (x.toRat + sp.toRat < 0 → (fadd x sp).toRat = -rndRat (-(x.toRat + sp.toRat))) ∧
    (fsub x sp = fadd x (fneg sp)) ∧ (fneg sp).toRat = -sp.toRat := by
  refine ⟨?_, ?_, ?_, rfl, ?_⟩
  · intro h
    simp only [fadd]
    rw [if_pos h]
    simp [Fl.toRat]
  · intro h
    have h0 : ¬ (x.toRat + sp.toRat = 0) := fun e => Rat.lt_irrefl (e ▸ h)
    have h1 : ¬ (x.toRat + sp.toRat < 0) := Rat.not_lt.2 (Rat.le_of_lt h)
    simp only [fadd]
    rw [if_neg h0, if_neg h1]
    simp [Fl.toRat]
  · intro h
    have h0 : ¬ (x.toRat + sp.toRat = 0) := fun e => Rat.lt_irrefl (e ▸ h)
    simp only [fadd]
    rw [if_neg h0, if_pos h]
    simp [Fl.toRat]
  · unfold fneg Fl.toRat
    cases sp.neg <;> simp

/-! ## Blocks of `fib` frames with a short last block -/

/-- **Chunking**: cutting every channel into consecutive pieces of `fib ≥ 1` frames (the last piece short) gives
well-formed blocks whose per-channel concatenation is the original channel content; so `bit_roundtrip` covers "any
frame count and block size including a short last block", and the reader returns the channels as recorded. -/
theorem mkBlocks_spec (fib : Nat) (hf : 0 < fib) (nch : Nat) : ∀ (fuel n : Nat) (chans : List (List Word)),
    chans.length = nch → (∀ c ∈ chans, c.length = n) → n ≤ fuel →
    (∀ b ∈ mkBlocks fib fuel chans, blockOk nch b) ∧ chanWords nch (mkBlocks fib fuel chans) = chans := by
  intro fuel
  induction fuel with
  | zero =>
    intro n chans hl hn hfu
    exact ⟨nofun, chanWords_nil chans hl fun c hc => List.eq_nil_of_length_eq_zero (Nat.le_zero.1 (hn c hc ▸ hfu))⟩
  | succ fuel ih =>
    intro n chans hl hn hfu
    rw [mkBlocks]
    split
    · rename_i hall
      exact ⟨nofun, chanWords_nil chans hl fun c hc => List.isEmpty_iff.1 (List.all_eq_true.1 hall c hc)⟩
    · obtain ⟨hok, hcw⟩ := ih (n - fib) (chans.map (·.drop fib)) (by rw [List.length_map, hl])
        (by simp only [List.mem_map]; rintro _ ⟨c, hc, rfl⟩; rw [List.length_drop, hn c hc]) (by omega)
      have hlen : (chans.map (·.take fib)).length = nch := by rw [List.length_map, hl]
      refine ⟨List.forall_mem_cons.2 ⟨⟨hlen, min fib n, ?_⟩, hok⟩, ?_⟩
      · simp only [List.mem_map]; rintro _ ⟨c, hc, rfl⟩; rw [List.length_take, hn c hc]
      · rw [chanWords_cons _ _ hlen, hcw, List.zipWith_map, List.zipWith_self]
        simp only [List.take_append_drop, List.map_id']

/-! ## Non-vacuity: a concrete two-channel, three-frame pass with blocks of two frames (short last block) -/

def exPass : PassC :=
  { head := [0, 2, 0, 0], desc := List.replicate 72 0x20, ua := [0, 10, 0, 24, 0], ub := List.replicate 75 0x20,
    uc := [0, 18, 0, 11, 0, 6, 32, 32], null := [0, 0],
    names := [[0x47, 0x52, 0x20, 0x20], [0x53, 0x50, 0x20, 0x20]], filler := List.replicate 72 0x20,
    range := [⟨0x44, 0x3a, 0x66, 0⟩, ⟨0x44, 0x38, 0xfe, 0⟩, ⟨0x40, 0x40, 0, 0⟩, ⟨0, 0, 0, 0⟩, ⟨0x42, 0x10, 0, 0⟩],
    tail := [1, 2, 3, 4, 5, 6, 7, 8],
    blocks := mkBlocks 2 3 [[⟨0x42, 0x10, 0, 0⟩, ⟨0xc2, 0x76, 0xa0, 0⟩, ⟨0x3d, 0x68, 0xdb, 0x8b⟩],
                            [⟨0, 0, 0, 0⟩, ⟨0x80, 0, 0, 0⟩, ⟨0x41, 0x10, 0, 0⟩]] }

theorem exPass_wf : exPass.wf where
  head := rfl
  desc := rfl
  ua := rfl
  ub := rfl
  uc := rfl
  null := rfl
  nch_pos := by decide
  nch_le := by decide
  names := by unfold nameOk; decide
  nodup := by decide
  filler := rfl
  range := rfl
  blocks := fun b hb =>
    have h : ∀ b ∈ exPass.blocks, b.length = 2 ∧ ∀ col ∈ b, col.length = nfOf b := by decide
    ⟨(h b hb).1, _, (h b hb).2⟩

/-- the hypotheses of `bit_roundtrip` are satisfiable and the reader's output on that file is the recorded content -/
example : readBIT (encode [exPass]) = .ok (expectedFrom 0 [exPass]) :=
  bit_roundtrip [exPass] (by intro p hp; simp at hp; subst hp; exact exPass_wf) (by decide +kernel)

/-- the same file without the final (second) type-1 marker: the reader stops at the end of the data -/
def encodeNoFinal (ps : List PassC) : List Nat := layout 0 0 (ps.flatMap passRecords)

/-- **Round trip, file ending at the last pass's type-1 marker** (premature end of file is handled silently by
`yield_tif_blocks`): same result as `bit_roundtrip`. -/
theorem bit_roundtrip_one_end_marker (ps : List PassC) (hwf : ∀ p ∈ ps, p.wf) (hsize : (encodeNoFinal ps).length < 2 ^ 32) :
    readBIT (encodeNoFinal ps) = .ok (expectedFrom 0 ps) := by
  have h := readBIT_passes ps 0 hwf
  rw [List.replicate_zero, List.append_nil] at h
  exact h hsize

example : readBIT (encodeNoFinal [exPass]) = .ok (expectedFrom 0 [exPass]) :=
  bit_roundtrip_one_end_marker [exPass] (by intro p hp; simp at hp; subst hp; exact exPass_wf) (by decide +kernel)

example : (encode [exPass]).length = 360 := by decide +kernel
example : frames exPass = 3 := by decide +kernel
example : (xSpec (exPass.range.map ibmWord) 3).map Fl.toRat = [14950, 14950 - 1/4, 14950 - 1/2] := by decide +kernel

/-- the hypothesis of `x_axis_towards_stop` holds for decoded header numbers -/
example : (0 : Rat) ≤ ((exPass.range.map ibmWord).getD 2 ⟨false, 0⟩).mag := by decide +kernel

/-- a header spacing recorded with a negative sign: the axis still moves from 100 towards 99 -/
example : (xSpec [⟨false, 100⟩, ⟨false, 99⟩, ⟨true, 1 / 2⟩] 3).map Fl.toRat = [100, 199 / 2, 99] := by decide +kernel

/-! ## The handle position does not matter -/

/-- **Position independence**: decoding through an open handle gives the answer for the file's bytes wherever the handle
was positioned before the call (inside the header after `is_bit_file`, at the end after a size query or an earlier
decode, …), because the walker rewinds first.  In particular decoding twice through one handle gives the same result. -/
theorem read_position_independent (h : Handle) : readHandle h = readBIT h.bytes := by
  simp [readHandle, readBIT, Handle.seek]

example : readHandle ⟨encode [exPass], 360⟩ = .ok (expectedFrom 0 [exPass]) := by
  rw [read_position_independent]
  exact bit_roundtrip [exPass] (by intro p hp; simp at hp; subst hp; exact exPass_wf) (by decide +kernel)

end TD.C13
