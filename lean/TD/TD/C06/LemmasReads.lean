import TD.C06.LemmasPlan

/-!
C06 — every file operation of a load lies inside a data record that holds a requested frame (any channel list, direct or
indirect X).
-/
namespace TD.C06

/-! ### event types that `genEvents` never emits -/

/-- no event of the list has type `t` -/
def Avoids (t : Ty) (l : List Ev) : Prop := ∀ e ∈ l, e.ty ≠ t

theorem Avoids.append {t : Ty} {a b : List Ev} (ha : Avoids t a) (hb : Avoids t b) : Avoids t (a ++ b) := by
  intro e he; rcases List.mem_append.1 he with h | h
  · exact ha e h
  · exact hb e h

theorem Avoids.single {t : Ty} (e : Ev) (h : e.ty ≠ t) : Avoids t [e] := by
  intro x hx; rw [List.mem_singleton.1 hx]; exact h

theorem Avoids.nil {t : Ty} : Avoids t [] := fun _ h => nomatch h

theorem Avoids.cons {t : Ty} {e : Ev} {l : List Ev} (h : e.ty ≠ t) (hl : Avoids t l) : Avoids t (e :: l) :=
  (Avoids.single e h).append hl

/-! The events of one frame and the moves between frames are reads and skips only. -/

theorem runEvs_avoids {t : Ty} (hr : Ty.read ≠ t) (hs : Ty.skip ≠ t) (p : Plan) : ∀ R, Avoids t (runEvs p R)
  | [] => Avoids.nil
  | [_] => Avoids.single _ hr
  | _ :: s :: R => Avoids.cons hr (Avoids.cons hs (runEvs_avoids hr hs p (s :: R)))

theorem retFrameEvents_avoids {t : Ty} (hr : Ty.read ≠ t) (hs : Ty.skip ≠ t) (p : Plan) (chans : List Nat) :
    (∀ e ∈ (retFrameEvents p chans).1, e.ty ≠ t) ∧ Avoids t (retFrameEvents p chans).2.1 ∧
    (∀ e ∈ (retFrameEvents p chans).2.2, e.ty ≠ t) := by
  cases chans with
  | nil => simp [retFrameEvents, Avoids]
  | cons c0 rest =>
    rw [retFrameEvents_eq]
    refine ⟨?_, runEvs_avoids hr hs p _, ?_⟩ <;>
    · intro e he; simp only at he; split at he <;> simp at he; subst he; exact hs

theorem merged_avoids {t : Ty} (hs : Ty.skip ≠ t) (p : Plan) (pre post : Option Ev) (c : Nat) :
    ∀ e ∈ mergedPostFramePre p pre post c, e.ty ≠ t := by
  intro e he
  unfold mergedPostFramePre at he
  cases pre <;> cases post <;> simp only at he
  · split at he <;> simp at he; obtain ⟨_, rfl⟩ := he; exact hs
  all_goals (simp at he; subst he; exact hs)

theorem evAt_avoids {t : Ty} (o : Option Ev) (g : Nat) (h : ∀ e ∈ o, e.ty ≠ t) : Avoids t (evAt o g) := by
  cases o with
  | none => exact Avoids.nil
  | some x => exact Avoids.single _ (h x rfl)

theorem emitFrame_avoids {t : Ty} (f : Nat) (es : List Ev) (pend : Option Nat) (h : Avoids t es) :
    Avoids t (emitFrame f es pend).1 := by
  induction es generalizing pend with
  | nil => exact Avoids.nil
  | cons e es ih =>
    have he := h e (List.mem_cons_self ..)
    have hes : Avoids t es := fun x hx => h x (List.mem_cons_of_mem _ hx)
    cases pend <;> exact Avoids.cons he (ih none hes)

/-! ### no `seekLr` among the events of `genEvents` -/

theorem withFr_avoids {t : Ty} (g : Nat) (es : List Ev) (h : Avoids t es) : Avoids t (withFr g es) := by
  intro e he
  obtain ⟨x, hx, rfl⟩ := List.mem_map.1 he
  exact h x hx

theorem frameLoop_noSeek (p : Plan) (fevts : List Ev) (post inter : Option Ev) (stop step : Nat) (hstep : 0 < step)
    (hf : Avoids .seekLr fevts) (hp : ∀ e ∈ post, e.ty ≠ .seekLr) (hi : ∀ e ∈ inter, e.ty ≠ .seekLr)
    (fuel f : Nat) (pend : Option Nat) (hlt : f < stop) (hfuel : stop - f ≤ fuel) :
    Avoids .seekLr (frameLoop p fevts post inter stop step fuel f pend) := by
  rw [frameLoop_eq p fevts post inter stop step hstep fuel f pend hlt hfuel]
  refine (emitFrame_avoids f fevts pend hf).append ?_
  generalize rangeLen (f + step) stop step = m
  clear hlt hfuel
  induction m generalizing f with
  | zero => exact evAt_avoids _ _ hp
  | succ m ih =>
    refine ((evAt_avoids _ _ hi).append ?_).append ((withFr_avoids _ _ hf).append (ih _))
    unfold extEv
    split
    · exact Avoids.single _ (by simp)
    · exact Avoids.nil

theorem headEvs_avoids {t : Ty} (hr : Ty.read ≠ t) (hs : Ty.skip ≠ t) (hx : Ty.extrap ≠ t) (p : Plan) (pre : Option Ev)
    (a : Nat) (hpre : ∀ e ∈ pre, e.ty ≠ t) : Avoids t (headEvs p pre a).1 := by
  have hopt : ∀ (c : Prop) [Decidable c] (l : List Ev), Avoids t l → Avoids t (if c then l else []) := by
    intro c _ l hl; split
    · exact hl
    · exact Avoids.nil
  unfold headEvs
  cases pre with
  | some pr =>
    exact (hopt _ _ ((Avoids.single _ hr).append (hopt _ _ (Avoids.single _ hx)))).append (Avoids.single _ (hpre pr rfl))
  | none =>
    simp only
    split
    · exact ((hopt _ _ (Avoids.single _ hr)).append (Avoids.single _ hs)).append (hopt _ _ (Avoids.single _ hx))
    · exact Avoids.nil

theorem genEvents_noSeek (p : Plan) (a b c : Nat) (chans : List Nat) (evs : List Ev)
    (h : genEvents p a b c chans = .ok evs) : Avoids .seekLr evs := by
  cases hc : checkChIdx p chans with
  | error e => unfold genEvents at h; simp only [hc] at h; cases h
  | ok cs =>
    rw [genEvents_def p chans cs a b c hc] at h
    cases h
    obtain ⟨hpre, hfev, hpost⟩ := retFrameEvents_avoids (t := .seekLr) (by decide) (by decide) p cs
    split
    · rename_i hcond
      exact (headEvs_avoids (by decide) (by decide) (by decide) p _ a hpre).append
        (frameLoop_noSeek p _ _ _ b _ (by split <;> omega) hfev hpost (merged_avoids (by decide) p _ _ _) _ _ _ hcond.2
          (Nat.le_refl _))
    · exact Avoids.nil

theorem renumber_noSeek (buf : List Nat) (frInt : Nat) (evs : List Ev) (k : Nat) (h : Avoids .seekLr evs) :
    Avoids .seekLr (renumber buf frInt evs k) := by
  induction evs generalizing k with
  | nil => exact Avoids.nil
  | cons e es ih =>
    exact Avoids.cons (h e (List.mem_cons_self ..)) (ih _ (fun y hy => h y (List.mem_cons_of_mem _ hy)))

/-- the only `seekLr` events of `_genFrameSetEvents` are the seeks to the keys of the map -/
theorem genFrameSetEventsAux_seeks (p : Plan) (chans : List Nat) (entries : List (Int × List Nat)) :
    ∀ frInt evs, genFrameSetEventsAux p chans entries frInt = .ok evs →
      ∀ e ∈ evs, e.ty = .seekLr → ∃ en ∈ entries, e.siz = en.1.toNat := by
  induction entries with
  | nil => intro frInt evs h; simp [genFrameSetEventsAux] at h; subst h; simp
  | cons en rest ih =>
    intro frInt evs h e he hty
    obtain ⟨seek, buf⟩ := en
    simp only [genFrameSetEventsAux] at h
    split at h
    · cases h
    · split at h
      · cases h
      · rename_i evs1 hg
        split at h
        · cases h
        · rename_i tl htl
          cases h
          rcases List.mem_cons.1 he with rfl | he
          · exact ⟨(seek, buf), List.mem_cons_self .., rfl⟩
          · rcases List.mem_append.1 he with h1 | h1
            · exact absurd hty (renumber_noSeek _ _ _ _ (genEvents_noSeek _ _ _ _ _ _ hg) e h1)
            · obtain ⟨en', hen, hs⟩ := ih _ _ htl e h1 hty
              exact ⟨en', List.mem_cons_of_mem _ hen, hs⟩

/-! ### the keys of `_retFrameSetMap` are the positions of records holding requested frames -/

theorem mapAppend_keys (acc : List (Int × List Nat)) (k : Int) (v : Nat) :
    ∀ e ∈ mapAppend acc k v, e.1 = k ∨ ∃ e' ∈ acc, e'.1 = e.1 := by
  induction acc with
  | nil => intro e he; simp [mapAppend] at he; subst he; left; rfl
  | cons x xs ih =>
    obtain ⟨k', vs⟩ := x
    intro e he
    simp only [mapAppend] at he
    split at he
    · rcases List.mem_cons.1 he with rfl | h
      · right; exact ⟨(k', vs), List.mem_cons_self .., rfl⟩
      · right; exact ⟨e, List.mem_cons_of_mem _ h, rfl⟩
    · rcases List.mem_cons.1 he with rfl | h
      · right; exact ⟨(k', vs), List.mem_cons_self .., rfl⟩
      · rcases ih e h with h1 | ⟨e', he', h2⟩
        · left; exact h1
        · right; exact ⟨e', List.mem_cons_of_mem _ he', h2⟩

theorem retFrameSetMapAux_keys (l : List Item01) (frames : List Nat) :
    ∀ acc m, retFrameSetMapAux l frames acc = .ok m →
      ∀ e ∈ m, (∃ e' ∈ acc, e'.1 = e.1) ∨ ∃ f ∈ frames, ∃ off, rle01Tell l f = .ok (e.1, off) := by
  induction frames with
  | nil => intro acc m h e he; simp [retFrameSetMapAux] at h; subst h; left; exact ⟨e, he, rfl⟩
  | cons f fs ih =>
    intro acc m h e he
    simp only [retFrameSetMapAux] at h
    split at h
    · cases h
    · rename_i seek off hl
      rcases ih _ _ h e he with ⟨e', he', hk⟩ | ⟨f', hf', off', ht⟩
      · rcases mapAppend_keys acc seek off e' he' with h1 | ⟨e'', he'', h2⟩
        · right; exact ⟨f, List.mem_cons_self .., off, by rw [hl, ← hk, h1]⟩
        · left; exact ⟨e'', he'', by rw [h2, hk]⟩
      · right; exact ⟨f', List.mem_cons_of_mem _ hf', off', ht⟩

theorem insertByKey_mem (x : Int × List Nat) (l : List (Int × List Nat)) (e : Int × List Nat) :
    e ∈ insertByKey x l → e = x ∨ e ∈ l := by
  induction l with
  | nil => intro h; simp [insertByKey] at h; left; exact h
  | cons y ys ih =>
    intro h
    simp only [insertByKey] at h
    split at h
    · rcases List.mem_cons.1 h with h | h
      · left; exact h
      · right; exact h
    · rcases List.mem_cons.1 h with h | h
      · right; rw [h]; exact List.mem_cons_self ..
      · rcases ih h with h | h
        · left; exact h
        · right; exact List.mem_cons_of_mem _ h

theorem sortByKey_mem (l : List (Int × List Nat)) (e : Int × List Nat) : e ∈ sortByKey l → e ∈ l := by
  induction l with
  | nil => intro h; simp [sortByKey] at h
  | cons x xs ih =>
    intro h
    have : sortByKey (x :: xs) = insertByKey x (sortByKey xs) := rfl
    rw [this] at h
    rcases insertByKey_mem _ _ _ h with h | h
    · rw [h]; exact List.mem_cons_self ..
    · exact List.mem_cons_of_mem _ (ih h)

/-! ### the interpreter only touches the current record, inside its bytes -/

/-- an operation is fine w.r.t. the set `sel` of record positions -/
def OpOk (st : Store) (sel : Nat → Prop) : Op → Prop
  | .seek t => sel t
  | .read t o l => sel t ∧ ∃ bs, Store.find st t = some bs ∧ o + l ≤ bs.length
  | .skip _ => True

def RunOk (st : Store) (sel : Nat → Prop) (r : Run) : Prop :=
  (∀ op ∈ r.ops, OpOk st sel op) ∧ (∀ t bs, r.cur = some (t, bs) → sel t ∧ Store.find st t = some bs)

theorem read_ok (st : Store) (sel : Nat → Prop) (r : Run) (n : Nat) (by_ : List Nat) (r' : Run)
    (hr : RunOk st sel r) (h : r.read n = .ok (by_, r')) : RunOk st sel r' ∧ r'.cur = r.cur := by
  unfold Run.read at h
  cases hc : r.cur with
  | none => simp [hc] at h
  | some tb =>
    obtain ⟨t, bs⟩ := tb
    simp only [hc] at h
    split at h
    · cases h
    · rename_i hlen
      cases h
      obtain ⟨hs, hf⟩ := hr.2 t bs hc
      refine ⟨⟨?_, ?_⟩, hc.symm ▸ rfl⟩
      · intro op hop
        rcases List.mem_cons.1 hop with rfl | hop
        · exact ⟨hs, bs, hf, by omega⟩
        · exact hr.1 op hop
      · intro t' bs' h'; exact hr.2 t' bs' (by simpa [hc] using h')

theorem execEv_ok (d : Dfsr) (st : Store) (sel : Nat → Prop) (r r' : Run) (e : Ev)
    (hsel : e.ty = .seekLr → sel e.siz) (hr : RunOk st sel r) (h : execEv d st r e = .ok r') : RunOk st sel r' := by
  unfold execEv at h
  cases hty : e.ty <;> simp only [hty] at h
  · -- read
    split at h
    · cases h
    · rename_i by_ r1 hrd
      obtain ⟨hr1, _⟩ := read_ok st sel r _ _ _ hr hrd
      split at h
      · cases h
      · split at h
        · cases h
        · cases h; exact ⟨hr1.1, hr1.2⟩
  · -- skip
    split at h
    · cases h
    · cases h
      refine ⟨?_, hr.2⟩
      intro op hop
      rcases List.mem_cons.1 hop with rfl | hop
      · trivial
      · exact hr.1 op hop
  · -- extrapolate
    split at h
    · cases h
    · split at h
      · split at h
        · cases h; exact hr
        · cases h
      · cases h
      · cases h
  · -- seekLr
    split at h
    · cases h
    · rename_i bs hfind
      split at h
      · cases h
      · rename_i hd r2 hrd
        have hs := hsel hty
        have hr1 : RunOk st sel { r with cur := some (e.siz, bs), ofs := 0, ops := Op.seek e.siz :: r.ops } := by
          refine ⟨?_, ?_⟩
          · intro op hop
            rcases List.mem_cons.1 hop with rfl | hop
            · exact hs
            · exact hr.1 op hop
          · intro t bs' h'; simp at h'; obtain ⟨rfl, rfl⟩ := h'; exact ⟨hs, hfind⟩
        obtain ⟨hr2, _⟩ := read_ok st sel _ _ _ _ hr1 hrd
        split at h
        · cases h
        · cases h; exact hr2

theorem execEvs_ok (d : Dfsr) (st : Store) (sel : Nat → Prop) (evs : List Ev) :
    ∀ r r', (∀ e ∈ evs, e.ty = .seekLr → sel e.siz) → RunOk st sel r → execEvs d st evs r = .ok r' → RunOk st sel r' := by
  induction evs with
  | nil => intro r r' _ hr h; simp [execEvs] at h; subst h; exact hr
  | cons e es ih =>
    intro r r' hsel hr h
    simp only [execEvs] at h
    split at h
    · cases h
    · rename_i r1 h1
      exact ih r1 r' (fun x hx => hsel x (List.mem_cons_of_mem _ hx))
        (execEv_ok d st sel r r1 e (hsel e (List.mem_cons_self ..)) hr h1) h

end TD.C06
