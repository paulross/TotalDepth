import TD.C06.Model
import Mathlib.Tactic.Ring

/-!
C06 — the frame loop of `genEvents` in normal form: the events of the first frame (which may carry a pending indirect
read) followed by `loopTail`, a recursion on the number of further frames.
-/
namespace TD.C06

theorem rangeLen_lt (a b c : Nat) (h : a < b) (hc : 0 < c) :
    rangeLen a b c = rangeLen (a + c) b c + 1 := by
  unfold rangeLen
  simp only [h, if_true]
  by_cases h2 : a + c < b
  · simp only [h2, if_true]
    have : (b - a - 1) = (b - (a + c) - 1) + c := by omega
    rw [this, Nat.add_div_right _ hc]
  · simp only [h2, if_false]
    have : (b - a - 1) / c = 0 := Nat.div_eq_of_lt (by omega)
    omega

theorem rangeList_cons (a b c : Nat) (h : a < b) (hc : 0 < c) :
    rangeList a b c = a :: rangeList (a + c) b c := by
  unfold rangeList
  rw [rangeLen_lt a b c h hc, List.range_succ_eq_map]
  simp only [List.map_cons, Nat.zero_mul, Nat.add_zero, List.map_map, List.cons.injEq, true_and]
  apply List.map_congr_left
  intro i _
  simp only [Function.comp, Nat.succ_eq_add_one]
  ring

theorem rangeList_nil (a b c : Nat) (h : b ≤ a) : rangeList a b c = [] := by
  unfold rangeList rangeLen
  have : ¬ a < b := by omega
  simp [this]

/-- arithmetic progression `a, a+step, …` of `len` members -/
def ap (a step len : Nat) : List Nat := (List.range len).map (fun i => a + i * step)

theorem rangeList_eq_ap (a b c : Nat) : rangeList a b c = ap a c (rangeLen a b c) := rfl

theorem ap_succ (a step m : Nat) : ap a step (m + 1) = a :: ap (a + step) step m := by
  unfold ap
  rw [List.range_succ_eq_map]
  simp only [List.map_cons, Nat.zero_mul, Nat.add_zero, List.map_map, List.cons.injEq, true_and]
  apply List.map_congr_left
  intro i _
  simp only [Function.comp, Nat.succ_mul]; omega

theorem rangeLen_last (f stop step : Nat) : f + rangeLen (f + step) stop step * step < stop ∨ stop ≤ f := by
  unfold rangeLen
  split
  · have := Nat.div_mul_le_self (stop - (f + step) - 1) step
    rw [Nat.add_mul, Nat.one_mul]; omega
  · omega

def withFr (fr : Nat) (evs : List Ev) : List Ev := evs.map (fun e => { e with fr := some fr })

theorem withFr_append (fr : Nat) (a b : List Ev) : withFr fr (a ++ b) = withFr fr a ++ withFr fr b := by simp [withFr]

theorem withFr_withFr (a b : Nat) (es : List Ev) : withFr a (withFr b es) = withFr a es := by
  simp [withFr]

theorem emitFrame_none_pair (g : Nat) (es : List Ev) : emitFrame g es none = (withFr g es, none) := by
  induction es with
  | nil => rfl
  | cons e es ih => simp only [emitFrame, ih, withFr, List.map_cons]

/-- whatever was pending, nothing is pending behind a frame's events, unless there are none -/
theorem emitFrame_next (g g' : Nat) (es : List Ev) (pend : Option Nat) :
    (emitFrame g' es (emitFrame g es pend).2).1 = withFr g' es := by
  cases es with
  | nil => rfl
  | cons e es => cases pend <;> simp only [emitFrame, emitFrame_none_pair] <;> rfl

/-- the EXTRAPOLATE event in front of frame `g` (only with an indirect X word) -/
def extEv (p : Plan) (step g : Nat) : List Ev := if p.indr > 0 then [⟨.extrap, step, some g, none, none⟩] else []

/-- behind the events of frame `g`: the move to and the events of `m` further frames `g + step, …`, then `post` -/
def loopTail (p : Plan) (fevts : List Ev) (post inter : Option Ev) (step : Nat) : Nat → Nat → List Ev
  | g, 0 => evAt post g
  | g, m + 1 => (evAt inter (g + step) ++ extEv p step (g + step)) ++
      (withFr (g + step) fevts ++ loopTail p fevts post inter step (g + step) m)

theorem frameLoop_eq (p : Plan) (fevts : List Ev) (post inter : Option Ev) (stop step : Nat) (hstep : 0 < step) :
    ∀ fuel g pend, g < stop → stop - g ≤ fuel →
      frameLoop p fevts post inter stop step fuel g pend
        = (emitFrame g fevts pend).1 ++ loopTail p fevts post inter step g (rangeLen (g + step) stop step) := by
  intro fuel
  induction fuel with
  | zero => intro g pend hg hf; omega
  | succ fuel ih =>
    intro g pend hg hf
    simp only [frameLoop, hg, if_true]
    by_cases hlast : g + step ≥ stop
    · have : rangeLen (g + step) stop step = 0 := by unfold rangeLen; rw [if_neg (by omega)]
      rw [if_pos hlast, this, Nat.add_sub_cancel]; rfl
    · rw [if_neg hlast, rangeLen_lt _ _ _ (by omega) hstep, ih _ _ (by omega) (by omega), emitFrame_next]
      simp only [loopTail, extEv, List.append_assoc]

theorem frameLoop_pend (p : Plan) (e1 : Ev) (es : List Ev) (post inter : Option Ev) (stop step fuel g isz : Nat)
    (hg : g < stop) :
    ∃ T, frameLoop p (e1 :: es) post inter stop step (fuel + 1) g none = { e1 with fr := some g } :: T ∧
      frameLoop p (e1 :: es) post inter stop step (fuel + 1) g (some isz) = ⟨e1.ty, isz + e1.siz, some g, none, e1.ct⟩ :: T := by
  simp only [frameLoop, hg, if_true, emitFrame, emitFrame_none_pair]
  split <;> exact ⟨_, rfl, rfl⟩

end TD.C06
