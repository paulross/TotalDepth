import TD.C06.LemmasPlan
import TD.C06.Lemmas

/-!
C06 — the row of a frame with all channels (`rowOf`), the renumbering of `_genFrameSetEvents`, rows written into the
matrix, and `_sliceFromList` on an arithmetic progression of frame offsets.
-/
namespace TD.C06

/-- the words of consecutive channels taken from the bytes of (the rest of) one frame -/
def rowWords : List Chan → List Nat → List Nat
  | [], _ => []
  | c :: cs, bs => takeWords c.wordLen c.numValues bs ++ rowWords cs (bs.drop c.size)

/-- every channel's size is its number of values times the word length (`DatumSpecBlockRead` rejects a size that is not a
multiple of word length × samples; the load theorems assume this as `hok`, it is not derived from `readDsb`) -/
def Dfsr.sizesOk (d : Dfsr) : Prop := ∀ c ∈ d.chans, c.size = c.numValues * c.wordLen

theorem takeWords_length (w k : Nat) (bs : List Nat) : (takeWords w k bs).length = k := by
  induction k generalizing bs with
  | zero => simp [takeWords]
  | succ k ih => simp [takeWords, ih]

theorem rowWords_length (cs : List Chan) (bs : List Nat) : (rowWords cs bs).length = sumN (cs.map Chan.numValues) := by
  induction cs generalizing bs with
  | nil => simp [rowWords, sumN]
  | cons c cs ih => simp [rowWords, sumN, takeWords_length, ih]

theorem runsAux_consecutive (a m k : Nat) : runsAux a m (List.range' (a + m) k) = [(a, m + k)] := by
  induction k generalizing m with
  | zero => rfl
  | succ k ih => rw [List.range'_succ, runsAux, if_pos rfl, Nat.add_assoc, ih, Nat.add_assoc, Nat.add_comm 1 k]

theorem skipToChStart_all (p : Plan) : p.skipToChStart p.numChannels = p.frameSize := by
  simp [Plan.skipToChStart, Plan.numChannels, Plan.frameSize]

/-- all channels selected: one read of the whole frame, no pre, no post -/
theorem retFrameEvents_all (p : Plan) (k : Nat) (hk : p.numChannels = k + 1) :
    retFrameEvents p (List.range (k + 1)) = (none, [⟨.read, p.frameSize, none, some 0, some k⟩], none) := by
  have hr : List.range (k + 1) = 0 :: List.range' (0 + 1) k := by
    rw [List.range_eq_range', List.range'_succ]
  have hlast : (0 :: List.range' (0 + 1) k).getLast?.getD 0 = k := by
    rw [← hr, List.getLast?_range]; simp
  have hend : p.skipToFrameEnd k = 0 := by
    have := skip_end p k; have := skipToChStart_all p; rw [hk] at this; omega
  rw [hr, retFrameEvents_eq, runsAux_consecutive, hlast, hend]
  simp only [Nat.lt_irrefl, if_false, runEvs, readRun, Nat.zero_add, skip_zero, Nat.sub_zero, Nat.add_comm 1 k, ← hk,
    skipToChStart_all]
  rw [hk, Nat.add_sub_cancel]

/-! ### renumbering the events of one record -/

/-- the new position in the buffer after one event of `_genFrameSetEvents`' inner loop -/
def renumStep (buf : List Nat) (k : Nat) (e : Ev) : Nat :=
  if k + 1 < buf.length ∧ (buf[k + 1]? = e.fr ∧ e.fr.isSome) then k + 1 else k

def renumK (buf : List Nat) : List Ev → Nat → Nat
  | [], k => k
  | e :: es, k => renumK buf es (renumStep buf k e)

theorem renumber_cons (buf : List Nat) (frInt : Nat) (e : Ev) (es : List Ev) (k : Nat) :
    renumber buf frInt (e :: es) k
      = { e with fr := some (frInt + renumStep buf k e) } :: renumber buf frInt es (renumStep buf k e) := rfl

theorem renumber_append (buf : List Nat) (frInt : Nat) (a b : List Ev) (k : Nat) :
    renumber buf frInt (a ++ b) k = renumber buf frInt a k ++ renumber buf frInt b (renumK buf a k) := by
  induction a generalizing k with
  | nil => simp [renumber, renumK]
  | cons e es ih => simp only [List.cons_append, renumber_cons, renumK, ih]

theorem execEvs_append (d : Dfsr) (st : Store) (a b : List Ev) (r : Run) :
    execEvs d st (a ++ b) r = (match execEvs d st a r with | .error e => .error e | .ok r' => execEvs d st b r') := by
  induction a generalizing r with
  | nil => simp [execEvs]
  | cons e es ih =>
    simp only [List.cons_append, execEvs]
    cases execEv d st r e with
    | error err => rfl
    | ok r1 => exact ih r1

/-- write the elements `rows` into the list from index `i` on (the rows of the matrix, the X values) -/
def setFrom {α : Type} (M : List α) : Nat → List α → List α
  | _, [] => M
  | i, x :: xs => setFrom (M.set i x) (i + 1) xs

theorem setFrom_length {α : Type} (M : List α) (i : Nat) (rows : List α) :
    (setFrom M i rows).length = M.length := by
  induction rows generalizing M i with
  | nil => rfl
  | cons x xs ih => simp [setFrom, ih]

/-- the row of the frame at offset `g` of the record `bs` (header included), all channels -/
def rowOf (d : Dfsr) (bs : List Nat) (g : Nat) : List (Option Nat) :=
  (rowWords d.chans ((bs.drop (2 + g * sumN (d.chans.map Chan.size))).take (sumN (d.chans.map Chan.size)))).map some

theorem rowOf_length (d : Dfsr) (bs : List Nat) (g : Nat) : (rowOf d bs g).length = sumN (d.chans.map Chan.numValues) := by
  simp [rowOf, rowWords_length]

/-! ### one record: the slice recovered from the offsets -/

theorem ap_getLast (a step len : Nat) : (ap a step (len + 1)).getLast? = some (a + len * step) := by
  unfold ap; rw [List.range_succ]; simp

theorem rangeLen_ap (a step len : Nat) (hs : 0 < step) : rangeLen a (a + len * step + 1) step = len + 1 := by
  unfold rangeLen
  have : a < a + len * step + 1 := by omega
  simp only [this, if_true]
  have : a + len * step + 1 - a - 1 = len * step := by omega
  rw [this, Nat.mul_div_cancel _ hs]

/-- `_sliceFromList` of an arithmetic progression gives back a slice that enumerates it -/
theorem sliceFromList_ap (a step len : Nat) (hs : 0 < step) :
    ∃ c, 0 < c ∧ sliceFromList (ap a step (len + 1)) = .ok (a, a + len * step + 1, c) ∧
      rangeList a (a + len * step + 1) c = ap a step (len + 1) ∧ (len ≠ 0 → c = step) := by
  cases len with
  | zero =>
    refine ⟨1, by omega, by simp [ap, sliceFromList], ?_, by simp⟩
    rw [rangeList_eq_ap]
    have := rangeLen_ap a 1 0 (by omega)
    simp only [Nat.zero_mul, Nat.add_zero] at this ⊢
    rw [this]; simp [ap]
  | succ m =>
    refine ⟨step, hs, ?_, ?_, fun _ => rfl⟩
    · have hlast := ap_getLast a step (m + 1)
      have hlen : (ap a step (m + 1 + 1)).length = m + 2 := by simp [ap]
      have hcons : ap a step (m + 1 + 1) = a :: ((List.range (m + 1)).map (fun i => a + (i + 1) * step)) := by
        unfold ap; rw [List.range_succ_eq_map]; simp [Function.comp]
      rw [hcons] at hlast hlen ⊢
      cases hm : (List.range (m + 1)).map (fun i => a + (i + 1) * step) with
      | nil => simp at hm
      | cons y ys =>
        rw [hm] at hlast hlen
        simp only [sliceFromList, hlast, Option.getD_some, hlen]
        have h1 : m + 2 - 1 = m + 1 := by omega
        have h2 : a + (m + 1) * step + 1 - 1 - a = (m + 1) * step := by omega
        have h3 : (m + 1) * step / (m + 1) = step := by rw [Nat.mul_comm]; exact Nat.mul_div_cancel _ (by omega)
        have h4 : (m + 1) * step % step = 0 := Nat.mul_mod_left _ _
        simp [h1, h3, h4]; omega
    · rw [rangeList_eq_ap, rangeLen_ap a step (m + 1) hs]

theorem sortDedup_of_sorted (l : List Nat) (h : l.Pairwise (· < ·)) : sortDedup l = l := by
  induction l with
  | nil => rfl
  | cons a as ih =>
    have hp := List.pairwise_cons.1 h
    have : sortDedup (a :: as) = insertSorted a (sortDedup as) := rfl
    rw [this, ih hp.2]
    cases as with
    | nil => rfl
    | cons b bs => simp [insertSorted, hp.1 b (List.mem_cons_self ..)]

theorem merged_none_none (p : Plan) (c : Nat) :
    mergedPostFramePre p none none c
      = if (c - 1) * p.frameSize > 0 then some ⟨.skip, (c - 1) * p.frameSize, none, none, none⟩ else none := by
  unfold mergedPostFramePre
  by_cases h : c > 1
  · simp [h]
  · have : c - 1 = 0 := by omega
    simp [h, this]

theorem ap_getElem (a step len i : Nat) : (ap a step len)[i]? = if i < len then some (a + i * step) else none := by
  unfold ap
  by_cases h : i < len
  · simp [h]
  · simp [h]

/-! ### reading the matrix back -/

theorem setFrom_getElem {α : Type} (M : List α) (i : Nat) (rows : List α) (q : Nat)
    (h : i + rows.length ≤ M.length) :
    (setFrom M i rows)[q]? = if i ≤ q ∧ q < i + rows.length then rows[q - i]? else M[q]? := by
  induction rows generalizing M i with
  | nil => simp [setFrom]
  | cons x xs ih =>
    simp only [setFrom, List.length_cons] at h ⊢
    rw [ih (M.set i x) (i + 1) (by simp; omega)]
    by_cases hq : q = i
    · subst hq
      have h1 : ¬ (q + 1 ≤ q ∧ q < q + 1 + xs.length) := by omega
      have h2 : q ≤ q ∧ q < q + (xs.length + 1) := by omega
      rw [if_neg h1, if_pos h2]
      simp [List.getElem?_set]; omega
    · by_cases hin : i + 1 ≤ q ∧ q < i + 1 + xs.length
      · have h2 : i ≤ q ∧ q < i + (xs.length + 1) := by omega
        rw [if_pos hin, if_pos h2]
        have : q - i = (q - (i + 1)) + 1 := by omega
        rw [this]; rfl
      · have h2 : ¬ (i ≤ q ∧ q < i + (xs.length + 1)) := by omega
        rw [if_neg hin, if_neg h2, List.getElem?_set]
        simp [Ne.symm hq]

theorem setFrom_full {α : Type} (M rows : List α) (h : rows.length = M.length) : setFrom M 0 rows = rows := by
  apply List.ext_getElem?
  intro q
  rw [setFrom_getElem M 0 rows q (by omega)]
  by_cases hq : q < rows.length
  · simp [hq]
  · simp [hq]; omega

end TD.C06
