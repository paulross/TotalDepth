import TD.C06.LemmasLoad

/-!
C06 — several data records: the grouping of `_retFrameSetMap` and its sorted order; `frameRow` is the row a frame must
get when all channels are loaded.
-/
namespace TD.C06

/-! ### `locate` on a record list with strictly increasing positions -/

def IncTells (R : List (Int × Nat)) : Prop := R.Pairwise (fun a b => a.1 < b.1)

theorem locate_mem (R : List (Int × Nat)) (f : Nat) (t : Int) (off : Nat) (h : locate R f = some (t, off)) :
    ∃ n, (t, n) ∈ R ∧ off < n := by
  induction R generalizing f with
  | nil => simp [locate] at h
  | cons r rest ih =>
    obtain ⟨t0, n0⟩ := r
    simp only [locate] at h
    split at h
    · rename_i hlt
      simp only [Option.some.injEq, Prod.mk.injEq] at h
      obtain ⟨rfl, rfl⟩ := h
      exact ⟨n0, List.mem_cons_self .., hlt⟩
    · obtain ⟨n, hm, hl⟩ := ih _ h
      exact ⟨n, List.mem_cons_of_mem _ hm, hl⟩

theorem locate_off_le (R : List (Int × Nat)) (f : Nat) (t : Int) (off : Nat) (h : locate R f = some (t, off)) : off ≤ f := by
  induction R generalizing f with
  | nil => simp [locate] at h
  | cons r rest ih =>
    obtain ⟨t0, n0⟩ := r
    simp only [locate] at h
    split at h
    · simp only [Option.some.injEq, Prod.mk.injEq] at h; omega
    · have := ih _ h; omega

theorem locate_step (R : List (Int × Nat)) (hR : IncTells R) (f f' : Nat) (hff : f < f') (t t' : Int) (off off' : Nat)
    (h : locate R f = some (t, off)) (h' : locate R f' = some (t', off')) :
    (t < t' ∧ off' < f' - f) ∨ (t = t' ∧ off' = off + (f' - f)) := by
  induction R generalizing f f' with
  | nil => simp [locate] at h
  | cons r rest ih =>
    obtain ⟨t0, n0⟩ := r
    have hp := List.pairwise_cons.1 hR
    simp only [locate] at h h'
    by_cases h1 : f < n0
    · simp only [h1, if_true, Option.some.injEq, Prod.mk.injEq] at h
      obtain ⟨rfl, rfl⟩ := h
      by_cases h2 : f' < n0
      · simp only [h2, if_true, Option.some.injEq, Prod.mk.injEq] at h'
        obtain ⟨rfl, rfl⟩ := h'
        right; exact ⟨rfl, by omega⟩
      · simp only [h2, if_false] at h'
        obtain ⟨n, hm, _⟩ := locate_mem rest _ _ _ h'
        have := locate_off_le rest _ _ _ h'
        left; exact ⟨hp.1 _ hm, by omega⟩
    · have h2 : ¬ f' < n0 := by omega
      simp only [h1, h2, if_false] at h h'
      have := ih hp.2 (f - n0) (f' - n0) (by omega) h h'
      rcases this with ⟨h3, h4⟩ | ⟨h3, h4⟩
      · left; exact ⟨h3, by omega⟩
      · right; exact ⟨h3, by omega⟩

theorem locate_lt (R : List (Int × Nat)) (f : Nat) (h : f < (R.map (·.2)).sum) : ∃ r, locate R f = some r := by
  induction R generalizing f with
  | nil => simp at h
  | cons r rest ih =>
    obtain ⟨t0, n0⟩ := r
    simp only [locate]
    by_cases h1 : f < n0
    · exact ⟨(t0, f), by simp [h1]⟩
    · simp only [h1, if_false]
      exact ih _ (by simp at h; omega)

/-! ### the dict of `_retFrameSetMap` as a fold -/

def foldMap : List (Int × List Nat) → List (Int × Nat) → List (Int × List Nat)
  | acc, [] => acc
  | acc, (k, v) :: rest => foldMap (mapAppend acc k v) rest

theorem retFrameSetMapAux_fold (l : List Item01) (loc : Nat → Int × Nat) (frames : List Nat)
    (h : ∀ f ∈ frames, rle01Tell l f = .ok (loc f)) (acc : List (Int × List Nat)) :
    retFrameSetMapAux l frames acc = .ok (foldMap acc (frames.map loc)) := by
  induction frames generalizing acc with
  | nil => simp [retFrameSetMapAux, foldMap]
  | cons f fs ih =>
    have hf := h f (List.mem_cons_self ..)
    simp only [retFrameSetMapAux, hf, List.map_cons, foldMap]
    cases hl : loc f with
    | mk k v => exact ih (fun f' hf' => h f' (List.mem_cons_of_mem _ hf')) _

theorem mapAppend_notin (acc : List (Int × List Nat)) (k : Int) (v : Nat) (h : ∀ e ∈ acc, e.1 ≠ k) :
    mapAppend acc k v = acc ++ [(k, [v])] := by
  induction acc with
  | nil => rfl
  | cons e es ih =>
    obtain ⟨k', vs⟩ := e
    have h1 : k' ≠ k := h (k', vs) (List.mem_cons_self ..)
    simp only [mapAppend, h1, if_false, List.cons_append]
    rw [ih (fun e he => h e (List.mem_cons_of_mem _ he))]

theorem mapAppend_last (pre : List (Int × List Nat)) (k : Int) (vs : List Nat) (v : Nat) (h : ∀ e ∈ pre, e.1 ≠ k) :
    mapAppend (pre ++ [(k, vs)]) k v = pre ++ [(k, vs ++ [v])] := by
  induction pre with
  | nil => simp [mapAppend]
  | cons e es ih =>
    obtain ⟨k', vs'⟩ := e
    have h1 : k' ≠ k := h (k', vs') (List.mem_cons_self ..)
    simp only [List.cons_append, mapAppend, h1, if_false]
    rw [ih (fun e he => h e (List.mem_cons_of_mem _ he))]

/-- consecutive located frames: a later record, or the same record `c` frames further -/
def Chain (c : Nat) : List (Int × Nat) → Prop
  | [] => True
  | [_] => True
  | (k, v) :: (k', v') :: rest => ((k < k' ∧ v' < c) ∨ (k = k' ∧ v' = v + c)) ∧ Chain c ((k', v') :: rest)

/-- the located frames a grouping stands for -/
def flat (acc : List (Int × List Nat)) : List (Int × Nat) := acc.flatMap (fun e => e.2.map (fun v => (e.1, v)))

/-- a grouping: keys strictly increasing, every buffer a non-empty arithmetic progression of step `c` -/
def Grouped (c : Nat) (acc : List (Int × List Nat)) : Prop :=
  (acc.map (·.1)).Pairwise (· < ·) ∧ ∀ e ∈ acc, ∃ a len, e.2 = ap a c (len + 1)

/-- how the next located frame `(k, v)` continues a grouping -/
def Continues (c : Nat) (acc : List (Int × List Nat)) (k : Int) (v : Nat) : Prop :=
  acc = [] ∨ ∃ pre k0 a len, acc = pre ++ [(k0, ap a c (len + 1))] ∧ ((k0 < k ∧ v < c) ∨ (k0 = k ∧ v = a + (len + 1) * c))

/-- the first located frame (if any) continues the grouping -/
def ContinuesHead (c : Nat) (acc : List (Int × List Nat)) : List (Int × Nat) → Prop
  | [] => True
  | (k, v) :: _ => Continues c acc k v

theorem ap_snoc (a c len : Nat) : ap a c len ++ [a + len * c] = ap a c (len + 1) := by
  unfold ap; rw [List.range_succ]; simp

theorem ap_one (a c : Nat) : ap a c 1 = [a] := by simp [ap]

theorem flat_append (x y : List (Int × List Nat)) : flat (x ++ y) = flat x ++ flat y := by simp [flat]

theorem flat_single (k : Int) (vs : List Nat) : flat [(k, vs)] = vs.map (fun v => (k, v)) := by simp [flat]

/-- **The dict of `_retFrameSetMap`**: folding a chain of located frames into the dict gives a grouping (keys strictly
increasing — hence already sorted —, buffers arithmetic progressions) that flattens back to the located frames. -/
theorem foldMap_grouped (c : Nat) (locs : List (Int × Nat)) :
    ∀ acc, Grouped c acc → (∀ e ∈ acc.tail, e.2.headD 0 < c) → Chain c locs →
      ContinuesHead c acc locs →
      Grouped c (foldMap acc locs) ∧ flat (foldMap acc locs) = flat acc ++ locs ∧
        (∀ e ∈ (foldMap acc locs).tail, e.2.headD 0 < c) := by
  induction locs with
  | nil => intro acc hg htl _ _; simp only [foldMap]; exact ⟨hg, by simp, htl⟩
  | cons kv rest ih =>
    obtain ⟨k, v⟩ := kv
    intro acc hg htl hch hcont
    simp only [ContinuesHead] at hcont
    simp only [foldMap]
    -- the grouping after inserting (k, v), and how the next frame continues it
    have key : ∃ acc', mapAppend acc k v = acc' ∧ Grouped c acc' ∧ flat acc' = flat acc ++ [(k, v)] ∧
        (∀ e ∈ acc'.tail, e.2.headD 0 < c) ∧
        ∃ pre a len, acc' = pre ++ [(k, ap a c (len + 1))] ∧ v = a + len * c := by
      rcases hcont with rfl | ⟨pre, k0, a, len, rfl, hk⟩
      · refine ⟨[(k, [v])], rfl, ⟨by simp, ?_⟩, by simp [flat], by simp, [], v, 0, by simp [ap_one], by simp⟩
        intro e he; simp at he; subst he; exact ⟨v, 0, by simp [ap_one]⟩
      · obtain ⟨hpw, hbuf⟩ := hg
        simp only [List.map_append, List.map_cons, List.map_nil] at hpw
        have hpre : ∀ e ∈ pre, e.1 < k0 := by
          intro e he
          have := (List.pairwise_append.1 hpw).2.2 e.1 (List.mem_map_of_mem he) k0 (by simp)
          exact this
        rcases hk with ⟨hlt, hvc⟩ | ⟨rfl, hv⟩
        · have hne : ∀ e ∈ pre ++ [(k0, ap a c (len + 1))], e.1 ≠ k := by
            intro e he
            rcases List.mem_append.1 he with h | h
            · have := hpre e h; omega
            · simp at h; subst h; simp; omega
          refine ⟨_, mapAppend_notin _ k v hne, ⟨?_, ?_⟩, ?_, ?_, pre ++ [(k0, ap a c (len + 1))], v, 0, by simp [ap_one], by simp⟩
          · simp only [List.map_append, List.map_cons, List.map_nil]
            apply List.pairwise_append.2
            refine ⟨hpw, by simp, ?_⟩
            intro x hx y hy
            simp at hy; subst hy
            rcases List.mem_append.1 hx with h | h
            · obtain ⟨e, he, rfl⟩ := List.mem_map.1 h
              have := hpre e he; omega
            · simp at h; subst h; exact hlt
          · intro e he
            rcases List.mem_append.1 he with h | h
            · exact hbuf e h
            · simp at h; subst h; exact ⟨v, 0, by simp [ap_one]⟩
          · rw [flat_append, flat_single]; simp
          · intro e he
            rw [List.tail_append_of_ne_nil (by simp)] at he
            rcases List.mem_append.1 he with h | h
            · exact htl e h
            · simp at h; subst h; simpa using hvc
        · have hne : ∀ e ∈ pre, e.1 ≠ k0 := fun e he => by have := hpre e he; omega
          refine ⟨_, mapAppend_last pre k0 _ v hne, ⟨?_, ?_⟩, ?_, ?_, pre, a, len + 1, by rw [hv, ap_snoc], hv⟩
          · simpa using hpw
          · intro e he
            rcases List.mem_append.1 he with h | h
            · exact hbuf e (List.mem_append_left _ h)
            · simp at h; subst h; exact ⟨a, len + 1, by rw [hv, ap_snoc]⟩
          · rw [flat_append, flat_append, flat_single, flat_single]; simp
          · intro e he
            have hhd : (ap a c (len + 1) ++ [v]).headD 0 = (ap a c (len + 1)).headD 0 := by
              simp [ap, List.range_succ_eq_map]
            cases pre with
            | nil => simp at he
            | cons q qs =>
              simp only [List.cons_append, List.tail_cons] at he htl
              rcases List.mem_append.1 he with h | h
              · exact htl e (List.mem_append_left _ h)
              · simp at h; subst h
                have := htl (k0, ap a c (len + 1)) (by simp)
                simp only at this ⊢
                rw [hhd]; exact this
    obtain ⟨acc', hma, hg', hflat, htl', pre, a, len, hacc', hva⟩ := key
    rw [hma]
    have hnext : ContinuesHead c acc' rest := by
      cases rest with
      | nil => trivial
      | cons kv' rest' =>
        obtain ⟨k', v'⟩ := kv'
        simp only [Chain] at hch
        simp only [ContinuesHead]
        right
        refine ⟨pre, k, a, len, hacc', ?_⟩
        rcases hch.1 with ⟨h, hv'⟩ | ⟨h1, h2⟩
        · left; exact ⟨h, hv'⟩
        · right; refine ⟨h1, ?_⟩; rw [h2, hva]; ring
    have hch' : Chain c rest := by
      cases rest with
      | nil => trivial
      | cons kv' rest' => obtain ⟨k', v'⟩ := kv'; exact hch.2
    obtain ⟨h1, h2, h3⟩ := ih acc' hg' htl' hch' hnext
    exact ⟨h1, by rw [h2, hflat]; simp, h3⟩

/-! ### `sorted(keys)` of a grouping is the grouping -/

theorem insertByKey_lt (x : Int × List Nat) (l : List (Int × List Nat)) (h : ∀ e ∈ l, x.1 < e.1) :
    insertByKey x l = x :: l := by
  cases l with
  | nil => rfl
  | cons y ys => simp [insertByKey, h y (List.mem_cons_self ..)]

theorem sortByKey_sorted (l : List (Int × List Nat)) (h : (l.map (·.1)).Pairwise (· < ·)) : sortByKey l = l := by
  induction l with
  | nil => rfl
  | cons x xs ih =>
    simp only [List.map_cons] at h
    have hp := List.pairwise_cons.1 h
    have : sortByKey (x :: xs) = insertByKey x (sortByKey xs) := rfl
    rw [this, ih hp.2]
    exact insertByKey_lt x xs (fun e he => hp.1 e.1 (List.mem_map_of_mem he))

/-! ### the located frames of a slice form a chain -/

theorem chain_of_frames (R : List (Int × Nat)) (hR : IncTells R) (c : Nat) (hc : 0 < c) (loc : Nat → Int × Nat) :
    ∀ (a b : Nat), (∀ f, a ≤ f → f < b → locate R f = some (loc f)) → Chain c ((rangeList a b c).map loc) := by
  intro a b
  -- induction on the number of frames
  generalize hn : rangeLen a b c = n
  induction n generalizing a with
  | zero =>
    intro _
    have : rangeList a b c = [] := by simp [rangeList, hn]
    simp [this, Chain]
  | succ n ih =>
    intro hloc
    have hab : a < b := by
      by_contra h
      have : rangeLen a b c = 0 := by simp [rangeLen, h]
      omega
    rw [rangeList_cons a b c hab hc]
    have hlen := rangeLen_lt a b c hab hc
    have hrec := ih (a + c) (by omega) (fun f h1 h2 => hloc f (by omega) h2)
    by_cases h2 : a + c < b
    · rw [rangeList_cons (a + c) b c h2 hc] at hrec ⊢
      simp only [List.map_cons] at hrec ⊢
      cases hl : loc a with
      | mk k v =>
        cases hl' : loc (a + c) with
        | mk k' v' =>
          rw [hl'] at hrec
          refine ⟨?_, hrec⟩
          have h1 := hloc a (Nat.le_refl _) hab
          have h1' := hloc (a + c) (by omega) h2
          rw [hl] at h1; rw [hl'] at h1'
          have := locate_step R hR a (a + c) (by omega) k k' v v' h1 h1'
          rcases this with ⟨h, hb⟩ | ⟨h, h'⟩
          · left; exact ⟨h, by omega⟩
          · right; exact ⟨h, by omega⟩
    · rw [rangeList_nil _ _ _ (by omega)]
      simp only [List.map_cons, List.map_nil]
      cases loc a; trivial

/-! ### rows of consecutive map entries -/

theorem setFrom_append {α : Type} (M : List α) (i : Nat) (xs ys : List α) :
    setFrom (setFrom M i xs) (i + xs.length) ys = setFrom M i (xs ++ ys) := by
  induction xs generalizing M i with
  | nil => simp [setFrom]
  | cons x xs ih =>
    simp only [setFrom, List.length_cons, List.cons_append]
    rw [← ih (M.set i x) (i + 1)]
    congr 1; omega

theorem setFrom_rowlen (w : Nat) (M : List (List (Option Nat))) (i : Nat) (xs : List (List (Option Nat)))
    (hM : ∀ row ∈ M, row.length = w) (hx : ∀ row ∈ xs, row.length = w) : ∀ row ∈ setFrom M i xs, row.length = w := by
  induction xs generalizing M i with
  | nil => simpa [setFrom] using hM
  | cons x xs ih =>
    simp only [setFrom]
    apply ih
    · intro row hm
      rcases List.mem_or_eq_of_mem_set hm with h | h
      · exact hM _ h
      · rw [h]; exact hx x (List.mem_cons_self ..)
    · exact fun row h => hx row (List.mem_cons_of_mem _ h)

def bytesOf (st : Store) (t : Nat) : List Nat := (Store.find st t).getD []

theorem ap_length (a c len : Nat) : (ap a c len).length = len := by simp [ap]

theorem mem_rangeList (a b c f : Nat) (h : f ∈ rangeList a b c) : a ≤ f ∧ f < b := by
  unfold rangeList at h
  simp only [List.mem_map, List.mem_range] at h
  obtain ⟨i, hi, rfl⟩ := h
  unfold rangeLen at hi
  split at hi
  · rename_i hab
    by_cases hc : c = 0
    · subst hc; simp at hi ⊢; exact hab
    · have h1 : i ≤ (b - a - 1) / c := by omega
      have h2 := Nat.div_mul_le_self (b - a - 1) c
      have h3 : i * c ≤ (b - a - 1) / c * c := Nat.mul_le_mul_right _ h1
      omega
  · omega

theorem flat_length (G : List (Int × List Nat)) : (flat G).length = (G.map (·.2.length)).sum := by
  induction G with
  | nil => rfl
  | cons e es ih => simp [flat] at ih ⊢

theorem flat_rows {β} (g : Int → Nat → β) (G : List (Int × List Nat)) :
    G.flatMap (fun e => e.2.map (g e.1)) = (flat G).map (fun q => g q.1 q.2) := by
  induction G with
  | nil => rfl
  | cons e es ih => simp [flat] at ih ⊢; rw [ih]; rfl

/-- the row the matrix must hold for frame `f`: all channels, from the record that `locate` finds -/
def frameRow (d : Dfsr) (st : Store) (R : List (Int × Nat)) (f : Nat) : List (Option Nat) :=
  match locate R f with
  | some (t, off) => rowOf d (bytesOf st t.toNat) off
  | none => []

end TD.C06
