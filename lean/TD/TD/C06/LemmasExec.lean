import TD.C06.LemmasInd

/-!
C06 — the events of one data record and of all map entries, executed: any channel selection, either X mode; the row a
frame gets is `rowOfRec`.
-/
namespace TD.C06

/-! ### renumbering: the buffer is the strictly increasing list of the record's frames -/

theorem renumStep_at (buf done L : List Nat) (g : Nat) (hbuf : buf = done ++ g :: L) (hinc : buf.Pairwise (· < ·))
    (e : Ev) (he : e.fr = some g ∨ e.fr = none) : renumStep buf done.length e = done.length := by
  unfold renumStep
  rw [if_neg]
  rintro ⟨_, h1, h2⟩
  rcases he with he | he
  · rw [he, hbuf, List.getElem?_append_right (by omega)] at h1
    have hg : ∀ x ∈ L, g < x := (List.pairwise_cons.1 (List.pairwise_append.1 (hbuf ▸ hinc)).2.1).1
    have := hg g (List.mem_of_getElem? (by simpa using h1))
    omega
  · rw [he] at h2; cases h2

theorem renumber_at (buf done L : List Nat) (g frInt : Nat) (hbuf : buf = done ++ g :: L) (hinc : buf.Pairwise (· < ·)) :
    ∀ es : List Ev, (∀ e ∈ es, e.fr = some g ∨ e.fr = none) →
      renumber buf frInt es done.length = withFr (frInt + done.length) es ∧ renumK buf es done.length = done.length := by
  intro es
  induction es with
  | nil => intro _; exact ⟨rfl, rfl⟩
  | cons e es ih =>
    intro h
    have h1 := renumStep_at buf done L g hbuf hinc e (h e (List.mem_cons_self ..))
    obtain ⟨h2, h3⟩ := ih (fun x hx => h x (List.mem_cons_of_mem _ hx))
    rw [renumber_cons, renumK, h1, h2, h3]
    exact ⟨rfl, rfl⟩

theorem renumber_block (buf done L : List Nat) (g frInt : Nat) (hbuf : buf = done ++ g :: L) (hinc : buf.Pairwise (· < ·))
    (es : List Ev) (kk : Nat) (hkk : kk = done.length ∨ kk + 1 = done.length) (hfr : ∀ e ∈ es, e.fr = some g) :
    renumber buf frInt es kk = withFr (frInt + done.length) es ∧
      (renumK buf es kk = done.length ∨ renumK buf es kk + 1 = done.length) ∧ (es ≠ [] → renumK buf es kk = done.length) := by
  cases es with
  | nil => exact ⟨rfl, hkk, fun h => absurd rfl h⟩
  | cons e es =>
    have hbj : buf[done.length]? = some g := by rw [hbuf]; simp
    have h1 : renumStep buf kk e = done.length := by
      rcases hkk with rfl | hkk
      · exact renumStep_at buf done L g hbuf hinc e (Or.inl (hfr e (List.mem_cons_self ..)))
      · unfold renumStep
        have hl : done.length < buf.length := by rw [hbuf]; simp
        rw [if_pos ⟨by omega, by rw [hkk, hbj, hfr e (List.mem_cons_self ..)], by rw [hfr e (List.mem_cons_self ..)]; rfl⟩, hkk]
    obtain ⟨h2, h3⟩ := renumber_at buf done L g frInt hbuf hinc es (fun x hx => Or.inl (hfr x (List.mem_cons_of_mem _ hx)))
    rw [renumber_cons, renumK, h1, h2, h3]
    exact ⟨rfl, Or.inl rfl, fun _ => rfl⟩

theorem evAt_fr (o : Option Ev) (g : Nat) : ∀ e ∈ evAt o g, e.fr = some g := by
  cases o <;> simp [evAt]

theorem extEv_fr (p : Plan) (step g : Nat) : ∀ e ∈ extEv p step g, e.fr = some g := by
  unfold extEv; split <;> simp

/-- the row of the frame at offset `g` of record `bs` (header, indirect word of `p.indr` bytes, frames) -/
def rowOfRec (d : Dfsr) (p : Plan) (cs : List Nat) (bs : List Nat) (g : Nat) : List (Option Nat) :=
  (rowSel d p cs (bs.drop (2 + p.indr + g * p.frameSize))).map some

theorem rowOfRec_length (d : Dfsr) (p : Plan) (cs : List Nat) (bs : List Nat) (g : Nat) :
    (rowOfRec d p cs bs g).length = sumN ((selChans d cs).map Chan.numValues) := by
  simp [rowOfRec, rowSel_length]

theorem rowOfRec_direct (d : Dfsr) (p : Plan) (hpi : p.indr = 0) (cs : List Nat) (bs : List Nat) :
    rowOfRec d p cs bs = rowOfSel d p cs bs := by
  funext g; simp only [rowOfRec, rowOfSel, hpi, Nat.add_zero]

/-- one data record `bs` of `n` frames behind header and indirect word, read for the sorted channels `c0 :: rest` -/
structure RecCtx (d : Dfsr) (p : Plan) (bs : List Nat) (n c0 : Nat) (rest : List Nat) (pre post : Option Ev)
    (fevts : List Ev) : Prop where
  hp : p.sizes = d.chans.map Chan.size
  hok : d.sizesOk
  hbs : bs.length = 2 + p.indr + n * p.frameSize
  hltc : ∀ c ∈ c0 :: rest, c < d.chans.length
  hsorted : (c0 :: rest).Pairwise (· < ·)
  hret : retFrameEvents p (c0 :: rest) = (pre, fevts, post)

theorem frame_step (d : Dfsr) (p : Plan) (st : Store) (t : Nat) (bs : List Nat) (n c0 : Nat) (rest : List Nat)
    (pre post : Option Ev) (fevts : List Ev) (C : RecCtx d p bs n c0 rest pre post fevts)
    (buf done L : List Nat) (g frInt kk : Nat) (hbuf : buf = done ++ g :: L) (hinc : buf.Pairwise (· < ·))
    (hkk : kk = done.length ∨ kk + 1 = done.length) (hgn : g < n) (r : Run) (hcur : r.cur = some (t, bs))
    (hofs : r.ofs = 2 + p.indr + g * p.frameSize + p.skipToChStart c0) (hch : r.fs.chIdx = c0 :: rest)
    (hrows : ∀ row ∈ r.fs.frames, row.length = sumN ((selChans d (c0 :: rest)).map Chan.numValues))
    (hltN : frInt + done.length < r.fs.frames.length) (R : List Ev) :
    ∃ r1, execEvs d st (renumber buf frInt (withFr g fevts ++ R) kk) r = execEvs d st (renumber buf frInt R done.length) r1 ∧
      r1.cur = r.cur ∧ r1.ofs = 2 + p.indr + g * p.frameSize + p.skipToChStart (lastP1 rest (c0 + 1)) ∧
      r1.fs = { r.fs with frames := r.fs.frames.set (frInt + done.length) (rowOfRec d p (c0 :: rest) bs g) } := by
  have hg1 : (g + 1) * p.frameSize ≤ n * p.frameSize := Nat.mul_le_mul_right _ (by omega)
  have hctx : FrameCtx d p r t bs (2 + p.indr + g * p.frameSize) (frInt + done.length) (c0 :: rest) r.fs.frames[frInt + done.length] :=
    ⟨C.hp, C.hok, hcur, by have := C.hbs; rw [Nat.succ_mul] at hg1; omega, hch, C.hltc, List.getElem?_eq_getElem hltN,
      hrows _ (List.getElem_mem hltN)⟩
  obtain ⟨r1, hex1, hcur1, hofs1, hfs1⟩ := frameEvents_exec d p st r t bs _ (frInt + done.length) c0 rest _ hctx C.hsorted hofs
    pre post fevts C.hret
  obtain ⟨hb1, _, hb2⟩ := renumber_block buf done L g frInt hbuf hinc (withFr g fevts) kk hkk
    (by intro e he; obtain ⟨x, _, rfl⟩ := List.mem_map.1 he; rfl)
  have hne : withFr g fevts ≠ [] := by
    have := (frame_moves p c0 rest C.hsorted pre post fevts C.hret).1
    simpa [withFr] using this
  refine ⟨r1, ?_, hcur1, hofs1, hfs1⟩
  rw [renumber_append, hb1, hb2 hne, execEvs_append, withFr_withFr, hex1]

theorem move_exec (d : Dfsr) (p : Plan) (st : Store) (t : Nat) (bs : List Nat) (r1 : Run) (inter : Option Ev)
    (siz step fr g' : Nat) (xg sp : Int)
    (hmf : (inter = none ∧ siz = 0) ∨ ∃ cf ct, inter = some ⟨.skip, siz, none, cf, ct⟩)
    (hcur : r1.cur = some (t, bs)) (hlen : r1.ofs + siz ≤ bs.length)
    (hX : 0 < p.indr → r1.fs.frameSpacing = some sp ∧ r1.fs.xvec[fr]? = some (some xg) ∧ fr + 1 < r1.fs.xvec.length) :
    ∃ r2, execEvs d st (withFr (fr + 1) (evAt inter g' ++ extEv p step g')) r1 = .ok r2 ∧ r2.cur = r1.cur ∧
      r2.ofs = r1.ofs + siz ∧
      r2.fs = { r1.fs with xvec := if 0 < p.indr then r1.fs.xvec.set (fr + 1) (some (xg + (step : Int) * sp)) else r1.fs.xvec } := by
  have hsk : ∃ ra, execEvs d st (withFr (fr + 1) (evAt inter g')) r1 = .ok ra ∧ ra.cur = r1.cur ∧ ra.ofs = r1.ofs + siz ∧
      ra.fs = r1.fs := by
    rcases hmf with ⟨rfl, rfl⟩ | ⟨cf, ct, rfl⟩
    · exact ⟨r1, rfl, rfl, rfl, rfl⟩
    · obtain ⟨ops, h⟩ := exec_skip d st r1 t bs siz (some (fr + 1)) cf ct hcur hlen
      exact ⟨⟨r1.cur, r1.ofs + siz, r1.fs, ops⟩, by simp only [evAt, withFr, List.map_cons, List.map_nil, execEvs, h], rfl, rfl, rfl⟩
  obtain ⟨ra, hra, h1, h2, h3⟩ := hsk
  rw [withFr_append, execEvs_append, hra]
  unfold extEv
  by_cases hi : 0 < p.indr
  · obtain ⟨hsp, hx, hl⟩ := hX hi
    have := exec_extrap d st ra step (fr + 1) none none xg sp (by rw [h3]; simpa using hx) (by rw [h3]; exact hsp)
      (by rw [h3]; exact hl)
    simp only [gt_iff_lt, hi, if_true, withFr, List.map_cons, List.map_nil, execEvs, this]
    exact ⟨_, rfl, h1, h2, by rw [h3]⟩
  · simp only [gt_iff_lt, hi, if_false, withFr, List.map_nil, execEvs]
    exact ⟨ra, rfl, h1, h2, h3⟩

/-- from behind the last selected channel of frame `g` (`S` bytes in, `E` to go) the merged skip leads to the first
selected channel (`A` bytes in) of frame `g + step`, inside a record of `n` frames of `F` bytes -/
theorem move_arith (F g step n A S E : Nat) (hs : 0 < step) (hSE : S + E = F) (hA : A ≤ F) (hn : g + step < n) :
    g * F + S + ((step - 1) * F + E + A) = (g + step) * F + A ∧ (g + step) * F + A ≤ n * F := by
  obtain ⟨s', rfl⟩ : ∃ s', step = s' + 1 := ⟨step - 1, by omega⟩
  have h := Nat.mul_le_mul_right F (show g + (s' + 1) + 1 ≤ n by omega)
  simp only [Nat.add_sub_cancel, Nat.add_mul, Nat.one_mul] at h ⊢
  omega

/-- The frame loop of one record from frame `g` on (row `frInt + done.length`). `done` are the frames of the buffer whose rows are written already,
`kk` is the cursor of `renumber` (at the position of `g` or, coming from the previous frame, one before it), `xg` the X of
the row of `g`. -/
theorem loop_exec (d : Dfsr) (p : Plan) (st : Store) (t : Nat) (bs : List Nat) (n c0 : Nat) (rest : List Nat)
    (pre post : Option Ev) (fevts : List Ev) (C : RecCtx d p bs n c0 rest pre post fevts)
    (step : Nat) (hstep : 0 < step) (sp : Int) (buf : List Nat) (hinc : buf.Pairwise (· < ·)) (frInt : Nat) :
    ∀ (m : Nat) (done : List Nat) (g kk : Nat) (r : Run) (xg : Int),
      buf = done ++ ap g step (m + 1) → (kk = done.length ∨ kk + 1 = done.length) → g + m * step < n →
      r.cur = some (t, bs) → r.ofs = 2 + p.indr + g * p.frameSize + p.skipToChStart c0 → r.fs.chIdx = c0 :: rest →
      (∀ row ∈ r.fs.frames, row.length = sumN ((selChans d (c0 :: rest)).map Chan.numValues)) →
      frInt + buf.length ≤ r.fs.frames.length →
      (0 < p.indr → r.fs.xvec.length = r.fs.frames.length ∧ r.fs.frameSpacing = some sp ∧
        r.fs.xvec[frInt + done.length]? = some (some xg)) →
      ∃ r', execEvs d st (renumber buf frInt
          (withFr g fevts ++ loopTail p fevts post (mergedPostFramePre p pre post step) step g m) kk) r = .ok r' ∧ r'.cur = r.cur ∧
        r'.fs = { r.fs with
          frames := setFrom r.fs.frames (frInt + done.length) ((ap g step (m + 1)).map (rowOfRec d p (c0 :: rest) bs)),
          xvec := setVals r.fs.xvec (frInt + done.length + 1) (if 0 < p.indr then xsFrom xg step sp m else []) } := by
  obtain ⟨_, hpreS, hpost, hfs⟩ := frame_moves p c0 rest C.hsorted pre post fevts C.hret
  have hmf := merged_form p pre post step _ _ hpreS (sizIs_of_skipIs hpost)
  have hbs := C.hbs
  intro m
  induction m with
  | zero =>
    intro done g kk r xg hbuf hkk hgn hcur hofs hch hrows hN hX
    have hbuf' : buf = done ++ g :: [] := by rw [hbuf]; simp [ap]
    have hlen : buf.length = done.length + 1 := by rw [hbuf']; simp
    obtain ⟨r1, hex1, hcur1, hofs1, hfs1⟩ := frame_step d p st t bs n c0 rest pre post fevts C buf done [] g frInt kk hbuf' hinc hkk
      (by clear * - hgn; omega) r hcur hofs hch hrows (by clear * - hN hlen; omega) (evAt post g)
    have hgoal : r1.fs = { r.fs with
        frames := setFrom r.fs.frames (frInt + done.length) ((ap g step (0 + 1)).map (rowOfRec d p (c0 :: rest) bs)),
        xvec := setVals r.fs.xvec (frInt + done.length + 1) (if 0 < p.indr then xsFrom xg step sp 0 else []) } := by
      rw [hfs1]; simp [ap, setFrom, setVals_nil, xsFrom]
    simp only [loopTail]
    rw [hex1, (renumber_at buf done [] g frInt hbuf' hinc _ (fun e he => Or.inl (evAt_fr post g e he))).1]
    cases post with
    | none => exact ⟨r1, rfl, hcur1, hgoal⟩
    | some e =>
      unfold skipIs at hpost
      have hg1 : (g + 1) * p.frameSize ≤ n * p.frameSize := Nat.mul_le_mul_right _ (by omega)
      rw [Nat.succ_mul] at hg1
      obtain ⟨ops, hsk⟩ := exec_skip d st r1 t bs e.siz (some (frInt + done.length)) e.cf e.ct (by rw [hcur1]; exact hcur)
        (by rw [hofs1, hpost.2]; clear * - hbs hg1 hfs; omega)
      refine ⟨⟨r1.cur, r1.ofs + e.siz, r1.fs, ops⟩, ?_, hcur1, hgoal⟩
      simp only [evAt, withFr, List.map_cons, List.map_nil, execEvs, hpost.1, hsk]
  | succ m ih =>
    intro done g kk r xg hbuf hkk hgn hcur hofs hch hrows hN hX
    rw [ap_succ] at hbuf
    have hlen : buf.length = done.length + (m + 2) := by rw [hbuf, List.length_append, List.length_cons, ap_length]
    have hgm : g + step + m * step < n := by rw [Nat.succ_mul] at hgn; omega
    obtain ⟨hmv1, hmv2⟩ := move_arith p.frameSize g step n (p.skipToChStart c0) (p.skipToChStart (lastP1 rest (c0 + 1)))
      (p.skipToFrameEnd (lastP1 rest (c0 + 1) - 1)) hstep hfs (skip_le_frame p c0) (by omega)
    obtain ⟨r1, hex1, hcur1, hofs1, hfs1⟩ := frame_step d p st t bs n c0 rest pre post fevts C buf done _ g frInt kk hbuf hinc hkk
      (by clear * - hgm; omega) r hcur hofs hch hrows (by clear * - hN hlen; omega)
      ((evAt (mergedPostFramePre p pre post step) (g + step) ++ extEv p step (g + step))
        ++ (withFr (g + step) fevts ++ loopTail p fevts post (mergedPostFramePre p pre post step) step (g + step) m))
    have hbuf2 : buf = (done ++ [g]) ++ ap (g + step) step (m + 1) := by rw [hbuf]; simp
    have hbuf2' : buf = (done ++ [g]) ++ (g + step) :: ap (g + step + step) step m := by rw [hbuf2, ap_succ]
    have hdl : (done ++ [g]).length = done.length + 1 := by simp
    obtain ⟨hb1, hb2, _⟩ := renumber_block buf (done ++ [g]) _ (g + step) frInt hbuf2' hinc
      (evAt (mergedPostFramePre p pre post step) (g + step) ++ extEv p step (g + step)) done.length (Or.inr hdl.symm)
      (by intro e he
          rcases List.mem_append.1 he with h | h
          · exact evAt_fr _ _ e h
          · exact extEv_fr _ _ _ e h)
    obtain ⟨r2, hex2, hcur2, hofs2, hfs2⟩ := move_exec d p st t bs r1 (mergedPostFramePre p pre post step) _ step
      (frInt + done.length) (g + step) xg sp hmf (by rw [hcur1]; exact hcur) (by rw [hofs1, hbs]; clear * - hmv1 hmv2; omega)
      (by intro hi
          obtain ⟨h1, h2, h3⟩ := hX hi
          rw [hfs1]
          exact ⟨h2, h3, by simp only; clear * - h1 hN hlen; omega⟩)
    obtain ⟨r', hex, hc', hfs'⟩ := ih (done ++ [g]) (g + step)
      (renumK buf (evAt (mergedPostFramePre p pre post step) (g + step) ++ extEv p step (g + step)) done.length) r2
      (xg + (step : Int) * sp) hbuf2 hb2 hgm (by rw [hcur2, hcur1]; exact hcur) (by rw [hofs2, hofs1]; clear * - hmv1; omega)
      (by rw [hfs2, hfs1]; exact hch)
      (by rw [hfs2, hfs1]
          intro row hm
          rcases List.mem_or_eq_of_mem_set hm with h | h
          · exact hrows _ h
          · rw [h]; exact rowOfRec_length ..)
      (by rw [hfs2, hfs1]; simpa using hN)
      (by intro hi
          obtain ⟨h1, h2, h3⟩ := hX hi
          rw [hfs2, hfs1, hdl]
          simp only [hi, if_true, List.length_set]
          exact ⟨h1, h2, by rw [← Nat.add_assoc, List.getElem?_set_self (by clear * - h1 hN hlen; omega)]⟩)
    refine ⟨r', ?_, by rw [hc', hcur2, hcur1], ?_⟩
    · simp only [loopTail]
      rw [hex1, renumber_append, hb1, execEvs_append, hdl, ← Nat.add_assoc, hex2]
      exact hex
    · rw [hfs', hfs2, hfs1, hdl, ap_succ g]
      by_cases hi : 0 < p.indr
      · simp only [hi, if_true, List.map_cons, setFrom, xsFrom, setVals_cons, Nat.add_assoc]
      · simp only [hi, if_false, List.map_cons, setFrom, setVals_nil, Nat.add_assoc]

theorem ap_pairwise (a step len : Nat) (hs : 0 < step) : (ap a step len).Pairwise (· < ·) := by
  unfold ap
  rw [List.pairwise_map]
  exact List.pairwise_lt_range.imp (fun h => Nat.add_lt_add_left (Nat.mul_lt_mul_of_pos_right h hs) a)

theorem block_exec (d : Dfsr) (st : Store) (t : Nat) (bs : List Nat) (n a step len frInt : Nat) (p : Plan)
    (sp xrec : Int) (c0 : Nat) (rest : List Nat) (hp : p.sizes = d.chans.map Chan.size) (hok : d.sizesOk) (hstep : 0 < step)
    (hltc : ∀ c ∈ c0 :: rest, c < d.chans.length) (hsorted : (c0 :: rest).Pairwise (· < ·))
    (hfind : Store.find st t = some bs) (hhead : bs.head? = some d.dataType)
    (hbs : bs.length = 2 + p.indr + n * p.frameSize) (hlast : a + len * step < n)
    (hI : 0 < p.indr → IndCtx d p p.indr ∧ xDecode d.depthRc (beWord ((bs.drop 2).take p.indr)) = .ok xrec)
    (r : Run) (hch : r.fs.chIdx = c0 :: rest)
    (hrows : ∀ row ∈ r.fs.frames, row.length = sumN ((selChans d (c0 :: rest)).map Chan.numValues))
    (hN : frInt + (len + 1) ≤ r.fs.frames.length) (prev : Option Int)
    (hX : 0 < p.indr → r.fs.xvec.length = r.fs.frames.length ∧ r.fs.frameSpacing = some sp ∧ PrevOk r.fs.xvec frInt prev) :
    ∃ a' b' c' evs r', sliceFromList (ap a step (len + 1)) = .ok (a', b', c') ∧
      genEvents p a' b' c' (c0 :: rest) = .ok evs ∧
      execEvs d st (⟨.seekLr, t, none, none, none⟩ :: renumber (ap a step (len + 1)) frInt evs 0) r = .ok r' ∧
      r'.fs = { r.fs with
        frames := setFrom r.fs.frames frInt ((ap a step (len + 1)).map (rowOfRec d p (c0 :: rest) bs)),
        xvec := setVals r.fs.xvec frInt (if 0 < p.indr then entryXs sp xrec a step len prev else []) } := by
  generalize hFS : ({ r.fs with
    frames := setFrom r.fs.frames frInt ((ap a step (len + 1)).map (rowOfRec d p (c0 :: rest) bs)),
    xvec := setVals r.fs.xvec frInt (if 0 < p.indr then entryXs sp xrec a step len prev else []) } : FrameSet) = FS
  obtain ⟨c, hc, hsl, hrl, hcstep⟩ := sliceFromList_ap a step len hstep
  have hnc : p.numChannels = d.chans.length := by rw [Plan.numChannels, hp]; simp
  have hab : a < a + len * step + 1 := by omega
  cases hret : retFrameEvents p (c0 :: rest) with
  | mk pre r2 =>
    obtain ⟨fevts, post⟩ := r2
    have C : RecCtx d p bs n c0 rest pre post fevts := ⟨hp, hok, hbs, hltc, hsorted, hret⟩
    have hgen := genEvents_eq p (c0 :: rest) a (a + len * step + 1) c pre post fevts (by simp)
      (by intro x hx; rw [hnc]; exact hltc x hx) hab (by rw [sortDedup_of_sorted _ hsorted]; exact hret)
    rw [if_neg (by omega : ¬ c = 0)] at hgen
    generalize hLP : frameLoop p fevts post (mergedPostFramePre p pre post c) (a + len * step + 1) c
      (a + len * step + 1 - a) a = LP at hgen
    obtain ⟨_, _, _, hpre, _⟩ := retFrameEvents_spec p c0 rest hsorted 0 pre fevts post hret
    have hinc := ap_pairwise a step (len + 1) hstep
    have hbuf : ap a step (len + 1) = [] ++ ap a step (len + 1) := rfl
    have hlenR : rangeLen (a + c) (a + len * step + 1) c = len := by
      have h1 : (rangeList a (a + len * step + 1) c).length = (ap a step (len + 1)).length := by rw [hrl]
      have h2 := rangeLen_lt a (a + len * step + 1) c hab hc
      simp only [rangeList, ap, List.length_map, List.length_range] at h1
      omega
    have han : (a + 1) * p.frameSize ≤ n * p.frameSize := Nat.mul_le_mul_right _ (by omega)
    rw [Nat.succ_mul] at han
    have hle2 := skip_le_frame p c0
    -- the frame loop from the state "at the first selected channel of frame a, X[frInt] = base"
    have hloop : ∀ (rr : Run) (xb : List (Option Int)),
        StateIs rr (some (t, bs)) (2 + p.indr + a * p.frameSize + p.skipToChStart c0) { r.fs with xvec := xb } →
        (0 < p.indr → xb = r.fs.xvec.set frInt (some (entryBase sp xrec a prev))) → (¬ 0 < p.indr → xb = r.fs.xvec) →
        ∃ r', execEvs d st (renumber (ap a step (len + 1)) frInt
            (LP none) 0) rr
              = .ok r' ∧
          r'.fs = FS := by
      intro rr xb ⟨h1, h2, h3⟩ hxb1 hxb0
      have hcs : loopTail p fevts post (mergedPostFramePre p pre post c) c a len
          = loopTail p fevts post (mergedPostFramePre p pre post step) step a len := by
        cases len with
        | zero => rfl
        | succ k => rw [hcstep (by omega)]
      rw [← hLP, frameLoop_eq p fevts post _ _ c hc _ a none hab (Nat.le_refl _), emitFrame_none_pair, hlenR, hcs]
      obtain ⟨r', hex, _, hfs'⟩ := loop_exec d p st t bs n c0 rest pre post fevts C step hstep sp _ hinc frInt len [] a 0 rr
        (entryBase sp xrec a prev) hbuf (Or.inl rfl) hlast h1 h2 (by rw [h3]; exact hch) (by rw [h3]; exact hrows)
        (by rw [h3]; simpa [ap_length] using hN)
        (by intro hi
            obtain ⟨e1, e2, _⟩ := hX hi
            rw [h3, hxb1 hi]
            exact ⟨by simpa using e1, e2, by simp only [List.length_nil, Nat.add_zero]; exact List.getElem?_set_self (by omega)⟩)
      refine ⟨r', hex, ?_⟩
      rw [hfs', h3, ← hFS]
      by_cases hi : 0 < p.indr
      · simp only [hi, if_true, hxb1 hi, entryXs, setVals_cons, List.length_nil, Nat.add_zero]
      · simp only [hi, if_false, hxb0 hi, setVals_nil, List.length_nil, Nat.add_zero]
    -- the head is renumbered to row `frInt`; behind it the loop
    have hfin : ∀ (rh : Run) (xb : List (Option Int)), (headEvs p pre a).2 = none →
        execEvs d st (⟨.seekLr, t, none, none, none⟩ :: withFr (frInt + 0) (headEvs p pre a).1) r = .ok rh →
        StateIs rh (some (t, bs)) (2 + p.indr + a * p.frameSize + p.skipToChStart c0) { r.fs with xvec := xb } →
        (0 < p.indr → xb = r.fs.xvec.set frInt (some (entryBase sp xrec a prev))) → (¬ 0 < p.indr → xb = r.fs.xvec) →
        ∃ r', execEvs d st (⟨.seekLr, t, none, none, none⟩ :: renumber (ap a step (len + 1)) frInt ((headEvs p pre a).1 ++
            LP (headEvs p pre a).2) 0) r = .ok r' ∧
          r'.fs = FS := by
      intro rh xb hpend hexh hst hxb1 hxb0
      obtain ⟨r', hex, hfs'⟩ := hloop rh xb hst hxb1 hxb0
      have hren := renumber_at _ [] _ a frInt (by rw [ap_succ]; rfl) hinc _ (headEvs_fr p pre a)
      simp only [List.length_nil] at hren
      refine ⟨r', ?_, hfs'⟩
      rw [hpend, renumber_append, hren.1, hren.2, ← List.cons_append, execEvs_append, hexh]
      exact hex
    obtain ⟨r0, hs0, st0⟩ := step_seek d st r t bs hfind hhead (by clear * - hbs; omega)
    have hex0 : ∀ R, execEvs d st (⟨.seekLr, t, none, none, none⟩ :: R) r = execEvs d st R r0 := by
      intro R; simp only [execEvs, hs0]
    have hA : pre = none → p.skipToChStart c0 = 0 := by
      intro h; rw [h] at hpre; unfold preIs at hpre; simp only at hpre; rw [hpre]; exact skip_zero p
    suffices h : ∃ r', execEvs d st (⟨.seekLr, t, none, none, none⟩ :: renumber (ap a step (len + 1)) frInt ((headEvs p pre a).1 ++
          LP (headEvs p pre a).2) 0) r = .ok r' ∧
        r'.fs = FS by
      obtain ⟨r', h1, h2⟩ := h
      exact ⟨a, _, c, _, r', hsl, hgen, h1, h2⟩
    by_cases hi : 0 < p.indr
    · obtain ⟨hIc, hx⟩ := hI hi
      obtain ⟨hxl, hsp, hprev⟩ := hX hi
      have hfrl : frInt < r.fs.xvec.length := by omega
      obtain ⟨r1, hs1, st1⟩ := step_indr d p p.indr hIc st r0 t bs r.fs (frInt + 0) xrec st0 (by clear * - hbs; omega) hx hfrl
      cases pre with
      | some pr =>
        unfold preIs at hpre
        obtain ⟨hty, hsz, _⟩ := hpre
        by_cases ha : 0 < a
        · obtain ⟨r2, hs2, st2⟩ := step_extrap_head d st r1 _ _ r.fs (frInt + 0) a none none xrec sp prev ha st1 hfrl hsp hprev
          obtain ⟨r3, hs3, st3⟩ := step_skip d st r2 t bs _ _ (a * p.frameSize + pr.siz) (some (frInt + 0)) pr.cf pr.ct st2
            (by rw [hsz]; clear * - hbs han hle2; omega)
          apply hfin r3 _ rfl
            (by simp only [headEvs, hi, ha, if_true, List.cons_append, List.nil_append, withFr, List.map_cons, List.map_nil, execEvs, hs0, hs1, hs2, hty, hs3])
            (by rw [show 2 + p.indr + a * p.frameSize + p.skipToChStart c0 = 2 + p.indr + (a * p.frameSize + pr.siz) by
                  rw [hsz]; clear * - hsz; omega]; exact st3)
            (fun _ => rfl) (fun h => absurd hi h)
        · have ha0 : a = 0 := by omega
          subst ha0
          obtain ⟨r3, hs3, st3⟩ := step_skip d st r1 t bs _ _ (0 * p.frameSize + pr.siz) (some (frInt + 0)) pr.cf pr.ct st1
            (by rw [hsz]; clear * - hbs han hle2; omega)
          apply hfin r3 _ rfl
            (by simp only [headEvs, hi, Nat.lt_irrefl, if_true, if_false, List.cons_append, List.nil_append, List.append_nil, withFr, List.map_cons, List.map_nil, execEvs, hs0, hs1, hty, hs3])
            (by rw [show 2 + p.indr + 0 * p.frameSize + p.skipToChStart c0 = 2 + p.indr + (0 * p.frameSize + pr.siz) by
                  rw [hsz]; clear * - hsz; omega]; exact st3)
            (fun _ => by simp [entryBase]) (fun h => absurd hi h)
      | none =>
        have hA0 := hA rfl
        by_cases ha : 0 < a
        · obtain ⟨r2, hs2, st2⟩ := step_skip d st r1 t bs _ _ (a * p.frameSize) (some (frInt + 0)) none (some 0) st1 (by clear * - hbs han hle2; omega)
          obtain ⟨r3, hs3, st3⟩ := step_extrap_head d st r2 _ _ r.fs (frInt + 0) a none none xrec sp prev ha st2 hfrl hsp hprev
          apply hfin r3 _ (by simp only [headEvs, ha, if_true])
            (by simp only [headEvs, hi, ha, if_true, List.cons_append, List.nil_append, withFr, List.map_cons, List.map_nil, execEvs, hs0, hs1, hs2, hs3])
            (by rw [hA0]; exact st3) (fun _ => rfl) (fun h => absurd hi h)
        · -- the indirect read is merged into the first read of frame 0
          have ha0 : a = 0 := by omega
          subst ha0 hLP
          obtain ⟨r', hex, hfs'⟩ := hloop r1 _ (by rw [hA0]; simpa using st1) (fun _ => by simp [entryBase]) (fun h => absurd hi h)
          obtain ⟨e1, es, hfe, hty1, hcf1, hct1⟩ := retFrameEvents_first p c0 rest none post fevts hret
          obtain ⟨ct1, hct1'⟩ := Option.isSome_iff_exists.1 hct1
          have hc00 : c0 = 0 := by unfold preIs at hpre; exact hpre
          subst hfe hc00
          have hfuel : 0 + len * step + 1 - 0 = (len * step) + 1 := by omega
          rw [hfuel] at hex
          simp only [headEvs, Nat.lt_irrefl, if_false, hi, if_true, List.nil_append, hfuel]
          obtain ⟨T, hT1, hT2⟩ := frameLoop_pend p e1 es post (mergedPostFramePre p none post c) (0 + len * step + 1) c (len * step) 0
            p.indr hab
          rw [hT1, renumber_cons] at hex
          rw [hT2, renumber_cons]
          have hk0 : ∀ e : Ev, e.fr = some 0 → renumStep (ap 0 step (len + 1)) 0 e = 0 := fun e he =>
            renumStep_at _ [] _ 0 (by rw [ap_succ]; rfl) hinc e (Or.inl he)
          rw [hk0 _ rfl] at hex ⊢
          have hplain : execEvs d st (⟨.read, p.indr, some (frInt + 0), none, none⟩ ::
              ⟨.read, e1.siz, some (frInt + 0), some 0, some ct1⟩ :: renumber (ap 0 step (len + 1)) frInt T 0) r0 = .ok r' := by
            simp only [execEvs, hs1]
            have : ({ ty := e1.ty, siz := e1.siz, fr := some (frInt + 0), cf := e1.cf, ct := e1.ct } : Ev)
                = ⟨.read, e1.siz, some (frInt + 0), some 0, some ct1⟩ := by rw [hty1, hcf1, hct1']
            simp only [this] at hex
            exact hex
          obtain ⟨r'', hex'', s1, s2, s3⟩ := merged_transfer d p p.indr hIc st r0 r' t bs (frInt + 0) e1.siz ct1 _ st0.1 hplain
          refine ⟨r'', ?_, by rw [← s3, hfs']⟩
          rw [hex0]
          have : ({ ty := e1.ty, siz := p.indr + e1.siz, fr := some (frInt + 0), cf := none, ct := e1.ct } : Ev)
              = ⟨.read, p.indr + e1.siz, some (frInt + 0), none, some ct1⟩ := by rw [hty1, hct1']
          rw [this]
          exact hex''
    · have hi0 : p.indr = 0 := by omega
      have st0' : StateIs r0 (some (t, bs)) (2 + p.indr) { r.fs with xvec := r.fs.xvec } := by rw [hi0]; exact st0
      cases pre with
      | some pr =>
        unfold preIs at hpre
        obtain ⟨hty, hsz, _⟩ := hpre
        obtain ⟨r3, hs3, st3⟩ := step_skip d st r0 t bs _ _ (a * p.frameSize + pr.siz) (some (frInt + 0)) pr.cf pr.ct st0'
          (by rw [hsz]; clear * - hbs han hle2; omega)
        apply hfin r3 _ rfl
          (by simp only [headEvs, hi, if_false, List.nil_append, withFr, List.map_cons, List.map_nil, execEvs, hs0, hty, hs3])
          (by rw [show 2 + p.indr + a * p.frameSize + p.skipToChStart c0 = 2 + p.indr + (a * p.frameSize + pr.siz) by
                rw [hsz]; clear * - hsz; omega]; exact st3)
          (fun h => absurd h hi) (fun _ => rfl)
      | none =>
        have hA0 := hA rfl
        by_cases ha : 0 < a
        · obtain ⟨r3, hs3, st3⟩ := step_skip d st r0 t bs _ _ (a * p.frameSize) (some (frInt + 0)) none (some 0) st0' (by clear * - hbs han hle2; omega)
          apply hfin r3 _ (by simp only [headEvs, ha, if_true])
            (by simp only [headEvs, hi, ha, if_true, if_false, List.nil_append, List.append_nil, withFr, List.map_cons, List.map_nil, execEvs, hs0, hs3])
            (by rw [hA0]; exact st3) (fun h => absurd h hi) (fun _ => rfl)
        · have ha0 : a = 0 := by omega
          subst ha0
          apply hfin r0 _ (by simp only [headEvs, hi, Nat.lt_irrefl, if_false])
            (by simp only [headEvs, Nat.lt_irrefl, if_false, withFr, List.map_nil, execEvs, hs0])
            (by rw [hA0]; simpa using st0') (fun h => absurd h hi) (fun _ => rfl)

/-- what the store must hold for one map entry: the record, with enough frames for the buffer and, with an indirect X
word, a decodable one -/
def EntryOk (d : Dfsr) (p : Plan) (st : Store) (c : Nat) (e : Int × List Nat) : Prop :=
  ∃ a len n bs, e.2 = ap a c (len + 1) ∧ Store.find st e.1.toNat = some bs ∧ bs.head? = some d.dataType ∧
    bs.length = 2 + p.indr + n * p.frameSize ∧ a + len * c < n ∧
    (0 < p.indr → ∃ x, xDecode d.depthRc (beWord ((bs.drop 2).take p.indr)) = .ok x)

theorem entries_exec (d : Dfsr) (st : Store) (c : Nat) (p : Plan) (sp : Int) (c0 : Nat) (rest : List Nat)
    (hp : p.sizes = d.chans.map Chan.size) (hok : d.sizesOk) (hc : 0 < c)
    (hltc : ∀ x ∈ c0 :: rest, x < d.chans.length) (hsorted : (c0 :: rest).Pairwise (· < ·))
    (hI : 0 < p.indr → IndCtx d p p.indr) :
    ∀ (entries : List (Int × List Nat)) (frInt : Nat) (r : Run) (prev : Option Int),
      (∀ e ∈ entries, EntryOk d p st c e) →
      r.fs.chIdx = c0 :: rest →
      (∀ row ∈ r.fs.frames, row.length = sumN ((selChans d (c0 :: rest)).map Chan.numValues)) →
      frInt + (entries.map (·.2.length)).sum ≤ r.fs.frames.length →
      (0 < p.indr → r.fs.xvec.length = r.fs.frames.length ∧ r.fs.frameSpacing = some sp ∧ PrevOk r.fs.xvec frInt prev) →
      ∃ evs r', genFrameSetEventsAux p (c0 :: rest) entries frInt = .ok evs ∧ execEvs d st evs r = .ok r' ∧
        r'.fs = { r.fs with
          frames := setFrom r.fs.frames frInt
            (entries.flatMap (fun e => e.2.map (rowOfRec d p (c0 :: rest) (bytesOf st e.1.toNat)))),
          xvec := setVals r.fs.xvec frInt (if 0 < p.indr then allXs sp (xrecOf d st p.indr) c entries prev else []) } := by
  intro entries
  induction entries with
  | nil =>
    intro frInt r prev _ _ _ _ _
    exact ⟨[], r, rfl, rfl, by simp [setFrom, setVals_nil, allXs]⟩
  | cons e rest' ih =>
    intro frInt r prev hent hch hrows hN hX
    obtain ⟨seek, buf⟩ := e
    obtain ⟨a, len, n, bs, hbuf, hfind, hhead, hbs, hlast, hxd⟩ := hent (seek, buf) (List.mem_cons_self ..)
    simp only at hbuf hfind
    subst hbuf
    simp only [List.map_cons, List.sum_cons, ap_length] at hN
    have hb : bytesOf st seek.toNat = bs := by simp [bytesOf, hfind]
    have hxr : 0 < p.indr → xDecode d.depthRc (beWord ((bs.drop 2).take p.indr)) = .ok (xrecOf d st p.indr seek) := by
      intro hi
      obtain ⟨x, hx⟩ := hxd hi
      simp only [xrecOf, hb, hx]
    obtain ⟨a', b', c', evs1, r1, hsl, hgen, hex, hfs⟩ := block_exec d st seek.toNat bs n a c len frInt p sp
      (xrecOf d st p.indr seek) c0 rest hp hok hc hltc hsorted hfind hhead hbs hlast (fun hi => ⟨hI hi, hxr hi⟩) r hch hrows
      (by omega) prev hX
    have hXl := entryXs_length sp (xrecOf d st p.indr seek) a c len prev
    have hlastx := entryXs_getLast sp (xrecOf d st p.indr seek) a c len prev
    obtain ⟨evs2, r2, hgen2, hex2, hfs2⟩ := ih (frInt + (len + 1)) r1 (entryXs sp (xrecOf d st p.indr seek) a c len prev).getLast?
      (fun e he => hent e (List.mem_cons_of_mem _ he)) (by rw [hfs]; exact hch)
      (by rw [hfs]
          apply setFrom_rowlen _ _ _ _ hrows
          intro row hm
          obtain ⟨g, _, rfl⟩ := List.mem_map.1 hm
          exact rowOfRec_length ..)
      (by rw [hfs]; simp only [setFrom_length]; omega)
      (by intro hi
          obtain ⟨h1, h2, _⟩ := hX hi
          rw [hfs]
          simp only [hi, if_true, setVals_length, setFrom_length]
          refine ⟨h1, h2, Or.inr ⟨by omega, _, hlastx, ?_⟩⟩
          rw [setVals_getElem _ _ _ _ (by rw [hXl]; omega),
            if_pos (by rw [hXl]; omega), show frInt + (len + 1) - 1 - frInt = len by omega]
          rw [List.getLast?_eq_getElem?, hXl] at hlastx
          simp only [Nat.add_sub_cancel] at hlastx
          rw [hlastx]; rfl)
    refine ⟨⟨.seekLr, seek.toNat, none, none, none⟩ :: renumber (ap a c (len + 1)) frInt evs1 0 ++ evs2, r2, ?_, ?_, ?_⟩
    · simp only [genFrameSetEventsAux, hsl, hgen, ap_length, hgen2]
    · rw [execEvs_append, hex]; exact hex2
    · have hhd : (ap a c (len + 1)).headD 0 = a := by simp [ap, List.range_succ_eq_map]
      have h1 := setFrom_append r.fs.frames frInt ((ap a c (len + 1)).map (rowOfRec d p (c0 :: rest) bs))
        (rest'.flatMap (fun e => e.2.map (rowOfRec d p (c0 :: rest) (bytesOf st e.1.toNat))))
      have h2 := setVals_append r.fs.xvec frInt (entryXs sp (xrecOf d st p.indr seek) a c len prev)
        (allXs sp (xrecOf d st p.indr) c rest' (entryXs sp (xrecOf d st p.indr seek) a c len prev).getLast?)
      simp only [List.length_map, ap_length, hXl] at h1 h2
      rw [hfs2, hfs]
      by_cases hi : 0 < p.indr
      · simp only [hi, if_true, List.flatMap_cons, hb, h1, allXs, hhd, ap_length, Nat.add_sub_cancel, h2]
      · simp only [hi, if_false, List.flatMap_cons, hb, h1, setVals_nil]

end TD.C06
