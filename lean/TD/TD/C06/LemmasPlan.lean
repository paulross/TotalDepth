import TD.C06.LemmasLoop
import Mathlib.Tactic.Ring
import Mathlib.Tactic.Linarith

/-!
C06 — byte-level semantics of an event list (`evBytes`, `evEnd` against `selBytes`), the events of one frame as runs of
selected channels, and the lemmas behind `events_cover`.
-/
namespace TD.C06

/-- the byte positions (relative to the end of the logical record header) read by an event list started at `pos` -/
def evBytes : List Ev → Nat → List Nat
  | [], _ => []
  | e :: es, pos =>
    match e.ty with
    | .read => List.range' pos e.siz ++ evBytes es (pos + e.siz)
    | .skip => evBytes es (pos + e.siz)
    | _ => evBytes es pos

/-- where the file position is after the event list (total of read + skip) -/
def evEnd : List Ev → Nat → Nat
  | [], pos => pos
  | e :: es, pos =>
    match e.ty with
    | .read => evEnd es (pos + e.siz)
    | .skip => evEnd es (pos + e.siz)
    | _ => evEnd es pos

theorem evBytes_append (a b : List Ev) (pos : Nat) : evBytes (a ++ b) pos = evBytes a pos ++ evBytes b (evEnd a pos) := by
  induction a generalizing pos with
  | nil => simp [evBytes, evEnd]
  | cons e es ih =>
    simp only [List.cons_append, evBytes, evEnd]
    cases e.ty <;> simp [ih]

theorem evEnd_append (a b : List Ev) (pos : Nat) : evEnd (a ++ b) pos = evEnd b (evEnd a pos) := by
  induction a generalizing pos with
  | nil => simp [evEnd]
  | cons e es ih =>
    simp only [List.cons_append, evEnd]
    cases e.ty <;> simp [ih]

/-- bytes of channel `c` of the frame that starts at `base` -/
def chBytes (p : Plan) (base c : Nat) : List Nat := List.range' (base + p.skipToChStart c) (p.chSize c)

/-- bytes of the channels `cs` of the frame that starts at `base`, in order -/
def selBytes (p : Plan) (base : Nat) (cs : List Nat) : List Nat := cs.flatMap (chBytes p base)

theorem sumN_take_succ (l : List Nat) (c : Nat) : sumN (l.take (c + 1)) = sumN (l.take c) + l.getD c 0 := by
  induction l generalizing c with
  | nil => simp [sumN]
  | cons x xs ih =>
    cases c with
    | zero => simp [sumN]
    | succ k => simp only [List.take_succ_cons, sumN, ih k, List.getD_cons_succ]; omega

theorem sumN_take_le (l : List Nat) (c : Nat) : sumN (l.take c) ≤ sumN l := by
  induction l generalizing c with
  | nil => simp [sumN]
  | cons x xs ih =>
    cases c with
    | zero => simp [sumN]
    | succ k => simp only [List.take_succ_cons, sumN]; have := ih k; omega

theorem skip_succ (p : Plan) (c : Nat) : p.skipToChStart (c + 1) = p.skipToChStart c + p.chSize c := by
  simp [Plan.skipToChStart, Plan.chSize, sumN_take_succ]

theorem skip_mono (p : Plan) (a b : Nat) (h : a ≤ b) : p.skipToChStart a ≤ p.skipToChStart b := by
  induction b with
  | zero => have : a = 0 := by omega
            subst this; exact Nat.le_refl _
  | succ k ih =>
    by_cases hk : a ≤ k
    · have := ih hk; rw [skip_succ]; omega
    · have : a = k + 1 := by omega
      subst this; exact Nat.le_refl _

theorem skip_end (p : Plan) (c : Nat) : p.skipToChStart (c + 1) + p.skipToFrameEnd c = p.frameSize := by
  unfold Plan.skipToFrameEnd Plan.skipToChStart Plan.frameSize
  have := sumN_take_le p.sizes (c + 1)
  omega

theorem skip_zero (p : Plan) : p.skipToChStart 0 = 0 := by simp [Plan.skipToChStart, sumN]


/-- the optional event has size `n` (absent: `n = 0`) -/
def sizIs (e : Option Ev) (n : Nat) : Prop := match e with | some e => e.siz = n | none => n = 0
/-- the optional event is a skip of size `n` (absent: `n = 0`) -/
def skipIs (e : Option Ev) (n : Nat) : Prop := match e with | some e => e.ty = .skip ∧ e.siz = n | none => n = 0
/-- the pre-event: a skip to the first selected channel `c0`, absent iff `c0 = 0` -/
def preIs (e : Option Ev) (n c0 : Nat) : Prop := match e with | some e => e.ty = .skip ∧ e.siz = n ∧ 0 < c0 | none => c0 = 0

/-- value of `match getLast? with some l => l+1 | none => d` -/
def lastP1 (cs : List Nat) (d : Nat) : Nat := match cs.getLast? with | some l => l + 1 | none => d

theorem lastP1_cons (c : Nat) (cs : List Nat) (d : Nat) : lastP1 (c :: cs) d = lastP1 cs (c + 1) := by
  unfold lastP1
  rw [List.getLast?_cons]
  cases cs.getLast? <;> simp

/-! ### the events of one frame: a read per run of consecutive selected channels, a skip between two runs -/

/-- the maximal runs `(first channel, number of channels)` of consecutive members of a sorted channel list, the run
`(a, m)` being in progress -/
def runsAux (a m : Nat) : List Nat → List (Nat × Nat)
  | [] => [(a, m)]
  | c :: cs => if c = a + m then runsAux a (m + 1) cs else (a, m) :: runsAux c 1 cs

def readRun (p : Plan) (r : Nat × Nat) : Ev :=
  ⟨.read, p.skipToChStart (r.1 + r.2) - p.skipToChStart r.1, none, some r.1, some (r.1 + r.2 - 1)⟩

def runEvs (p : Plan) : List (Nat × Nat) → List Ev
  | [] => []
  | [r] => [readRun p r]
  | r :: s :: R => readRun p r ::
      ⟨.skip, p.skipToChStart s.1 - p.skipToChStart (r.1 + r.2), none, some (r.1 + r.2), some (s.1 - 1)⟩ :: runEvs p (s :: R)

/-- non-empty runs with a gap between any two -/
def RunsOk : List (Nat × Nat) → Prop
  | [] => True
  | [r] => 0 < r.2
  | r :: s :: R => 0 < r.2 ∧ r.1 + r.2 < s.1 ∧ RunsOk (s :: R)

/-- where the last run ends -/
def runsEnd : List (Nat × Nat) → Nat → Nat
  | [], d => d
  | r :: R, _ => runsEnd R (r.1 + r.2)

theorem runsAux_head (a m : Nat) (cs : List Nat) : ∃ k R, runsAux a m cs = (a, k) :: R := by
  induction cs generalizing m with
  | nil => exact ⟨m, [], rfl⟩
  | cons c cs ih =>
    simp only [runsAux]
    split
    · exact ih _
    · exact ⟨m, _, rfl⟩

theorem runsAux_flat (a m : Nat) (cs : List Nat) :
    (runsAux a m cs).flatMap (fun r => List.range' r.1 r.2) = List.range' a m ++ cs := by
  induction cs generalizing a m with
  | nil => simp [runsAux]
  | cons c cs ih =>
    simp only [runsAux]
    split
    · rename_i h; rw [ih, List.range'_concat, h]; simp
    · rw [List.flatMap_cons, ih]; simp

theorem runsAux_end (a m d : Nat) (cs : List Nat) : runsEnd (runsAux a m cs) d = lastP1 cs (a + m) := by
  induction cs generalizing a m d with
  | nil => rfl
  | cons c cs ih =>
    rw [lastP1_cons]
    simp only [runsAux]
    split
    · rename_i h; rw [ih, h, Nat.add_assoc]
    · rw [runsEnd, ih]

theorem runsAux_ok (a m : Nat) (cs : List Nat) (hm : 0 < m) (hge : ∀ c ∈ cs, a + m ≤ c) (hs : cs.Pairwise (· < ·)) :
    RunsOk (runsAux a m cs) := by
  induction cs generalizing a m with
  | nil => exact hm
  | cons c cs ih =>
    have hp := List.pairwise_cons.1 hs
    have hc := hge c (List.mem_cons_self ..)
    simp only [runsAux]
    split
    · rename_i h
      exact ih a (m + 1) (by omega) (fun x hx => by have := hp.1 x hx; omega) hp.2
    · have := ih c 1 (by omega) (fun x hx => by have := hp.1 x hx; omega) hp.2
      obtain ⟨k, R, hk⟩ := runsAux_head c 1 cs
      rw [hk] at this ⊢
      exact ⟨hm, by simp only; omega, this⟩

theorem frameEvLoop_runs (p : Plan) (cs : List Nat) :
    ∀ (a m siz : Nat) (acc : List Ev), 0 < m → siz + p.skipToChStart a = p.skipToChStart (a + m) →
    ∀ acc' cS sP sz, frameEvLoop p cs a (a + m) siz acc = (acc', cS, sP, sz) →
      acc' ++ [⟨.read, sz, none, some cS, some (sP - 1)⟩] = acc ++ runEvs p (runsAux a m cs) ∧ cS < sP := by
  induction cs with
  | nil =>
    intro a m siz acc hm hs acc' cS sP sz h
    simp only [frameEvLoop, Prod.mk.injEq] at h
    obtain ⟨rfl, rfl, rfl, rfl⟩ := h
    exact ⟨by simp only [runsAux, runEvs, readRun, ← hs, Nat.add_sub_cancel], by omega⟩
  | cons c cs ih =>
    intro a m siz acc hm hs acc' cS sP sz h
    simp only [frameEvLoop] at h
    by_cases heq : c = a + m
    · subst heq
      rw [if_pos rfl, Nat.add_assoc] at h
      have := ih a (m + 1) _ acc (by omega) (by rw [← Nat.add_assoc, skip_succ]; omega) acc' cS sP sz h
      simpa only [runsAux, if_true] using this
    · rw [if_neg heq, if_pos (by omega : a + m > a)] at h
      obtain ⟨h1, h2⟩ := ih c 1 (p.chSize c) _ (by omega) (by rw [skip_succ]; omega) acc' cS sP sz h
      obtain ⟨k, R, hk⟩ := runsAux_head c 1 cs
      refine ⟨?_, h2⟩
      rw [h1, runsAux, if_neg heq, hk]
      simp only [runEvs, readRun, List.append_assoc, List.cons_append, List.nil_append,
        show p.skipToChStart (a + m) - p.skipToChStart a = siz by omega]

theorem retFrameEvents_eq (p : Plan) (c0 : Nat) (rest : List Nat) :
    retFrameEvents p (c0 :: rest) =
      (if c0 > 0 then some ⟨.skip, p.skipToChStart c0, none, some 0, some (c0 - 1)⟩ else none,
       runEvs p (runsAux c0 1 rest),
       if p.skipToFrameEnd ((c0 :: rest).getLast?.getD c0) > 0 then
         some ⟨.skip, p.skipToFrameEnd ((c0 :: rest).getLast?.getD c0), none, some ((c0 :: rest).getLast?.getD c0 + 1),
           some (p.numChannels - 1)⟩ else none) := by
  unfold retFrameEvents
  simp only
  have hstep : frameEvLoop p (c0 :: rest) c0 c0 0 [] = frameEvLoop p rest c0 (c0 + 1) (0 + p.chSize c0) [] := by
    simp [frameEvLoop]
  rw [hstep]
  cases hr : frameEvLoop p rest c0 (c0 + 1) (0 + p.chSize c0) [] with
  | mk acc' r2 =>
    obtain ⟨cS, sP, sz⟩ := r2
    obtain ⟨h1, h2⟩ := frameEvLoop_runs p rest c0 1 _ [] (by omega) (by rw [skip_succ]; omega) acc' cS sP sz hr
    simp only [gt_iff_lt, h2, if_true, h1, List.nil_append]

theorem selBytes_run (p : Plan) (base a m : Nat) :
    selBytes p base (List.range' a m) = List.range' (base + p.skipToChStart a) (p.skipToChStart (a + m) - p.skipToChStart a) := by
  induction m generalizing a with
  | zero => simp [selBytes]
  | succ m ih =>
    have h1 := skip_succ p a
    have h2 := skip_mono p (a + 1) (a + 1 + m) (by omega)
    rw [List.range'_succ, selBytes, List.flatMap_cons, ← selBytes, ih, chBytes,
      show a + (m + 1) = a + 1 + m by omega,
      show p.skipToChStart (a + 1 + m) - p.skipToChStart a = p.chSize a + (p.skipToChStart (a + 1 + m) - p.skipToChStart (a + 1)) by omega,
      ← List.range'_append_1, h1, Nat.add_assoc]
    rw [Nat.add_assoc]

theorem runEvs_bytes (p : Plan) (base : Nat) (R : List (Nat × Nat)) :
    ∀ r, RunsOk (r :: R) →
      evBytes (runEvs p (r :: R)) (base + p.skipToChStart r.1)
        = selBytes p base ((r :: R).flatMap (fun r => List.range' r.1 r.2)) ∧
      evEnd (runEvs p (r :: R)) (base + p.skipToChStart r.1) = base + p.skipToChStart (runsEnd (r :: R) 0) := by
  have happ : ∀ a b, selBytes p base (a ++ b) = selBytes p base a ++ selBytes p base b := by
    intro a b; simp [selBytes]
  induction R with
  | nil =>
    intro r _
    have := skip_mono p r.1 (r.1 + r.2) (by omega)
    simp only [runEvs, readRun, evBytes, evEnd, List.flatMap_cons, List.flatMap_nil, List.append_nil, selBytes_run, runsEnd,
      true_and]
    omega
  | cons s R ih =>
    intro r hok
    obtain ⟨_, hlt, hok'⟩ := hok
    obtain ⟨ihB, ihE⟩ := ih s hok'
    have h1 := skip_mono p r.1 (r.1 + r.2) (by omega)
    have h2 := skip_mono p (r.1 + r.2) s.1 (by omega)
    have hpos : base + p.skipToChStart r.1 + (p.skipToChStart (r.1 + r.2) - p.skipToChStart r.1)
        + (p.skipToChStart s.1 - p.skipToChStart (r.1 + r.2)) = base + p.skipToChStart s.1 := by omega
    simp only [runEvs, readRun, evBytes, evEnd, hpos, ihB, ihE, List.flatMap_cons, happ, selBytes_run, runsEnd, and_self]


/-- the first event of a frame: the read of the run that starts at the first selected channel -/
def IsFirstRead (c0 : Nat) (e : Ev) : Prop := e.ty = .read ∧ e.cf = some c0 ∧ e.ct.isSome

theorem retFrameEvents_first (p : Plan) (c0 : Nat) (rest : List Nat) (pre post : Option Ev) (fevts : List Ev)
    (hret : retFrameEvents p (c0 :: rest) = (pre, fevts, post)) :
    ∃ e es, fevts = e :: es ∧ IsFirstRead c0 e := by
  rw [retFrameEvents_eq] at hret
  obtain ⟨k, R, hk⟩ := runsAux_head c0 1 rest
  rw [← (Prod.mk.inj (Prod.mk.inj hret).2).1, hk]
  cases R <;> exact ⟨_, _, rfl, rfl, rfl, rfl⟩

/-- **`_retFrameEvents`** for a strictly increasing non-empty channel list: started at the first selected channel of
the frame at `base`, the frame events read exactly the bytes of the selected channels, in order, begin with a read, and
end behind the last selected channel; pre and post are the skips to the first channel / to the end of the frame. -/
theorem retFrameEvents_spec (p : Plan) (c0 : Nat) (rest : List Nat) (hsorted : (c0 :: rest).Pairwise (· < ·)) (base : Nat) :
    ∀ pre fevts post, retFrameEvents p (c0 :: rest) = (pre, fevts, post) →
      evBytes fevts (base + p.skipToChStart c0) = selBytes p base (c0 :: rest) ∧
      evEnd fevts (base + p.skipToChStart c0) = base + p.skipToChStart (lastP1 rest (c0 + 1)) ∧
      fevts.head?.map (fun e : Ev => e.ty) = some Ty.read ∧
      preIs pre (p.skipToChStart c0) c0 ∧
      skipIs post (p.skipToFrameEnd (lastP1 rest (c0 + 1) - 1)) := by
  intro pre fevts post h
  obtain ⟨e, es, hfe, hf⟩ := retFrameEvents_first p c0 rest pre post fevts h
  rw [retFrameEvents_eq] at h
  obtain ⟨hpre, h2⟩ := Prod.mk.inj h
  obtain ⟨hfev, hpost⟩ := Prod.mk.inj h2
  have hp := List.pairwise_cons.1 hsorted
  have hok := runsAux_ok c0 1 rest (by omega) (fun c hc => hp.1 c hc) hp.2
  obtain ⟨k, R, hk⟩ := runsAux_head c0 1 rest
  have hB := runEvs_bytes p base R (c0, k) (hk ▸ hok)
  rw [← hk, runsAux_flat, runsAux_end, hfev] at hB
  have hlast : (c0 :: rest).getLast?.getD c0 = lastP1 rest (c0 + 1) - 1 := by
    unfold lastP1
    rw [List.getLast?_cons]
    cases rest.getLast? <;> simp
  refine ⟨by simpa using hB.1, hB.2, by rw [hfe]; exact congrArg some hf.1, ?_, ?_⟩
  · subst hpre
    unfold preIs
    by_cases hc : c0 > 0
    · simp [hc]
    · simp [hc]; omega
  · subst hpost
    unfold skipIs
    rw [hlast]
    by_cases hc : p.skipToFrameEnd (lastP1 rest (c0 + 1) - 1) > 0
    · simp [hc]
    · simp [hc]; omega

/-! ### the frame loop of `genEvents` -/

theorem emitFrame_none (f : Nat) (es : List Ev) (pos : Nat) :
    (emitFrame f es none).2 = none ∧ evBytes (emitFrame f es none).1 pos = evBytes es pos ∧
    evEnd (emitFrame f es none).1 pos = evEnd es pos := by
  induction es generalizing pos with
  | nil => simp [emitFrame, evBytes, evEnd]
  | cons e es ih =>
    simp only [emitFrame, evBytes, evEnd]
    refine ⟨(ih pos).1, ?_, ?_⟩
    · cases hty : e.ty <;> simp [(ih _).2.1]
    · cases hty : e.ty <;> simp [(ih _).2.2]

theorem emitFrame_spec (f : Nat) (es : List Ev) (pend : Option Nat) (pos : Nat)
    (hhead : es.head?.map (fun e : Ev => e.ty) = some Ty.read) :
    (emitFrame f es pend).2 = none ∧
    evBytes (emitFrame f es pend).1 pos = List.range' pos (pend.getD 0) ++ evBytes es (pos + pend.getD 0) ∧
    evEnd (emitFrame f es pend).1 pos = evEnd es (pos + pend.getD 0) := by
  cases pend with
  | none => simpa using emitFrame_none f es pos
  | some isz =>
    cases es with
    | nil => simp at hhead
    | cons e es =>
      simp only [List.head?_cons, Option.map_some, Option.some.injEq] at hhead
      simp only [emitFrame, Option.getD_some, evBytes, evEnd, hhead]
      have := emitFrame_none f es (pos + (isz + e.siz))
      refine ⟨this.1, ?_, ?_⟩
      · rw [this.2.1, Nat.add_assoc, ← List.append_assoc, List.range'_append_1]
      · rw [this.2.2, Nat.add_assoc]

theorem merged_form (p : Plan) (pre post : Option Ev) (step preSiz postSiz : Nat) (hpre : sizIs pre preSiz)
    (hpost : sizIs post postSiz) :
    (mergedPostFramePre p pre post step = none ∧ (step - 1) * p.frameSize + postSiz + preSiz = 0) ∨
    ∃ cf ct, mergedPostFramePre p pre post step = some ⟨.skip, (step - 1) * p.frameSize + postSiz + preSiz, none, cf, ct⟩ := by
  have hs : (if step > 1 then (step - 1) * p.frameSize else 0) = (step - 1) * p.frameSize := by
    by_cases h : step > 1
    · simp [h]
    · have : step - 1 = 0 := by omega
      simp [h, this]
  unfold sizIs at hpre hpost
  unfold mergedPostFramePre
  simp only [hs]
  cases pre <;> cases post <;> simp only at hpre hpost ⊢
  · subst hpre hpost
    simp only [Nat.add_zero]
    by_cases h : (step - 1) * p.frameSize > 0
    · right; exact ⟨none, none, by rw [if_pos h]⟩
    · left; exact ⟨by rw [if_neg h], by omega⟩
  · subst hpre hpost; right; exact ⟨_, _, rfl⟩
  · subst hpre hpost; right; exact ⟨_, _, rfl⟩
  · subst hpre hpost; right; exact ⟨_, _, rfl⟩

/-- the inter-frame event moves by `post + (step-1) frames + pre` and reads nothing -/
theorem merged_spec (p : Plan) (pre post : Option Ev) (step preSiz postSiz : Nat)
    (hpre : sizIs pre preSiz) (hpost : sizIs post postSiz) (g pos : Nat) :
    evBytes (evAt (mergedPostFramePre p pre post step) g) pos = [] ∧
    evEnd (evAt (mergedPostFramePre p pre post step) g) pos
      = pos + ((step - 1) * p.frameSize + postSiz + preSiz) := by
  rcases merged_form p pre post step preSiz postSiz hpre hpost with ⟨h, h0⟩ | ⟨cf, ct, h⟩
  · rw [h, h0]; exact ⟨rfl, rfl⟩
  · rw [h]; exact ⟨rfl, rfl⟩

theorem evBytes_withFr (g : Nat) (es : List Ev) (pos : Nat) :
    evBytes (withFr g es) pos = evBytes es pos ∧ evEnd (withFr g es) pos = evEnd es pos := by
  have := emitFrame_none g es pos
  rw [emitFrame_none_pair] at this
  exact this.2

theorem loopTail_spec (p : Plan) (cs : List Nat) (fevts : List Ev) (post inter : Option Ev) (step A E postSiz : Nat)
    (hstep : 0 < step)
    (hB : ∀ base, evBytes fevts (base + A) = selBytes p base cs)
    (hE : ∀ base, evEnd fevts (base + A) = base + E)
    (hfs : E + postSiz = p.frameSize)
    (hpost : skipIs post postSiz)
    (hinter : ∀ g pos, evBytes (evAt inter g) pos = [] ∧
      evEnd (evAt inter g) pos = pos + ((step - 1) * p.frameSize + postSiz + A)) :
    ∀ (m g : Nat),
      evBytes (loopTail p fevts post inter step g m) (p.indr + g * p.frameSize + E)
        = (ap (g + step) step m).flatMap (fun g => selBytes p (p.indr + g * p.frameSize) cs) ∧
      evEnd (loopTail p fevts post inter step g m) (p.indr + g * p.frameSize + E)
        = p.indr + (g + m * step + 1) * p.frameSize := by
  unfold skipIs at hpost
  intro m
  induction m with
  | zero =>
    intro g
    simp only [loopTail, ap, List.range_zero, List.map_nil, List.flatMap_nil, Nat.zero_mul, Nat.add_zero, Nat.succ_mul]
    cases post with
    | none => simp only at hpost; exact ⟨rfl, by simp only [evAt, evEnd]; omega⟩
    | some e =>
      simp only at hpost
      exact ⟨by simp only [evAt, evBytes, hpost.1], by simp only [evAt, evEnd, hpost.1, hpost.2]; omega⟩
  | succ m ih =>
    intro g
    have hmove : evBytes (evAt inter (g + step) ++ extEv p step (g + step)) (p.indr + g * p.frameSize + E) = [] ∧
        evEnd (evAt inter (g + step) ++ extEv p step (g + step)) (p.indr + g * p.frameSize + E)
          = p.indr + (g + step) * p.frameSize + A := by
      have hx : ∀ pos, evBytes (extEv p step (g + step)) pos = [] ∧ evEnd (extEv p step (g + step)) pos = pos := by
        intro pos; unfold extEv; split <;> exact ⟨rfl, rfl⟩
      rw [evBytes_append, evEnd_append, (hinter _ _).1, (hinter _ _).2, (hx _).1, (hx _).2]
      obtain ⟨s', rfl⟩ : ∃ s', step = s' + 1 := ⟨step - 1, by omega⟩
      simp only [Nat.add_sub_cancel, Nat.add_mul, Nat.one_mul]
      exact ⟨rfl, by omega⟩
    obtain ⟨ihB, ihE⟩ := ih (g + step)
    simp only [loopTail]
    constructor
    · rw [evBytes_append, hmove.1, hmove.2, evBytes_append, (evBytes_withFr _ _ _).1, (evBytes_withFr _ _ _).2, hB, hE, ihB,
        ap_succ, List.flatMap_cons, List.nil_append]
    · rw [evEnd_append, hmove.2, evEnd_append, (evBytes_withFr _ _ _).2, hE, ihE,
        show g + step + m * step = g + (m + 1) * step by rw [Nat.succ_mul]; omega]

/-- **The frame loop of `genEvents`**: positioned at the first selected channel of frame `f` (minus a pending indirect
word), the loop reads the pending word and then the selected channels of the frames `range(f, stop, step)`, and ends
at the end of the last selected frame. -/
theorem frameLoop_spec (p : Plan) (cs : List Nat) (fevts : List Ev) (post inter : Option Ev) (stop step A E postSiz : Nat)
    (hstep : 0 < step)
    (hB : ∀ base, evBytes fevts (base + A) = selBytes p base cs)
    (hE : ∀ base, evEnd fevts (base + A) = base + E)
    (hhead : fevts.head?.map (fun e : Ev => e.ty) = some Ty.read)
    (hfs : E + postSiz = p.frameSize)
    (hpost : skipIs post postSiz)
    (hinter : ∀ g pos, evBytes (evAt inter g) pos = [] ∧
      evEnd (evAt inter g) pos
        = pos + ((step - 1) * p.frameSize + postSiz + A)) :
    ∀ (fuel f : Nat) (pend : Option Nat) (pos : Nat), f < stop → stop - f ≤ fuel →
      pos + pend.getD 0 = p.indr + f * p.frameSize + A →
      evBytes (frameLoop p fevts post inter stop step fuel f pend) pos
        = List.range' pos (pend.getD 0) ++ (rangeList f stop step).flatMap (fun g => selBytes p (p.indr + g * p.frameSize) cs) ∧
      ∃ g, f ≤ g ∧ g < stop ∧ evEnd (frameLoop p fevts post inter stop step fuel f pend) pos = p.indr + (g + 1) * p.frameSize := by
  intro fuel f pend pos hf hfuel hpos
  obtain ⟨_, hemB, hemE⟩ := emitFrame_spec f fevts pend pos hhead
  obtain ⟨htB, htE⟩ := loopTail_spec p cs fevts post inter step A E postSiz hstep hB hE hfs hpost hinter
    (rangeLen (f + step) stop step) f
  rw [frameLoop_eq p fevts post inter stop step hstep fuel f pend hf hfuel, evBytes_append, evEnd_append, hemB, hemE, hpos,
    hB, hE, htB, htE, rangeList_cons f stop step hf hstep]
  exact ⟨by rw [List.flatMap_cons, List.append_assoc]; rfl,
    _, Nat.le_add_right _ _, (rangeLen_last f stop step).resolve_right (by omega), rfl⟩

/-! ### `sorted(set(l))` -/

theorem insertSorted_mem (x : Nat) (l : List Nat) (y : Nat) : y ∈ insertSorted x l ↔ y = x ∨ y ∈ l := by
  induction l with
  | nil => simp [insertSorted]
  | cons a as ih =>
    simp only [insertSorted]
    split
    · rw [List.mem_cons]
    · split
      · rename_i h; subst h; rw [List.mem_cons, or_self_left]
      · rw [List.mem_cons, ih, List.mem_cons, or_left_comm]

theorem insertSorted_sorted (x : Nat) (l : List Nat) (h : l.Pairwise (· < ·)) : (insertSorted x l).Pairwise (· < ·) := by
  induction l with
  | nil => simp [insertSorted]
  | cons a as ih =>
    simp only [insertSorted]
    have ha := List.pairwise_cons.1 h
    split
    · rename_i hxa
      refine List.pairwise_cons.2 ⟨?_, h⟩
      intro b hb
      rcases List.mem_cons.1 hb with rfl | hb
      · exact hxa
      · exact Nat.lt_trans hxa (ha.1 b hb)
    · split
      · exact h
      · rename_i h1 h2
        refine List.pairwise_cons.2 ⟨?_, ih ha.2⟩
        intro b hb
        rcases (insertSorted_mem x as b).1 hb with rfl | hb
        · omega
        · exact ha.1 b hb

theorem sortDedup_mem (l : List Nat) (y : Nat) : y ∈ sortDedup l ↔ y ∈ l := by
  induction l with
  | nil => simp [sortDedup]
  | cons a as ih =>
    have : sortDedup (a :: as) = insertSorted a (sortDedup as) := rfl
    rw [this, insertSorted_mem, ih]; simp

theorem sortDedup_sorted (l : List Nat) : (sortDedup l).Pairwise (· < ·) := by
  induction l with
  | nil => simp [sortDedup]
  | cons a as ih =>
    have : sortDedup (a :: as) = insertSorted a (sortDedup as) := rfl
    rw [this]; exact insertSorted_sorted a _ ih

theorem lastP1_pos (rest : List Nat) (c0 : Nat) : 1 ≤ lastP1 rest (c0 + 1) := by
  unfold lastP1; cases rest.getLast? <;> simp

theorem frame_moves (p : Plan) (c0 : Nat) (rest : List Nat) (hsorted : (c0 :: rest).Pairwise (· < ·))
    (pre post : Option Ev) (fevts : List Ev) (hret : retFrameEvents p (c0 :: rest) = (pre, fevts, post)) :
    fevts ≠ [] ∧ sizIs pre (p.skipToChStart c0) ∧ skipIs post (p.skipToFrameEnd (lastP1 rest (c0 + 1) - 1)) ∧
      p.skipToChStart (lastP1 rest (c0 + 1)) + p.skipToFrameEnd (lastP1 rest (c0 + 1) - 1) = p.frameSize := by
  obtain ⟨_, _, hhead, hpre, hpost⟩ := retFrameEvents_spec p c0 rest hsorted 0 pre fevts post hret
  refine ⟨by intro h; rw [h] at hhead; simp at hhead, ?_, hpost, ?_⟩
  · unfold sizIs; unfold preIs at hpre
    cases pre with
    | none => simp only at hpre; subst hpre; exact skip_zero p
    | some e => exact hpre.2.1
  · have := skip_end p (lastP1 rest (c0 + 1) - 1)
    rwa [Nat.sub_add_cancel (lastP1_pos rest c0)] at this

theorem sizIs_of_skipIs {e : Option Ev} {n : Nat} (h : skipIs e n) : sizIs e n := by
  unfold sizIs; unfold skipIs at h
  cases e with
  | none => exact h
  | some e => exact h.2

/-- the first part of `genEvents` (indirect read, extrapolation and move to the first selected channel of frame
`start`) and the indirect read left pending for the first frame read -/
def headEvs (p : Plan) (pre : Option Ev) (start : Nat) : List Ev × Option Nat :=
  match pre with
  | some pr =>
    ((if p.indr > 0 then [⟨.read, p.indr, none, none, none⟩] ++ (if start > 0 then [⟨.extrap, start, some start, none, none⟩] else [])
      else []) ++ [⟨pr.ty, start * p.frameSize + pr.siz, some start, pr.cf, pr.ct⟩], none)
  | none =>
    if start > 0 then
      ((if p.indr > 0 then [⟨.read, p.indr, none, none, none⟩] else [])
        ++ [⟨.skip, start * p.frameSize, some start, none, some 0⟩]
        ++ (if p.indr > 0 then [⟨.extrap, start, some start, none, none⟩] else []), none)
    else ([], if p.indr > 0 then some p.indr else none)

theorem headEvs_fr (p : Plan) (pre : Option Ev) (a : Nat) : ∀ e ∈ (headEvs p pre a).1, e.fr = some a ∨ e.fr = none := by
  unfold headEvs
  cases pre <;> by_cases hi : p.indr > 0 <;> by_cases ha : a > 0 <;> simp [hi, ha]

theorem checkChIdx_eq (p : Plan) (chans cs : List Nat) (h : checkChIdx p chans = .ok cs) : cs = sortDedup chans := by
  unfold checkChIdx at h
  simp only at h
  split at h
  · split at h
    · cases h
    · cases h; rfl
  · cases h; rfl

theorem checkChIdx_ok (p : Plan) (chans : List Nat) (hlt : ∀ x ∈ chans, x < p.numChannels) :
    checkChIdx p chans = .ok (sortDedup chans) := by
  unfold checkChIdx
  simp only
  cases hl : (sortDedup chans).getLast? with
  | none => rfl
  | some x =>
    have := hlt x ((sortDedup_mem chans x).1 (List.mem_of_getLast? hl))
    simp [show ¬ x ≥ p.numChannels by omega]

theorem genEvents_def (p : Plan) (chans cs : List Nat) (a b step0 : Nat) (hchk : checkChIdx p chans = .ok cs) :
    genEvents p a b step0 chans = .ok (if cs.length > 0 ∧ b > a then
      (headEvs p (retFrameEvents p cs).1 a).1 ++
        frameLoop p (retFrameEvents p cs).2.1 (retFrameEvents p cs).2.2
          (mergedPostFramePre p (retFrameEvents p cs).1 (retFrameEvents p cs).2.2 (if step0 = 0 then 1 else step0)) b
          (if step0 = 0 then 1 else step0) (b - a) a (headEvs p (retFrameEvents p cs).1 a).2
      else []) := by
  unfold genEvents headEvs
  simp only [hchk]
  split
  · cases retFrameEvents p cs with
    | mk pre r2 =>
      obtain ⟨fevts, post⟩ := r2
      cases pre with
      | some pr => rfl
      | none => by_cases ha : a > 0 <;> simp only [ha, if_true, if_false]
  · rfl

theorem genEvents_eq (p : Plan) (chans : List Nat) (a b step0 : Nat) (pre post : Option Ev) (fevts : List Ev)
    (hne : chans ≠ []) (hlt : ∀ x ∈ chans, x < p.numChannels) (hab : a < b)
    (hret : retFrameEvents p (sortDedup chans) = (pre, fevts, post)) :
    genEvents p a b step0 chans = .ok ((headEvs p pre a).1 ++
      frameLoop p fevts post (mergedPostFramePre p pre post (if step0 = 0 then 1 else step0)) b
        (if step0 = 0 then 1 else step0) (b - a) a (headEvs p pre a).2) := by
  have hlen : (sortDedup chans).length > 0 := by
    cases chans with
    | nil => exact absurd rfl hne
    | cons x xs => exact List.length_pos_of_mem ((sortDedup_mem (x :: xs) x).2 (List.mem_cons_self ..))
  rw [genEvents_def p chans _ a b step0 (checkChIdx_ok p chans hlt), if_pos ⟨hlen, hab⟩, hret]

theorem headEvs_bytes (p : Plan) (pre : Option Ev) (a c0 : Nat) (hpre : preIs pre (p.skipToChStart c0) c0) :
    evBytes (headEvs p pre a).1 0 ++ List.range' (evEnd (headEvs p pre a).1 0) ((headEvs p pre a).2.getD 0)
      = List.range' 0 p.indr ∧
    evEnd (headEvs p pre a).1 0 + (headEvs p pre a).2.getD 0 = p.indr + a * p.frameSize + p.skipToChStart c0 := by
  unfold preIs at hpre
  have hi0 : ¬ p.indr > 0 → p.indr = 0 := by omega
  cases pre with
  | some pr =>
    obtain ⟨hty, hsz, _⟩ := hpre
    by_cases hi : p.indr > 0 <;> by_cases ha : a > 0 <;> simp [headEvs, hi, ha, evBytes, evEnd, hty, hsz, hi0] <;> omega
  | none =>
    simp only at hpre
    subst hpre
    have hA := skip_zero p
    by_cases hi : p.indr > 0 <;> by_cases ha : a > 0 <;> simp [headEvs, hi, ha, evBytes, evEnd, hA, hi0]
    all_goals omega

end TD.C06
