import TD.C06.Lemmas
import TD.C06.LemmasPlan
import TD.C06.LemmasLoad
import TD.C06.LemmasMulti
import TD.C06.LemmasSel
import TD.C06.LemmasInd
import TD.C06.LemmasReads
import TD.C06.LemmasX
import TD.C06.LemmasSetFrameSet

/-!
# C06 — LIS log pass frame sets are exact; any sub-selection is a sub-matrix

The property theorems, the two witnesses they are evaluated on (`dfsrW`/`storeW`/`lpW`: indirect X; `dfsrD`/`storeD`/`lpD`:
direct X) and the predicates `xSpec`, `SelectedRecord` of their statements.  The model (`TD.C06.Model`) transcribes Type01Plan / Rle / LogPass / FrameSet / FileIndexer of
TotalDepth; it is tied to the Python source by the correspondence run of `./check C06`.
-/
namespace TD.C06

/-! ## File index -/

/-- **Index lists all**: when indexing succeeds, the index holds — in file order — exactly one entry for every logical
record whose type the dispatch table knows (every header, trailer, table, DFSR and marker record), at the record's
position, with its type, its kind and, for tables, the value of the first component block as name.  Type 0/1 records
never produce an entry.  (`specEntries` looks at each record on its own: no state.) -/
theorem index_lists_all (recs : List (Nat × List Nat)) (es : List Entry) (h : fileIndex recs = .ok es) :
    es.map Entry.proj = specEntries recs := by
  unfold fileIndex at h
  split at h
  · cases h
  · rename_i s hs
    cases h
    simpa using indexFile_proj recs ⟨[], none, none⟩ s hs

example : (fileIndex [(0, [128, 0] ++ List.replicate 56 65),
      (62, [34, 0, 73, 65, 4, 0, 84, 89, 80, 69, 32, 32, 32, 32, 67, 79, 78, 83]), (80, [0, 0, 1, 2]), (90, [200, 0])]).toOption.map
        (·.map Entry.proj) = some [(0, 128, .fileHead, none), (62, 34, .table, some (.bytes [67, 79, 78, 83]))] := by
  decide +kernel

/-- **Index, data record**: a type 0/1 record accepted for a log pass has a length of the indirect word plus a whole
number `n` of frames, and is appended as `(position, n)` to the record list that the run-length table stands for. -/
theorem index_data_record (lp lp' : LogPass) (tell t : Nat) (payload : List Nat)
    (h : indexAddData lp tell t payload = .ok lp') :
    ∃ n, payload.length = lp.plan.indr + n * lp.plan.frameSize ∧ 0 < lp.plan.frameSize ∧
      expand lp'.rle = expand lp.rle ++ [((tell : Int), n)] ∧
      rle01Total lp'.rle = rle01Total lp.rle + n := by
  obtain ⟨x, hx⟩ := indexAddData_ok lp lp' tell t payload h
  obtain ⟨n, hn, hr⟩ := addType01Data_ok lp lp' tell t payload.length x hx
  obtain ⟨hlen, hfs⟩ := numFrames_ok lp.plan payload.length n hn
  exact ⟨n, hlen, hfs, by simp [hr, rle01Add_expand], by simp [hr, expand_total, rle01Add_expand]⟩

/-- **RLE lookup**: for every run-length table, `RLEType01.tellLrForFrame(f)` returns the
position of the record holding frame `f` and the frame's offset in it — `locate` on the plain record list — and raises
`IndexError` exactly when `f` is beyond the last frame. -/
theorem rle_lookup (l : List Item01) (f : Nat) :
    rle01Tell l f = (match locate (expand l) f with | some r => .ok r | none => .error .indexError) :=
  rle01Tell_locate l f

example : rle01Tell (rle01Add (rle01Add (rle01Add [] 100 5 0) 200 5 0) 300 3 0) 11 = .ok (300, 1) := by decide

/-- A record with zero frames is passed over by the lookup (finding F22): whatever the table,
inserting the records in order, frame `f` is found as if the empty record were not there. -/
theorem rle_lookup_skips_empty_record (pre post : List (Int × Nat)) (t : Int) (f : Nat) :
    locate (pre ++ (t, 0) :: post) f = locate (pre ++ post) f := by
  induction pre generalizing f with
  | nil => simp [locate]
  | cons a as ih => obtain ⟨t', n⟩ := a; simp only [List.cons_append, locate, ih]

example : rle01Tell (rle01Add (rle01Add (rle01Add [] 100 5 0) 200 0 0) 300 5 0) 7 = .ok (300, 2) := by decide

/-! ## The read/skip plan of one logical record -/

/-- **Events cover**: for every frame plan (any channel sizes, indirect word or not), every channel list whose members
exist and every non-empty frame slice `start < stop` (any step; 0 stands for None = 1), `genEvents` succeeds and,
executed from the start of the record data, its read events read — in order — exactly the indirect word followed by
the bytes of the selected channels (sorted, without duplicates) of the frames `range(start, stop, step)`; the total of
read + skip ends exactly at the end of a selected frame `g < stop`. (`evBytes`/`evEnd` are the byte semantics of an
event list; `extrapolate` events do not move.) -/
theorem events_cover (p : Plan) (start stop step0 : Nat) (chans : List Nat)
    (hch : ∀ c ∈ chans, c < p.numChannels) (hne : chans ≠ []) (hlt : start < stop) :
    ∃ evs, genEvents p start stop step0 chans = .ok evs ∧
      evBytes evs 0 = List.range' 0 p.indr ++
        (rangeList start stop (if step0 = 0 then 1 else step0)).flatMap
          (fun g => selBytes p (p.indr + g * p.frameSize) (sortDedup chans)) ∧
      ∃ g, start ≤ g ∧ g < stop ∧ evEnd evs 0 = p.indr + (g + 1) * p.frameSize := by
  have hstep : 0 < (if step0 = 0 then 1 else step0) := by split <;> omega
  have hsorted := sortDedup_sorted chans
  cases hcs : sortDedup chans with
  | nil =>
    cases chans with
    | nil => exact absurd rfl hne
    | cons a as => have := (sortDedup_mem (a :: as) a).2 (List.mem_cons_self ..); rw [hcs] at this; cases this
  | cons c0 rest =>
    rw [hcs] at hsorted
    cases hr : retFrameEvents p (c0 :: rest) with
    | mk pre r2 =>
      obtain ⟨fevts, post⟩ := r2
      refine ⟨_, genEvents_eq p chans start stop step0 pre post fevts hne hch hlt (hcs ▸ hr), ?_⟩
      generalize (if step0 = 0 then 1 else step0) = step at hstep ⊢
      have hspec := fun base => retFrameEvents_spec p c0 rest hsorted base pre fevts post hr
      obtain ⟨_, hpreS, hpost, hfs⟩ := frame_moves p c0 rest hsorted pre post fevts hr
      obtain ⟨hhB, hhE⟩ := headEvs_bytes p pre start c0 (hspec 0).2.2.2.1
      obtain ⟨hlB, g, hg1, hg2, hlE⟩ := frameLoop_spec p (c0 :: rest) fevts post (mergedPostFramePre p pre post step) stop step
        (p.skipToChStart c0) (p.skipToChStart (lastP1 rest (c0 + 1))) (p.skipToFrameEnd (lastP1 rest (c0 + 1) - 1))
        hstep (fun base => (hspec base).1) (fun base => (hspec base).2.1) (hspec 0).2.2.1 hfs hpost
        (merged_spec p pre post step _ _ hpreS (sizIs_of_skipIs hpost)) (stop - start) start (headEvs p pre start).2
        (evEnd (headEvs p pre start).1 0) hlt (Nat.le_refl _) hhE
      exact ⟨by rw [evBytes_append, hlB, ← List.append_assoc, hhB], g, hg1, hg2, by rw [evEnd_append, hlE]⟩

/-- **Reads stay inside the record**: if the record holds `F ≥ stop` frames, read + skip never pass its end. -/
theorem events_inside_record (p : Plan) (start stop step0 F : Nat) (chans : List Nat)
    (hch : ∀ c ∈ chans, c < p.numChannels) (hne : chans ≠ []) (hlt : start < stop) (hF : stop ≤ F) :
    ∃ evs, genEvents p start stop step0 chans = .ok evs ∧ evEnd evs 0 ≤ p.indr + F * p.frameSize := by
  obtain ⟨evs, h1, _, g, _, hg, hE⟩ := events_cover p start stop step0 chans hch hne hlt
  refine ⟨evs, h1, ?_⟩
  rw [hE]
  have : (g + 1) * p.frameSize ≤ F * p.frameSize := Nat.mul_le_mul_right _ (by omega)
  omega

example : ∃ evs, genEvents ⟨4, [4, 2, 1, 8]⟩ 1 6 2 [3, 1, 1] = .ok evs ∧
    evBytes evs 0 = [0, 1, 2, 3] ++ [23, 24, 26, 27, 28, 29, 30, 31, 32, 33] ++ [53, 54, 56, 57, 58, 59, 60, 61, 62, 63]
      ++ [83, 84, 86, 87, 88, 89, 90, 91, 92, 93] ∧ evEnd evs 0 = 94 := ⟨_, rfl, by decide, by decide⟩

/-! ## The EXTRAPOLATE branch of `setFrameSet` (what `implied X` rests on) -/

/-- For the first loaded frame (`frInt = 0`) an extrapolation by `n` frames adds `n·spacing` to the value just read. -/
theorem extrapolate_rule_first (d : Dfsr) (st : Store) (r : Run) (e : Ev) (x sp : Int)
    (hty : e.ty = .extrap) (hfr : e.fr = some 0) (hx : r.fs.xvec[0]? = some (some x)) (hsp : r.fs.frameSpacing = some sp) :
    (execEv d st r e).toOption.map (·.fs.xvec) = some (r.fs.xvec.set 0 (some (x + (e.siz : Int) * sp))) := by
  have hlen : 0 < r.fs.xvec.length := by
    cases hl : r.fs.xvec with
    | nil => rw [hl] at hx; simp at hx
    | cons a as => simp
  unfold execEv
  simp only [hty, hfr, ↓reduceIte, hx, hsp, hlen]
  simp [Except.toOption]

/-- For every later loaded frame (`frInt > 0`) the extrapolation starts from the X of the *previously loaded frame*
`frInt - 1` — also when that frame belongs to the previous record and the current record's own first X has just been
read into `frInt` (this is finding F7). -/
theorem extrapolate_rule_later (d : Dfsr) (st : Store) (r : Run) (e : Ev) (frInt : Nat) (x sp : Int)
    (hty : e.ty = .extrap) (hfr : e.fr = some frInt) (h0 : 0 < frInt) (hlen : frInt < r.fs.xvec.length)
    (hx : r.fs.xvec[frInt - 1]? = some (some x)) (hsp : r.fs.frameSpacing = some sp) :
    (execEv d st r e).toOption.map (·.fs.xvec) = some (r.fs.xvec.set frInt (some (x + (e.siz : Int) * sp))) := by
  have hne : frInt ≠ 0 := by omega
  unfold execEv
  simp [hty, hfr, hx, hsp, hlen, hne, Except.toOption]

/-! ## Loads do not depend on earlier loads -/

/-- **History independence**: the outcome of `setFrameSet` (file operations or exception) and the state it leaves do
not depend on the frame set left by earlier loads (successful or failed) — only on the DFSR and the record table. -/
theorem setFrameSet_history_independent (lp lp' : LogPass) (st : Store) (sl : Option Sl) (ch : Option (List Nat))
    (h1 : lp.dfsr = lp'.dfsr) (h2 : lp.plan = lp'.plan) (h3 : lp.xAxisIndex = lp'.xAxisIndex) (h4 : lp.rle = lp'.rle) :
    (setFrameSet lp st sl ch).2 = (setFrameSet lp' st sl ch).2 ∧
    (rle01Total lp.rle ≠ 0 → (setFrameSet lp st sl ch).1 = (setFrameSet lp' st sl ch).1) := by
  obtain ⟨d, p, x, r, f⟩ := lp
  obtain ⟨d', p', x', r', f'⟩ := lp'
  simp only at h1 h2 h3 h4
  subst h1 h2 h3 h4
  unfold setFrameSet genFrameSetEvents retFrameSetMap
  simp only
  split
  · exact ⟨rfl, fun h => absurd (by assumption) h⟩
  · split
    · exact ⟨rfl, fun _ => rfl⟩
    · split
      · exact ⟨rfl, fun _ => rfl⟩
      · split
        · exact ⟨rfl, fun _ => rfl⟩
        · split <;> exact ⟨rfl, fun _ => rfl⟩

/-- A load after any earlier load — in particular after a failed one (finding F20) — behaves like
the first load on a fresh `LogPass`: same outcome, same resulting state. -/
theorem setFrameSet_after_any_load (lp : LogPass) (st st' : Store) (sl sl' : Option Sl) (ch ch' : Option (List Nat))
    (hT : rle01Total lp.rle ≠ 0) :
    setFrameSet (setFrameSet lp st sl ch).1 st' sl' ch' = setFrameSet { lp with frameSet := none } st' sl' ch' := by
  have hkeep : ∀ (q : LogPass), (setFrameSet q st sl ch).1.dfsr = q.dfsr ∧ (setFrameSet q st sl ch).1.plan = q.plan ∧
      (setFrameSet q st sl ch).1.xAxisIndex = q.xAxisIndex ∧ (setFrameSet q st sl ch).1.rle = q.rle := by
    intro q
    unfold setFrameSet
    simp only
    split
    · exact ⟨rfl, rfl, rfl, rfl⟩
    · split
      · exact ⟨rfl, rfl, rfl, rfl⟩
      · split
        · exact ⟨rfl, rfl, rfl, rfl⟩
        · split
          · exact ⟨rfl, rfl, rfl, rfl⟩
          · split <;> exact ⟨rfl, rfl, rfl, rfl⟩
  obtain ⟨k1, k2, k3, k4⟩ := hkeep lp
  have hh := setFrameSet_history_independent (setFrameSet lp st sl ch).1 { lp with frameSet := none } st' sl' ch'
    k1 k2 k3 k4
  exact Prod.ext (hh.2 (by rw [k4]; exact hT)) hh.1

/-! ## Implied X axis -/

/-- the implied X value of frame `f`: `x0 + f·spacing` -/
def xSpec (x0 sp : Int) (frames : List Nat) : List (Option Int) := frames.map (fun (f : Nat) => some (x0 + (f : Int) * sp))

/-- the F7 witness: indirect X (rep code 73), up log (spacing −60), one 1-byte channel, 3 records × 5 frames -/
def dfsrW : Dfsr := ⟨0, 1, 73, 1, some 60, some [46, 49, 73, 78], some [46, 49, 73, 78], [⟨1, 1, 66⟩]⟩

def recW (x v : Nat) : List Nat :=
  [0, 0] ++ [x / 16777216 % 256, x / 65536 % 256, x / 256 % 256, x % 256] ++ [v, v + 1, v + 2, v + 3, v + 4]

def storeW : Store := [(100, recW 120000 0), (200, recW 119700 5), (300, recW 119400 10)]

def lpW : LogPass :=
  match LogPass.new dfsrW 0 with
  | .ok lp =>
    (match lp.addType01Data 100 0 9 120000 with
     | .ok a => (match a.addType01Data 200 0 9 119700 with
       | .ok b => (match b.addType01Data 300 0 9 119400 with | .ok c => c | .error _ => b)
       | .error _ => a)
     | .error _ => lp)
  | .error _ => ⟨dfsrW, ⟨0, []⟩, 0, [], none⟩

/-- On the witness the full load is right: every implied X is `x0 + f·spacing`, and the matrix holds the recorded bytes. -/
theorem implied_x_witness_step1 :
    (setFrameSet lpW storeW none none).1.frameSet.map (·.xvec) = some (xSpec 120000 (-60) (rangeList 0 15 1)) ∧
    (setFrameSet lpW storeW none none).1.frameSet.map (·.frames) = some ((List.range 15).map (fun v => [some v])) := by
  constructor <;> decide +kernel

/-- **F7 (known finding)**: the statement "the implied X of every loaded frame is `x0 + f·spacing`" is *false* on the
current code: `slice(0,16,2)` over 3 records × 5 frames gives 119700, 119580 for frames 6 and 8 (true 119640, 119520),
while the matrix itself is right. -/
theorem implied_x_f7_witness :
    (setFrameSet lpW storeW (some ⟨0, 16, 2⟩) none).1.frameSet.map (·.xvec)
      = some [some 120000, some 119880, some 119760, some 119700, some 119580, some 119400, some 119280, some 119160] ∧
    (setFrameSet lpW storeW (some ⟨0, 16, 2⟩) none).1.frameSet.map (·.xvec)
      ≠ some (xSpec 120000 (-60) (rangeList 0 16 2)) ∧
    (setFrameSet lpW storeW (some ⟨0, 16, 2⟩) none).1.frameSet.map (·.frames)
      = some ((rangeList 0 16 2).map (fun v => [some v])) := by
  refine ⟨by decide +kernel, by decide +kernel, by decide +kernel⟩

/-! ## Sub-selection is a sub-matrix (direct X) — a witness

The general statement is `setFrameSet_values`; this witness evaluates it (and the file operations) by the kernel on a
two-record log pass. -/

/-- explicit X (channel 0, rep code 73), a 2-sample × 2-burst channel of 1-byte words, a 2-byte channel; records of
3 and 2 frames; frame `f` holds X = 1000+10f, then bytes 10f+1 … 10f+4, then the word 256·(10f+5) + 10f+6 -/
def dfsrD : Dfsr := ⟨0, 0, 0, 255, none, some [46, 49, 73, 78], some [46, 49, 73, 78], [⟨4, 1, 73⟩, ⟨4, 2, 66⟩, ⟨2, 1, 79⟩]⟩

def frameD (f : Nat) : List Nat :=
  [0, 0, (1000 + 10 * f) / 256, (1000 + 10 * f) % 256, 10 * f + 1, 10 * f + 2, 10 * f + 3, 10 * f + 4, 10 * f + 5, 10 * f + 6]

def storeD : Store := [(50, [0, 0] ++ frameD 0 ++ frameD 1 ++ frameD 2), (90, [0, 0] ++ frameD 3 ++ frameD 4)]

def lpD : LogPass :=
  match LogPass.new dfsrD 0 with
  | .ok lp =>
    (match lp.addType01Data 50 0 30 1000 with
     | .ok a => (match a.addType01Data 90 0 20 1030 with | .ok b => b | .error _ => a)
     | .error _ => lp)
  | .error _ => ⟨dfsrD, ⟨0, []⟩, 0, [], none⟩

/-- the full matrix row of frame `f` (raw words) -/
def rowD (f : Nat) : List (Option Nat) :=
  [some (1000 + 10 * f), some (10 * f + 1), some (10 * f + 2), some (10 * f + 3), some (10 * f + 4),
   some (256 * (10 * f + 5) + 10 * f + 6)]

/-- On the witness: the full load gives the full matrix; `slice(1,5,2)` with channel list `[2]` gives rows 1, 3 and
columns of channels `{0 (X), 2}`; a following full load is again the full matrix (history), and the stepped load read
only inside the two records. -/
theorem setFrameSet_values_witness :
    (setFrameSet lpD storeD none none).1.frameSet.map (·.frames) = some ((List.range 5).map rowD) ∧
    (setFrameSet lpD storeD (some ⟨1, 5, 2⟩) (some [2])).1.frameSet.map (·.frames)
      = some ([1, 3].map (fun f => [(rowD f)[0]!, (rowD f)[5]!])) ∧
    (setFrameSet (setFrameSet lpD storeD (some ⟨1, 5, 2⟩) (some [2])).1 storeD none none).1.frameSet.map (·.frames)
      = some ((List.range 5).map rowD) ∧
    (setFrameSet lpD storeD (some ⟨1, 5, 2⟩) (some [2])).2
      = .ok [.seek 50, .read 50 0 2, .skip 10, .read 50 12 4, .skip 4, .read 50 20 2, .seek 90, .read 90 0 2, .read 90 2 4, .skip 4, .read 90 10 2] := by
  refine ⟨by decide +kernel, by decide +kernel, by decide +kernel, by decide +kernel⟩

/-! ## `setFrameSet_values` — the full statement for explicit (direct) X

For every direct-X log pass (X channel = channel 0) whose data records lie at strictly increasing file positions — any
number of records, any frames-per-record pattern incl. short last and empty records —, every channel list (`None`, or
any list of existing channels, in any order, with repetitions), every slice inside the frame count (any step, or `None`)
and every earlier frame set:
* the load succeeds,
* the channels of the frame set are `selIdx` = the sorted distinct requested channels plus the X channel,
* row `i` of the matrix is `frameRowSel` of frame `start + i·step`: for each selected channel, in order, the words of
  that channel taken from the bytes of the frame inside the record that holds it (`locate`, i.e. by `rle_lookup` what
  `RLEType01.tellLrForFrame` finds).
Since a row is the concatenation over the *selected* channels of per-channel words that do not depend on the selection
(`chanRow`), the matrix of a sub-selection is the full matrix restricted to rows `range(slice)` and columns
`chans ∪ {x}`. Hypotheses on the store: every record of the table is present with its type byte and a length of header
+ whole frames (what `index_data_record` establishes when the file is indexed); channel sizes are values × word length
(`DatumSpecBlockRead`). Words are raw; numeric decoding is C07. -/

/-- **Sub-selection is a sub-matrix (direct X), in full generality.** -/
theorem setFrameSet_values
    (d : Dfsr) (rle : List Item01) (st : Store) (fsOld : Option FrameSet) (sl : Option Sl) (chList : Option (List Nat))
    (hrm : d.recMode = 0) (hn : 0 < d.chans.length) (hok : d.sizesOk)
    (hcl : ∀ l, chList = some l → ∀ c ∈ l, c < d.chans.length)
    (hR : IncTells (expand rle))
    (hst : ∀ tn ∈ expand rle, ∃ bs, Store.find st tn.1.toNat = some bs ∧ bs.head? = some d.dataType ∧
      bs.length = 2 + tn.2 * sumN (d.chans.map Chan.size))
    (hlt : (slOrAll sl (rle01Total rle)).start < (slOrAll sl (rle01Total rle)).stop)
    (hstop : (slOrAll sl (rle01Total rle)).stop ≤ rle01Total rle) :
    ∃ ops, (setFrameSet ⟨d, ⟨0, d.chans.map Chan.size⟩, 0, rle, fsOld⟩ st sl chList).2 = .ok ops ∧
      (setFrameSet ⟨d, ⟨0, d.chans.map Chan.size⟩, 0, rle, fsOld⟩ st sl chList).1.frameSet.map (·.frames)
        = some ((rangeList (slOrAll sl (rle01Total rle)).start (slOrAll sl (rle01Total rle)).stop
                  (slOrAll sl (rle01Total rle)).step1).map (frameRowSel d st (expand rle) (selIdx d chList))) ∧
      (setFrameSet ⟨d, ⟨0, d.chans.map Chan.size⟩, 0, rle, fsOld⟩ st sl chList).1.frameSet.map (·.chIdx)
        = some (selIdx d chList) := by
  obtain ⟨hsorted, hltc, hne⟩ := selIdx_props d chList hn hcl
  have hnewG := fun S => new_direct d S chList hrm hltc
  generalize selIdx d chList = cs at hsorted hltc hne hnewG ⊢
  cases cs with
  | nil => exact absurd rfl hne
  | cons c0 rest =>
  obtain ⟨ops, h1, h2⟩ := setFrameSet_load d ⟨0, d.chans.map Chan.size⟩ rle st fsOld sl chList c0 rest 0 (fun _ => []) none
    rfl hok hltc hsorted hnewG (fun h => absurd h (Nat.lt_irrefl 0)) hR
    (by intro tn h
        obtain ⟨bs, e1, e2, e3⟩ := hst tn h
        exact ⟨bs, e1, e2, by simpa [Plan.frameSize] using e3, fun h => absurd h (Nat.lt_irrefl 0)⟩)
    hlt hstop
  exact ⟨ops, h1, by rw [h2, ← frameRowRec_direct]; rfl, by rw [h2]; rfl⟩

example : ∃ ops, (setFrameSet ⟨dfsrD, ⟨0, dfsrD.chans.map Chan.size⟩, 0, lpD.rle, none⟩ storeD (some ⟨1, 5, 2⟩) (some [2, 2])).2 = .ok ops :=
  (setFrameSet_values dfsrD lpD.rle storeD none (some ⟨1, 5, 2⟩) (some [2, 2]) rfl (by decide)
    (by intro c hc; simp [dfsrD] at hc; rcases hc with rfl | rfl | rfl <;> decide)
    (by intro l hl c hc; cases hl; simp at hc; subst hc; decide)
    (by unfold IncTells; decide) (by decide) (by decide) (by decide)).imp (fun _ h => h.1)

/-- the restriction property behind "sub-matrix": the row of a selection is the concatenation of per-channel pieces that
do not depend on the selection -/
theorem rowSel_is_restriction (d : Dfsr) (p : Plan) (cs : List Nat) (frame : List Nat) :
    rowSel d p cs frame = cs.flatMap (fun c => rowSel d p [c] frame) := by
  simp [rowSel]

/-! ## Sub-selection is a sub-matrix (direct X) — all channels

Channel list `None`: the selection is every channel, and the row of a frame (`frameRow`) is the words of all channels
read in one piece from the record that holds the frame. -/
theorem setFrameSet_values_allchannels_partial
    (d : Dfsr) (k : Nat) (rle : List Item01) (st : Store) (fsOld : Option FrameSet) (sl : Option Sl)
    (hrm : d.recMode = 0) (hk : d.chans.length = k + 1) (hok : d.sizesOk)
    (hR : IncTells (expand rle))
    (hst : ∀ tn ∈ expand rle, ∃ bs, Store.find st tn.1.toNat = some bs ∧ bs.head? = some d.dataType ∧
      bs.length = 2 + tn.2 * sumN (d.chans.map Chan.size))
    (hlt : (slOrAll sl (rle01Total rle)).start < (slOrAll sl (rle01Total rle)).stop)
    (hstop : (slOrAll sl (rle01Total rle)).stop ≤ rle01Total rle) :
    ∃ ops, (setFrameSet ⟨d, ⟨0, d.chans.map Chan.size⟩, 0, rle, fsOld⟩ st sl none).2 = .ok ops ∧
      (setFrameSet ⟨d, ⟨0, d.chans.map Chan.size⟩, 0, rle, fsOld⟩ st sl none).1.frameSet.map (·.frames)
        = some ((rangeList (slOrAll sl (rle01Total rle)).start (slOrAll sl (rle01Total rle)).stop
                  (slOrAll sl (rle01Total rle)).step1).map (frameRow d st (expand rle))) := by
  obtain ⟨ops, h1, h2, _⟩ := setFrameSet_values d rle st fsOld sl none hrm (by omega) hok (fun l h => nomatch h) hR hst hlt hstop
  exact ⟨ops, h1, by rw [h2, selIdx, frameRowSel_all d hok]⟩

example : ∃ ops, (setFrameSet ⟨dfsrD, ⟨0, dfsrD.chans.map Chan.size⟩, 0, lpD.rle, none⟩ storeD (some ⟨1, 5, 2⟩) none).2 = .ok ops :=
  (setFrameSet_values_allchannels_partial dfsrD 2 lpD.rle storeD none (some ⟨1, 5, 2⟩) rfl rfl
    (by intro c hc; simp [dfsrD] at hc; rcases hc with rfl | rfl | rfl <;> decide)
    (by unfold IncTells; decide) (by decide) (by decide) (by decide)).imp (fun _ h => h.1)

/-! ## Sub-selection is a sub-matrix (direct X) — all channels, one data record

A log pass held in one data record of `n` frames: row `i` holds the words of all channels of frame `start + i·step` of
that record. -/

/-- **`setFrameSet_values`, all channels, single record.** -/
theorem setFrameSet_values_allchannels_single_partial
    (d : Dfsr) (k n t : Nat) (x : Int) (bs : List Nat) (st : Store) (fsOld : Option FrameSet) (sl : Option Sl)
    (hrm : d.recMode = 0) (hk : d.chans.length = k + 1) (hok : d.sizesOk)
    (hfind : Store.find st t = some bs) (hhead : bs.head? = some d.dataType)
    (hbs : bs.length = 2 + n * sumN (d.chans.map Chan.size))
    (hlt : (slOrAll sl n).start < (slOrAll sl n).stop) (hstop : (slOrAll sl n).stop ≤ n) :
    ∃ ops, (setFrameSet ⟨d, ⟨0, d.chans.map Chan.size⟩, 0, [Item01.mk1 t n x], fsOld⟩ st sl none).2 = .ok ops ∧
      (setFrameSet ⟨d, ⟨0, d.chans.map Chan.size⟩, 0, [Item01.mk1 t n x], fsOld⟩ st sl none).1.frameSet.map (·.frames)
        = some ((rangeList (slOrAll sl n).start (slOrAll sl n).stop (slOrAll sl n).step1).map (rowOf d bs)) := by
  have htot : rle01Total [Item01.mk1 (t : Int) n x] = n := by simp [rle01Total, Item01.totalFrames, Item01.mk1]
  have hexp : expand [Item01.mk1 (t : Int) n x] = [((t : Int), n)] := by simp [expand, mk1_expand]
  obtain ⟨ops, h1, h2⟩ := setFrameSet_values_allchannels_partial d k [Item01.mk1 t n x] st fsOld sl hrm hk hok
    (by rw [hexp]; simp [IncTells])
    (by rw [hexp]; intro tn h; rw [List.mem_singleton.1 h]; exact ⟨bs, hfind, hhead, hbs⟩)
    (by rw [htot]; exact hlt) (by rw [htot]; exact hstop)
  refine ⟨ops, h1, ?_⟩
  rw [h2, htot, hexp]
  congr 1
  apply List.map_congr_left
  intro f hf
  have hfn : f < n := by have := (mem_rangeList _ _ _ f hf).2; omega
  simp [frameRow, locate, hfn, bytesOf, hfind]

example : ∃ ops, (setFrameSet ⟨dfsrD, ⟨0, dfsrD.chans.map Chan.size⟩, 0, [Item01.mk1 50 3 1000], none⟩
      [(50, [0, 0] ++ frameD 0 ++ frameD 1 ++ frameD 2)] (some ⟨0, 3, 2⟩) none).2 = .ok ops :=
  (setFrameSet_values_allchannels_single_partial dfsrD 2 3 50 1000 ([0, 0] ++ frameD 0 ++ frameD 1 ++ frameD 2)
    [(50, [0, 0] ++ frameD 0 ++ frameD 1 ++ frameD 2)] none (some ⟨0, 3, 2⟩) rfl rfl
    (by intro c hc; simp [dfsrD] at hc; rcases hc with rfl | rfl | rfl <;> decide)
    (by decide) (by decide) (by decide) (by decide) (by decide)).imp (fun _ h => h.1)

/-! ## Every file operation of a load lies inside a data record that holds a requested frame

General: any DFSR (direct or indirect X), any record table, any slice, any channel list. Whenever `setFrameSet`
succeeds, every seek goes to the position of a record in which `RLEType01.tellLrForFrame` locates a requested frame,
and every read is a read of that record at `[ofs, ofs+len)` with `ofs + len ≤` the record's length (header included);
skips do not touch the file. (Physical extents of the records are C05's subject; the oracle of `./check C06` checks the
physical reads of the implementation against the generator's extents.) -/

/-- the record at position `t` holds a frame requested by the slice `sl` -/
def SelectedRecord (lp : LogPass) (sl : Option Sl) (t : Nat) : Prop :=
  ∃ f ∈ rangeList (slOrAll sl (rle01Total lp.rle)).start (slOrAll sl (rle01Total lp.rle)).stop (slOrAll sl (rle01Total lp.rle)).step1,
    ∃ seek off, rle01Tell lp.rle f = .ok (seek, off) ∧ seek.toNat = t

theorem reads_inside_selected_records (lp : LogPass) (st : Store) (sl : Option Sl) (ch : Option (List Nat)) (ops : List Op)
    (h : (setFrameSet lp st sl ch).2 = .ok ops) : ∀ op ∈ ops, OpOk st (SelectedRecord lp sl) op := by
  unfold setFrameSet at h
  simp only at h
  split at h
  · cases h
  · split at h
    · cases h
    · rename_i fs hfs
      split at h
      · cases h; simp
      · split at h
        · cases h
        · rename_i evs hevs
          split at h
          · cases h
          · rename_i r hex
            cases h
            unfold genFrameSetEvents at hevs
            split at hevs
            · cases hevs
            · rename_i m hm
              have hseek : ∀ e ∈ evs, e.ty = .seekLr → SelectedRecord lp sl e.siz := by
                intro e he hty
                obtain ⟨en, hen, hs⟩ := genFrameSetEventsAux_seeks _ _ _ _ _ hevs e he hty
                unfold retFrameSetMap at hm
                split at hm
                · cases hm
                · rename_i m0 hm0
                  cases hm
                  have := retFrameSetMapAux_keys _ _ _ _ hm0 en (sortByKey_mem _ _ hen)
                  rcases this with ⟨e', he', _⟩ | ⟨f, hf, off, ht⟩
                  · simp at he'
                  · exact ⟨f, hf, en.1, off, ht, hs.symm⟩
              have hok := execEvs_ok lp.dfsr st (SelectedRecord lp sl) evs _ r hseek
                ⟨by simp, by intro t bs h; simp at h⟩ hex
              intro op hop
              exact hok.1 op (by simpa using hop)

example : ∀ op ∈ [Op.seek 50, .read 50 0 2, .skip 10, .read 50 12 4, .skip 4, .read 50 20 2, .seek 90, .read 90 0 2,
    .read 90 2 4, .skip 4, .read 90 10 2], OpOk storeD (SelectedRecord lpD (some ⟨1, 5, 2⟩)) op :=
  reads_inside_selected_records lpD storeD (some ⟨1, 5, 2⟩) (some [2]) _ setFrameSet_values_witness.2.2.2

/-! ## Implied X — the EXTRAPOLATE events of one record

For every plan with an indirect word, every channel list and every slice of one record: the EXTRAPOLATE events are
exactly — one of `start` frames at frame `start` when `start > 0`, then one of `step` frames at every further selected
frame, in order. Together with `extrapolate_rule_first` / `extrapolate_rule_later` (the interpreter's rule for one such
event) this is the rule `implied_x_rule` states for whole loads: `X[first] = Xrecord + start·spacing` when the record
is the first loaded one, `X[first] = X[previous loaded frame] + start·spacing` otherwise (the F7 rule), and
`X[next] = X[previous] + step·spacing` inside the record; for `start = 0` no extrapolation happens at the first frame
(the record's own X word is used). -/

theorem implied_x_events_partial (p : Plan) (a b c0 : Nat) (chans : List Nat) (evs : List Ev)
    (hindr : p.indr > 0) (hab : a < b) (hne : sortDedup chans ≠ [])
    (h : genEvents p a b c0 chans = .ok evs) :
    exts evs = (if a > 0 then [(a, some a)] else [])
      ++ (rangeList (a + (if c0 = 0 then 1 else c0)) b (if c0 = 0 then 1 else c0)).map
          (fun g => ((if c0 = 0 then 1 else c0), some g)) := by
  have hstep : 0 < (if c0 = 0 then 1 else c0) := by split <;> omega
  cases hc : checkChIdx p chans with
  | error e => unfold genEvents at h; simp only [hc] at h; cases h
  | ok cs =>
    have hlen : cs.length > 0 := by
      rw [checkChIdx_eq p chans cs hc]; exact List.length_pos_iff.2 hne
    rw [genEvents_def p chans cs a b c0 hc, if_pos ⟨hlen, hab⟩] at h
    cases h
    obtain ⟨hpre, hfev, hpost⟩ := retFrameEvents_avoids (t := .extrap) (by decide) (by decide) p cs
    rw [exts_append, headEvs_exts p _ a hindr hpre, frameLoop_exts p _ _ _ b _ hstep hfev hpost
      (merged_avoids (by decide) p _ _ _) _ _ _ hab (Nat.le_refl _), if_pos hindr]

example : exts ((genEvents ⟨4, [4, 2]⟩ 1 6 2 [1]).toOption.getD []) = [(1, some 1), (2, some 3), (2, some 5)] := by decide

/-! ## Implied X — the exact value rule, in general

For every indirect-X log pass (recording mode 1, X word of `w > 0` bytes in an integer-decodable code, frame spacing
units = depth units) with data records at strictly increasing positions, every slice inside the frame count (any step),
every non-empty channel selection and every earlier frame set: the load succeeds and the implied X vector is
`allXs spacing xrec step groups none`, where `groups` is the grouping of the requested frames by record and, record
after record (`entryXs` / `entryBase`):
* the first loaded frame of a record whose first selected offset `a` is 0 gets the record's own X word;
* with `a > 0` it gets `X word + a·spacing` in the first loaded record, but `X of the previously loaded frame +
  a·spacing` in every later record — the defect F7;
* every further frame of the record gets `step·spacing` more than the one before.
`spacing` is `-|s|` for an up log and `|s|` otherwise. This is the wrong-value rule the oracle evaluates. -/

theorem implied_x_rule
    (d : Dfsr) (w : Nat) (s : Int) (rle : List Item01) (st : Store) (fsOld : Option FrameSet) (sl : Option Sl)
    (chList : Option (List Nat))
    (hi : IndCtx d ⟨w, d.chans.map Chan.size⟩ w) (hu : d.spacingUnits = d.depthUnits) (hs : d.spacing = some s)
    (hcl : ∀ c ∈ selIdxI d chList, c < d.chans.length) (hne : selIdxI d chList ≠ [])
    (hR : IncTells (expand rle))
    (hst : ∀ tn ∈ expand rle, ∃ bs x, Store.find st tn.1.toNat = some bs ∧ bs.head? = some d.dataType ∧
      bs.length = 2 + w + tn.2 * sumN (d.chans.map Chan.size) ∧ xDecode d.depthRc (beWord ((bs.drop 2).take w)) = .ok x)
    (hlt : (slOrAll sl (rle01Total rle)).start < (slOrAll sl (rle01Total rle)).stop)
    (hstop : (slOrAll sl (rle01Total rle)).stop ≤ rle01Total rle) :
    ∃ ops, (setFrameSet ⟨d, ⟨w, d.chans.map Chan.size⟩, 0, rle, fsOld⟩ st sl chList).2 = .ok ops ∧
      (setFrameSet ⟨d, ⟨w, d.chans.map Chan.size⟩, 0, rle, fsOld⟩ st sl chList).1.frameSet.map (·.xvec)
        = some ((allXs (spacingOf d s) (xrecOf d st w) (slOrAll sl (rle01Total rle)).step1
            (groupsOf (expand rle) (slOrAll sl (rle01Total rle)).start (slOrAll sl (rle01Total rle)).stop
              (slOrAll sl (rle01Total rle)).step1) none).map some) := by
  have hsorted : (selIdxI d chList).Pairwise (· < ·) := by
    cases chList with
    | none => exact List.pairwise_lt_range
    | some l => exact sortDedup_sorted _
  have hnewG := fun S => new_indirect d S chList s hi.hrm hu hs hcl
  generalize selIdxI d chList = cs at hsorted hcl hne hnewG
  cases cs with
  | nil => exact absurd rfl hne
  | cons c0 rest =>
  obtain ⟨ops, h1, h2⟩ := setFrameSet_load d ⟨w, d.chans.map Chan.size⟩ rle st fsOld sl chList c0 rest (spacingOf d s)
    (fun n => List.replicate n none) (some (spacingOf d s)) rfl hi.hok hcl hsorted hnewG
    (fun _ => ⟨hi, rfl, fun n => List.length_replicate ..⟩) hR
    (by intro tn h
        obtain ⟨bs, x, e1, e2, e3, e4⟩ := hst tn h
        exact ⟨bs, e1, e2, e3, fun _ => ⟨x, e4⟩⟩)
    hlt hstop
  refine ⟨ops, h1, ?_⟩
  obtain ⟨hG, hflat, _⟩ := groupsOf_slice rle _ hR hstop
  rw [h2]
  simp only [Option.map_some, hi.hwpos, if_true, Option.some.injEq]
  apply setVals_full
  rw [allXs_length _ _ _ _ _ (by intro e he; obtain ⟨a', len, hb⟩ := hG.2 e he; rw [hb]; simp [ap]), ← flat_length, hflat]
  simp [rangeList]

/-- **Implied X is right in the good class**: if every record but the first loaded one is entered at offset 0 — which
is the case for step 1, for a log pass held in one record, and generally exactly when the selection is outside the F7
class — and the X words of the records are consistent with a common origin (`xrec + offset·spacing = x0 +
frame·spacing` for the located frames), the implied X of every loaded frame `f` is `x0 + f·spacing`. -/
theorem implied_x_partial
    (d : Dfsr) (w : Nat) (s : Int) (rle : List Item01) (st : Store) (fsOld : Option FrameSet) (sl : Option Sl)
    (chList : Option (List Nat))
    (hi : IndCtx d ⟨w, d.chans.map Chan.size⟩ w) (hu : d.spacingUnits = d.depthUnits) (hs : d.spacing = some s)
    (hcl : ∀ c ∈ selIdxI d chList, c < d.chans.length) (hne : selIdxI d chList ≠ [])
    (hR : IncTells (expand rle))
    (hst : ∀ tn ∈ expand rle, ∃ bs x, Store.find st tn.1.toNat = some bs ∧ bs.head? = some d.dataType ∧
      bs.length = 2 + w + tn.2 * sumN (d.chans.map Chan.size) ∧ xDecode d.depthRc (beWord ((bs.drop 2).take w)) = .ok x)
    (hlt : (slOrAll sl (rle01Total rle)).start < (slOrAll sl (rle01Total rle)).stop)
    (hstop : (slOrAll sl (rle01Total rle)).stop ≤ rle01Total rle)
    (hclass : ∀ e ∈ (groupsOf (expand rle) (slOrAll sl (rle01Total rle)).start (slOrAll sl (rle01Total rle)).stop
        (slOrAll sl (rle01Total rle)).step1).tail, e.2.headD 0 = 0)
    (x0 : Int)
    (hcons : ∀ f t off, locate (expand rle) f = some (t, off) →
      xrecOf d st w t + (off : Int) * spacingOf d s = x0 + (f : Int) * spacingOf d s) :
    (setFrameSet ⟨d, ⟨w, d.chans.map Chan.size⟩, 0, rle, fsOld⟩ st sl chList).1.frameSet.map (·.xvec)
      = some ((rangeList (slOrAll sl (rle01Total rle)).start (slOrAll sl (rle01Total rle)).stop
          (slOrAll sl (rle01Total rle)).step1).map (fun (f : Nat) => some (x0 + (f : Int) * spacingOf d s))) := by
  obtain ⟨ops, _, hx⟩ := implied_x_rule d w s rle st fsOld sl chList hi hu hs hcl hne hR hst hlt hstop
  rw [hx]
  have hstep := step1_pos (slOrAll sl (rle01Total rle))
  obtain ⟨hG, hflat, _⟩ := groupsOf_slice rle _ hR hstop
  rw [allXs_good _ _ _ _ none hG.2 (Or.inl ⟨rfl, hclass⟩), hflat]
  simp only [List.map_map, Option.some.injEq]
  apply List.map_congr_left
  intro f hf
  simp only [Function.comp, Option.some.injEq]
  have hfb := (mem_rangeList _ _ _ f hf).2
  obtain ⟨r, hr⟩ := locate_lt (expand rle) f (by rw [← expand_total]; omega)
  rw [hr]
  exact hcons f r.1 r.2 hr

/-- **`implied_x_wrong_iff` — the F7 class as a theorem.** With a non-zero spacing and X words of the records that are
consistent with a common origin `x0`, the implied X of a loaded frame differs from `x0 + frame·spacing` **exactly** for
the frames of the records, other than the first loaded one, that are entered at an offset > 0 (`badList`): the list of
"X is wrong" flags of the loaded frames equals `badList groups true`. (Errors never cancel: each such record adds
`(a - step)·spacing` with `0 < a < step` to the error carried over from the previous loaded frame, and a record entered
at offset 0 resets it.) -/
theorem implied_x_wrong_iff
    (d : Dfsr) (w : Nat) (s : Int) (rle : List Item01) (st : Store) (fsOld : Option FrameSet) (sl : Option Sl)
    (chList : Option (List Nat))
    (hi : IndCtx d ⟨w, d.chans.map Chan.size⟩ w) (hu : d.spacingUnits = d.depthUnits) (hs : d.spacing = some s)
    (hcl : ∀ c ∈ selIdxI d chList, c < d.chans.length) (hne : selIdxI d chList ≠ [])
    (hR : IncTells (expand rle))
    (hst : ∀ tn ∈ expand rle, ∃ bs x, Store.find st tn.1.toNat = some bs ∧ bs.head? = some d.dataType ∧
      bs.length = 2 + w + tn.2 * sumN (d.chans.map Chan.size) ∧ xDecode d.depthRc (beWord ((bs.drop 2).take w)) = .ok x)
    (hlt : (slOrAll sl (rle01Total rle)).start < (slOrAll sl (rle01Total rle)).stop)
    (hstop : (slOrAll sl (rle01Total rle)).stop ≤ rle01Total rle)
    (hsp : spacingOf d s ≠ 0) (x0 : Int)
    (hcons : ∀ f t off, locate (expand rle) f = some (t, off) →
      xrecOf d st w t + (off : Int) * spacingOf d s = x0 + (f : Int) * spacingOf d s) :
    ∃ xs, (setFrameSet ⟨d, ⟨w, d.chans.map Chan.size⟩, 0, rle, fsOld⟩ st sl chList).1.frameSet.map (·.xvec)
        = some (xs.map some) ∧
      List.zipWith (fun x (f : Nat) => decide (x ≠ x0 + (f : Int) * spacingOf d s)) xs
          (rangeList (slOrAll sl (rle01Total rle)).start (slOrAll sl (rle01Total rle)).stop (slOrAll sl (rle01Total rle)).step1)
        = badList (groupsOf (expand rle) (slOrAll sl (rle01Total rle)).start (slOrAll sl (rle01Total rle)).stop
            (slOrAll sl (rle01Total rle)).step1) true := by
  obtain ⟨ops, _, hx⟩ := implied_x_rule d w s rle st fsOld sl chList hi hu hs hcl hne hR hst hlt hstop
  refine ⟨_, hx, ?_⟩
  generalize hS : slOrAll sl (rle01Total rle) = S at hlt hstop ⊢
  obtain ⟨a, b, cc0⟩ := S
  simp only at hlt hstop ⊢
  have hstep := step1_pos (Sl.mk a b cc0)
  generalize (Sl.mk a b cc0).step1 = c at hstep ⊢
  obtain ⟨hG, hflat, htl⟩ := groupsOf_spec (expand rle) hR a b c hstep (by rw [← expand_total]; exact hstop)
  have hloc : ∀ f, f < b → ∃ q, locate (expand rle) f = some q ∧ (locate (expand rle) f).getD (0, 0) = q := by
    intro f hf
    obtain ⟨r, hr⟩ := locate_lt (expand rle) f (by rw [← expand_total]; omega)
    exact ⟨r, hr, by simp [hr]⟩
  have htx : ∀ f, f < b → tx (spacingOf d s) (xrecOf d st w) ((locate (expand rle) f).getD (0, 0)) = x0 + (f : Int) * spacingOf d s := by
    intro f hf
    obtain ⟨q, hq, hq'⟩ := hloc f hf
    rw [hq']; exact hcons f q.1 q.2 hq
  have hgetf : ∀ i f, (rangeList a b c)[i]? = some f → f = a + i * c ∧ f < b := by
    intro i f h
    refine ⟨?_, (mem_rangeList a b c f (List.mem_of_getElem? h)).2⟩
    rw [rangeList_eq_ap, ap_getElem] at h
    split at h
    · exact (Option.some.inj h).symm
    · cases h
  have hstepx : StepX (spacingOf d s) (xrecOf d st w) c (flat (groupsOf (expand rle) a b c)) := by
    intro i q q' h1 h2
    rw [hflat, List.getElem?_map] at h1 h2
    cases hf1 : (rangeList a b c)[i]? with
    | none => rw [hf1] at h1; simp at h1
    | some f1 =>
      cases hf2 : (rangeList a b c)[i + 1]? with
      | none => rw [hf2] at h2; simp at h2
      | some f2 =>
        rw [hf1] at h1; rw [hf2] at h2
        simp only [Option.map_some, Option.some.injEq] at h1 h2
        obtain ⟨e1, l1⟩ := hgetf i f1 hf1
        obtain ⟨e2, l2⟩ := hgetf (i + 1) f2 hf2
        rw [← h1, ← h2, htx f1 l1, htx f2 l2, e1, e2]
        push_cast; ring
  have hdev := allXs_dev (spacingOf d s) (xrecOf d st w) c hsp (groupsOf (expand rle) a b c) none true 0 0 hG.2
    (by simpa using htl) (Or.inl ⟨rfl, rfl⟩) hstepx
  rw [← hdev, hflat, List.zipWith_map_right]
  apply List.ext_getElem
  · simp
  · intro i h1 h2
    simp only [List.getElem_zipWith]
    have hi' : i < (rangeList a b c).length := by simp at h1; omega
    have := htx ((rangeList a b c)[i]) (mem_rangeList a b c _ (List.getElem_mem hi')).2
    rw [this]

/-- the F7 witness: 3 records × 5 frames, `slice(0,16,2)`: wrong exactly at the two frames loaded from the second record -/
example : badList (groupsOf (expand lpW.rle) 0 16 2) true = [false, false, false, true, true, false, false, false] := by
  decide

/-- **Step 1 is always right**: with step 1 (or `None`) every later record is entered at offset 0. -/
theorem implied_x_step1
    (d : Dfsr) (w : Nat) (s : Int) (rle : List Item01) (st : Store) (fsOld : Option FrameSet) (sl : Option Sl)
    (chList : Option (List Nat))
    (hi : IndCtx d ⟨w, d.chans.map Chan.size⟩ w) (hu : d.spacingUnits = d.depthUnits) (hs : d.spacing = some s)
    (hcl : ∀ c ∈ selIdxI d chList, c < d.chans.length) (hne : selIdxI d chList ≠ [])
    (hR : IncTells (expand rle))
    (hst : ∀ tn ∈ expand rle, ∃ bs x, Store.find st tn.1.toNat = some bs ∧ bs.head? = some d.dataType ∧
      bs.length = 2 + w + tn.2 * sumN (d.chans.map Chan.size) ∧ xDecode d.depthRc (beWord ((bs.drop 2).take w)) = .ok x)
    (hlt : (slOrAll sl (rle01Total rle)).start < (slOrAll sl (rle01Total rle)).stop)
    (hstop : (slOrAll sl (rle01Total rle)).stop ≤ rle01Total rle)
    (hstep1 : (slOrAll sl (rle01Total rle)).step1 = 1) (x0 : Int)
    (hcons : ∀ f t off, locate (expand rle) f = some (t, off) →
      xrecOf d st w t + (off : Int) * spacingOf d s = x0 + (f : Int) * spacingOf d s) :
    (setFrameSet ⟨d, ⟨w, d.chans.map Chan.size⟩, 0, rle, fsOld⟩ st sl chList).1.frameSet.map (·.xvec)
      = some ((rangeList (slOrAll sl (rle01Total rle)).start (slOrAll sl (rle01Total rle)).stop
          (slOrAll sl (rle01Total rle)).step1).map (fun (f : Nat) => some (x0 + (f : Int) * spacingOf d s))) := by
  apply implied_x_partial d w s rle st fsOld sl chList hi hu hs hcl hne hR hst hlt hstop _ x0 hcons
  obtain ⟨_, _, htl⟩ := groupsOf_slice rle _ hR hstop
  intro e he
  have := htl e he
  rw [hstep1] at this
  omega

/-- **One data record is always right**: a log pass held in one record has a single group. -/
theorem implied_x_single_record
    (d : Dfsr) (w : Nat) (s : Int) (rle : List Item01) (st : Store) (fsOld : Option FrameSet) (sl : Option Sl)
    (chList : Option (List Nat)) (t : Int) (n : Nat) (hone : expand rle = [(t, n)])
    (hi : IndCtx d ⟨w, d.chans.map Chan.size⟩ w) (hu : d.spacingUnits = d.depthUnits) (hs : d.spacing = some s)
    (hcl : ∀ c ∈ selIdxI d chList, c < d.chans.length) (hne : selIdxI d chList ≠ [])
    (hst : ∀ tn ∈ expand rle, ∃ bs x, Store.find st tn.1.toNat = some bs ∧ bs.head? = some d.dataType ∧
      bs.length = 2 + w + tn.2 * sumN (d.chans.map Chan.size) ∧ xDecode d.depthRc (beWord ((bs.drop 2).take w)) = .ok x)
    (hlt : (slOrAll sl (rle01Total rle)).start < (slOrAll sl (rle01Total rle)).stop)
    (hstop : (slOrAll sl (rle01Total rle)).stop ≤ rle01Total rle) :
    (setFrameSet ⟨d, ⟨w, d.chans.map Chan.size⟩, 0, rle, fsOld⟩ st sl chList).1.frameSet.map (·.xvec)
      = some ((rangeList (slOrAll sl (rle01Total rle)).start (slOrAll sl (rle01Total rle)).stop
          (slOrAll sl (rle01Total rle)).step1).map
            (fun (f : Nat) => some (xrecOf d st w t + (f : Int) * spacingOf d s))) := by
  have hR : IncTells (expand rle) := by rw [hone]; simp [IncTells]
  have hstep := step1_pos (slOrAll sl (rle01Total rle))
  obtain ⟨hG, hflat, _⟩ := groupsOf_slice rle _ hR hstop
  apply implied_x_partial d w s rle st fsOld sl chList hi hu hs hcl hne hR hst hlt hstop _ (xrecOf d st w t)
  · intro f t' off h
    rw [hone] at h
    simp only [locate] at h
    split at h
    · simp only [Option.some.injEq, Prod.mk.injEq] at h; obtain ⟨rfl, rfl⟩ := h; rfl
    · simp at h
  · -- all keys are `t`, keys are strictly increasing: at most one group
    have hkeys : ∀ e ∈ groupsOf (expand rle) (slOrAll sl (rle01Total rle)).start (slOrAll sl (rle01Total rle)).stop
        (slOrAll sl (rle01Total rle)).step1, e.1 = t := by
      intro e he
      obtain ⟨_, _, n', _, hm, _⟩ := groupsOf_entry (expand rle) hR _ _ _ hstep (by rw [← expand_total]; exact hstop) e he
      rw [hone, List.mem_singleton] at hm
      exact (Prod.mk.inj hm).1
    cases hg : groupsOf (expand rle) (slOrAll sl (rle01Total rle)).start (slOrAll sl (rle01Total rle)).stop
        (slOrAll sl (rle01Total rle)).step1 with
    | nil => simp
    | cons x xs =>
      cases xs with
      | nil => simp
      | cons y ys =>
        exfalso
        have hpw := hG.1
        rw [hg] at hpw hkeys
        simp only [List.map_cons, List.pairwise_cons] at hpw
        have h1 := hkeys x (by simp)
        have h2 := hkeys y (by simp)
        have := hpw.1 y.1 (by simp)
        omega

end TD.C06
