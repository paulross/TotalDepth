import TD.C06.LemmasPlan
import TD.C06.LemmasReads

/-!
C06 — the EXTRAPOLATE events of one record (`implied_x_events_partial`).
-/
namespace TD.C06

/-- the extrapolations `(frames, frame number)` of an event list, in order -/
def exts : List Ev → List (Nat × Option Nat)
  | [] => []
  | e :: es => if e.ty = .extrap then (e.siz, e.fr) :: exts es else exts es

theorem exts_append (a b : List Ev) : exts (a ++ b) = exts a ++ exts b := by
  induction a with
  | nil => rfl
  | cons e es ih => simp only [List.cons_append, exts]; split <;> simp [ih]

theorem exts_avoids (l : List Ev) (h : Avoids .extrap l) : exts l = [] := by
  induction l with
  | nil => rfl
  | cons e es ih =>
    have := h e (List.mem_cons_self ..)
    simp only [exts, this, if_false]
    exact ih (fun x hx => h x (List.mem_cons_of_mem _ hx))

/-- extrapolations of the frame loop: one of `step` frames for every frame after the first -/
theorem frameLoop_exts (p : Plan) (fevts : List Ev) (post inter : Option Ev) (stop step : Nat) (hstep : 0 < step)
    (hf : Avoids .extrap fevts) (hp : ∀ e ∈ post, e.ty ≠ .extrap) (hi : ∀ e ∈ inter, e.ty ≠ .extrap) :
    ∀ fuel f pend, f < stop → stop - f ≤ fuel →
      exts (frameLoop p fevts post inter stop step fuel f pend)
        = if p.indr > 0 then (rangeList (f + step) stop step).map (fun g => (step, some g)) else [] := by
  intro fuel f pend hlt hfu
  rw [frameLoop_eq p fevts post inter stop step hstep fuel f pend hlt hfu, exts_append,
    exts_avoids _ (emitFrame_avoids f fevts pend hf), rangeList_eq_ap, List.nil_append]
  generalize rangeLen (f + step) stop step = m
  clear hlt hfu
  induction m generalizing f with
  | zero => rw [loopTail, exts_avoids _ (evAt_avoids _ _ hp)]; split <;> rfl
  | succ m ih =>
    rw [loopTail, exts_append, exts_append, exts_append, exts_avoids _ (evAt_avoids _ _ hi),
      exts_avoids _ (withFr_avoids _ _ hf), ih, ap_succ]
    unfold extEv
    split <;> simp [exts]

theorem headEvs_exts (p : Plan) (pre : Option Ev) (a : Nat) (hi : p.indr > 0) (hpre : ∀ e ∈ pre, e.ty ≠ .extrap) :
    exts (headEvs p pre a).1 = if a > 0 then [(a, some a)] else [] := by
  unfold headEvs
  cases pre with
  | some pr => by_cases ha : a > 0 <;> simp [hi, ha, exts, hpre pr rfl]
  | none => by_cases ha : a > 0 <;> simp [hi, ha, exts]

end TD.C06
