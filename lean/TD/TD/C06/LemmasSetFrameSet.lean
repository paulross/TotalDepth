import TD.C06.LemmasExec

/-!
C06 — `setFrameSet` as a whole: the frame set the load leaves, with `frameRowRec` the row a requested frame must get.
-/
namespace TD.C06

theorem step1_pos (S : Sl) : 0 < S.step1 := by unfold Sl.step1; split <;> omega

theorem retFrameSetMap_groups (lp : LogPass) (S : Sl) (hR : IncTells (expand lp.rle)) (hb : S.stop ≤ rle01Total lp.rle) :
    retFrameSetMap lp S = .ok (groupsOf (expand lp.rle) S.start S.stop S.step1) := by
  have hloc : ∀ f ∈ rangeList S.start S.stop S.step1, rle01Tell lp.rle f = .ok ((locate (expand lp.rle) f).getD (0, 0)) := by
    intro f hf
    obtain ⟨q, hq⟩ := locate_lt (expand lp.rle) f (by rw [← expand_total]; have := (mem_rangeList _ _ _ f hf).2; omega)
    rw [rle01Tell_locate, hq]; rfl
  unfold retFrameSetMap
  rw [retFrameSetMapAux_fold lp.rle _ _ hloc]
  show Except.ok (sortByKey (groupsOf (expand lp.rle) S.start S.stop S.step1)) = _
  rw [sortByKey_sorted _ (groupsOf_spec (expand lp.rle) hR S.start S.stop S.step1 (step1_pos S)
    (by rw [← expand_total]; exact hb)).1.1]

theorem groupsOf_slice (rle : List Item01) (S : Sl) (hR : IncTells (expand rle)) (hstop : S.stop ≤ rle01Total rle) :
    Grouped S.step1 (groupsOf (expand rle) S.start S.stop S.step1) ∧
    flat (groupsOf (expand rle) S.start S.stop S.step1)
      = (rangeList S.start S.stop S.step1).map (fun f => (locate (expand rle) f).getD (0, 0)) ∧
    (∀ e ∈ (groupsOf (expand rle) S.start S.stop S.step1).tail, e.2.headD 0 < S.step1) :=
  groupsOf_spec (expand rle) hR S.start S.stop S.step1 (step1_pos S) (by rw [← expand_total]; exact hstop)

theorem groupsOf_entry (R : List (Int × Nat)) (hR : IncTells R) (a b c : Nat) (hc : 0 < c) (hb : b ≤ (R.map (·.2)).sum) :
    ∀ e ∈ groupsOf R a b c, ∃ a' len n, e.2 = ap a' c (len + 1) ∧ (e.1, n) ∈ R ∧ a' + len * c < n := by
  obtain ⟨hG, hflat, _⟩ := groupsOf_spec R hR a b c hc hb
  intro e he
  obtain ⟨a', len, hbuf⟩ := hG.2 e he
  have hm : (e.1, a' + len * c) ∈ flat (groupsOf R a b c) := by
    simp only [flat, List.mem_flatMap, List.mem_map]
    refine ⟨e, he, a' + len * c, ?_, rfl⟩
    rw [hbuf, ap]; simp only [List.mem_map, List.mem_range]; exact ⟨len, by omega, rfl⟩
  rw [hflat] at hm
  obtain ⟨f, hf, hlf⟩ := List.mem_map.1 hm
  obtain ⟨q, hq⟩ := locate_lt R f (by have := (mem_rangeList a b c f hf).2; omega)
  rw [hq] at hlf
  simp only [Option.getD_some] at hlf
  rw [hlf] at hq
  obtain ⟨n, hmem, hlt⟩ := locate_mem _ _ _ _ hq
  exact ⟨a', len, n, hbuf, hmem, hlt⟩

/-- `frameRowSel` for any plan: the frames of a record start behind its header and the indirect word of `p.indr` bytes -/
def frameRowRec (d : Dfsr) (p : Plan) (st : Store) (R : List (Int × Nat)) (cs : List Nat) (f : Nat) : List (Option Nat) :=
  match locate R f with
  | some (t, off) => rowOfRec d p cs (bytesOf st t.toNat) off
  | none => []

theorem frameRowRec_direct (d : Dfsr) (st : Store) (R : List (Int × Nat)) (cs : List Nat) :
    frameRowRec d ⟨0, d.chans.map Chan.size⟩ st R cs = frameRowSel d st R cs := by
  funext f
  unfold frameRowRec frameRowSel
  cases locate R f with
  | none => rfl
  | some q => exact congrFun (rowOfRec_direct d _ rfl cs _) q.2

/-- The load for either X mode. `xv0 n`, `fsp` are the X vector and spacing of the fresh frame set of `n` frames and `sp` the spacing when there is one:
`fun _ => []`, `none` for direct X (`sp` unused); `List.replicate n none`, `some sp` for indirect X. -/
theorem setFrameSet_load (d : Dfsr) (p : Plan) (rle : List Item01) (st : Store) (fsOld : Option FrameSet)
    (sl : Option Sl) (chList : Option (List Nat)) (c0 : Nat) (rest : List Nat) (sp : Int)
    (xv0 : Nat → List (Option Int)) (fsp : Option Int)
    (hps : p.sizes = d.chans.map Chan.size) (hok : d.sizesOk)
    (hltc : ∀ c ∈ c0 :: rest, c < d.chans.length) (hsorted : (c0 :: rest).Pairwise (· < ·))
    (hnew : ∀ S : Sl, FrameSet.new d S chList 0 = .ok ⟨c0 :: rest, rangeLen S.start S.stop S.step1,
      List.replicate (rangeLen S.start S.stop S.step1)
        (List.replicate (sumN ((selChans d (c0 :: rest)).map Chan.numValues)) none),
      xv0 (rangeLen S.start S.stop S.step1), fsp⟩)
    (hI : 0 < p.indr → IndCtx d p p.indr ∧ fsp = some sp ∧ ∀ n, (xv0 n).length = n)
    (hR : IncTells (expand rle))
    (hst : ∀ tn ∈ expand rle, ∃ bs, Store.find st tn.1.toNat = some bs ∧ bs.head? = some d.dataType ∧
      bs.length = 2 + p.indr + tn.2 * p.frameSize ∧
      (0 < p.indr → ∃ x, xDecode d.depthRc (beWord ((bs.drop 2).take p.indr)) = .ok x))
    (hlt : (slOrAll sl (rle01Total rle)).start < (slOrAll sl (rle01Total rle)).stop)
    (hstop : (slOrAll sl (rle01Total rle)).stop ≤ rle01Total rle) :
    ∃ ops, (setFrameSet ⟨d, p, 0, rle, fsOld⟩ st sl chList).2 = .ok ops ∧
      (setFrameSet ⟨d, p, 0, rle, fsOld⟩ st sl chList).1.frameSet = some ⟨c0 :: rest,
        rangeLen (slOrAll sl (rle01Total rle)).start (slOrAll sl (rle01Total rle)).stop (slOrAll sl (rle01Total rle)).step1,
        (rangeList (slOrAll sl (rle01Total rle)).start (slOrAll sl (rle01Total rle)).stop
          (slOrAll sl (rle01Total rle)).step1).map (frameRowRec d p st (expand rle) (c0 :: rest)),
        setVals (xv0 (rangeLen (slOrAll sl (rle01Total rle)).start (slOrAll sl (rle01Total rle)).stop
            (slOrAll sl (rle01Total rle)).step1)) 0
          (if 0 < p.indr then allXs sp (xrecOf d st p.indr) (slOrAll sl (rle01Total rle)).step1
            (groupsOf (expand rle) (slOrAll sl (rle01Total rle)).start (slOrAll sl (rle01Total rle)).stop
              (slOrAll sl (rle01Total rle)).step1) none else []),
        fsp⟩ := by
  generalize hS : slOrAll sl (rle01Total rle) = S at hlt hstop ⊢
  have hstep := step1_pos S
  have hn0 : rle01Total rle ≠ 0 := by omega
  have hb : S.stop ≤ ((expand rle).map (·.2)).sum := by rw [← expand_total]; exact hstop
  obtain ⟨hG, hflat, _⟩ := groupsOf_spec (expand rle) hR S.start S.stop S.step1 hstep hb
  have hmap := retFrameSetMap_groups ⟨d, p, 0, rle, fsOld⟩ S hR hstop
  have hent : ∀ e ∈ groupsOf (expand rle) S.start S.stop S.step1, EntryOk d p st S.step1 e := by
    intro e he
    obtain ⟨a', len, n, hbuf, hmem, hl⟩ := groupsOf_entry (expand rle) hR S.start S.stop S.step1 hstep hb e he
    obtain ⟨bs, h1, h2, h3, h4⟩ := hst _ hmem
    exact ⟨a', len, n, bs, hbuf, h1, h2, h3, hl, h4⟩
  generalize hGd : groupsOf (expand rle) S.start S.stop S.step1 = G at hG hflat hmap hent ⊢
  have hsum : (G.map (·.2.length)).sum = rangeLen S.start S.stop S.step1 := by
    rw [← flat_length, hflat, List.length_map]; simp [rangeList]
  obtain ⟨evs, r', hgen, hex, hfs⟩ := entries_exec d st S.step1 p sp c0 rest hps hok hstep hltc hsorted (fun hi => (hI hi).1) G 0
    ⟨none, 0, ⟨c0 :: rest, rangeLen S.start S.stop S.step1,
      List.replicate (rangeLen S.start S.stop S.step1)
        (List.replicate (sumN ((selChans d (c0 :: rest)).map Chan.numValues)) none),
      xv0 (rangeLen S.start S.stop S.step1), fsp⟩, []⟩ none hent rfl
    (by intro row hm; rw [List.eq_of_mem_replicate hm, List.length_replicate]) (by simp [hsum])
    (fun hi => ⟨by simp [(hI hi).2.2], (hI hi).2.1, Or.inl ⟨rfl, rfl⟩⟩)
  have hnF : rangeLen S.start S.stop S.step1 ≠ 0 := by
    have := rangeLen_lt S.start S.stop S.step1 hlt hstep; omega
  have hevs : genFrameSetEvents ⟨d, p, 0, rle, fsOld⟩ S (c0 :: rest) = .ok evs := by
    unfold genFrameSetEvents
    rw [hmap]; exact hgen
  unfold setFrameSet
  simp only [hn0, if_false, hS, hnew, hnF, hevs, hex]
  refine ⟨_, rfl, ?_⟩
  rw [hfs]
  simp only [Option.some.injEq, FrameSet.mk.injEq, true_and, and_true]
  have hrows := flat_rows (fun t off => rowOfRec d p (c0 :: rest) (bytesOf st t.toNat) off) G
  rw [hrows, hflat, setFrom_full _ _ (by simp [rangeList]), List.map_map]
  apply List.map_congr_left
  intro f hf
  obtain ⟨q, hq⟩ := locate_lt (expand rle) f (by have := (mem_rangeList _ _ _ f hf).2; omega)
  simp only [Function.comp, frameRowRec, hq, Option.getD_some]

end TD.C06
