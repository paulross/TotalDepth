import TD.C06.LemmasMulti

/-!
C06 — a channel selection: the row it gives a frame (`rowSel`, `frameRowSel`); every read event of a frame carries a run `(chFrom, chTo)` of selected channels and
`setFrameBytes` writes exactly the words of that run; the events of one frame, executed.
-/
namespace TD.C06

/-- the channel description of external channel `c` (a dummy for a non-existent channel) -/
def chanAt (d : Dfsr) (c : Nat) : Chan := (d.chans[c]?).getD ⟨0, 0, 0⟩

def selChans (d : Dfsr) (cs : List Nat) : List Chan := cs.map (chanAt d)

/-- words of channel `c` taken from the bytes `frame` of one frame -/
def chanRow (d : Dfsr) (p : Plan) (frame : List Nat) (c : Nat) : List Nat :=
  takeWords (chanAt d c).wordLen (chanAt d c).numValues (frame.drop (p.skipToChStart c))

/-- the words a frame contributes to the matrix when the channels `cs` are selected -/
def rowSel (d : Dfsr) (p : Plan) (cs : List Nat) (frame : List Nat) : List Nat := cs.flatMap (chanRow d p frame)

theorem takeWords_take (w k n : Nat) (l : List Nat) (h : k * w ≤ n) : takeWords w k (l.take n) = takeWords w k l := by
  induction k generalizing l n with
  | zero => simp [takeWords]
  | succ k ih =>
    have hw : w ≤ n := by rw [Nat.add_mul] at h; omega
    simp only [takeWords, List.take_take, Nat.min_eq_left hw]
    rw [List.drop_take, ih (n - w) (l.drop w) (by rw [Nat.add_mul] at h; omega)]

theorem takeWords_length' (w k : Nat) (bs : List Nat) : (takeWords w k bs).length = k := takeWords_length w k bs

/-- `chanWords` over a run of internal channels `ci, ci+1, …` whose external numbers are `run` -/
theorem chanWords_run (d : Dfsr) (fs : FrameSet) (hok : d.sizesOk) :
    ∀ (run : List Nat) (ci : Nat) (bs : List Nat), (∀ c ∈ run, c < d.chans.length) →
      (∀ j, j < run.length → fs.chIdx[ci + j]? = run[j]?) →
      sumN ((selChans d run).map Chan.size) ≤ bs.length →
      chanWords d fs run.length ci bs
        = .ok (rowWords (selChans d run) bs, sumN ((selChans d run).map Chan.size)) := by
  intro run
  induction run with
  | nil => intro ci bs _ _ _; simp [chanWords, selChans, rowWords, sumN]
  | cons c cs ih =>
    intro ci bs hlt hidx hlen
    have hc : c < d.chans.length := hlt c (List.mem_cons_self ..)
    have h0 : fs.chIdx[ci]? = some c := by simpa using hidx 0 (by simp)
    have hch : d.chans[c]? = some d.chans[c] := List.getElem?_eq_getElem hc
    have hat : chanAt d c = d.chans[c] := by simp [chanAt, hch]
    have hsz := hok d.chans[c] (List.getElem_mem hc)
    simp only [selChans, List.map_cons, sumN, hat] at hlen ⊢
    simp only [List.length_cons, chanWords, h0, hch]
    rw [← hsz]
    have hge : ¬ bs.length < d.chans[c].size := by omega
    simp only [hge, if_false]
    have := ih (ci + 1) (bs.drop d.chans[c].size) (fun x hx => hlt x (List.mem_cons_of_mem _ hx))
      (fun j hj => by have := hidx (j + 1) (by simp; omega); simpa [Nat.add_assoc, Nat.add_comm 1 j] using this)
      (by rw [List.length_drop]; simp only [selChans] ; omega)
    simp only [selChans] at this
    rw [this]
    simp [rowWords]

theorem listIndexOf_append (D : List Nat) (x : Nat) (tl : List Nat) (hD : ∀ y ∈ D, y ≠ x) :
    listIndexOf (D ++ x :: tl) x = some D.length := by
  induction D with
  | nil => simp [listIndexOf]
  | cons y ys ih =>
    have h1 : y ≠ x := hD y (List.mem_cons_self ..)
    simp only [List.cons_append, listIndexOf, h1, if_false, List.length_cons]
    rw [ih (fun z hz => hD z (List.mem_cons_of_mem _ hz))]; rfl

theorem chanAt_nv (d : Dfsr) (e : Nat) : ((d.chans[e]?).map Chan.numValues).getD 0 = (chanAt d e).numValues := by
  unfold chanAt
  cases d.chans[e]? with
  | none => simp [Chan.numValues]
  | some c => simp

theorem valIdx_prefix (d : Dfsr) (fs : FrameSet) (D tl : List Nat) (h : fs.chIdx = D ++ tl) :
    FrameSet.valIdx d fs D.length = sumN ((selChans d D).map Chan.numValues) := by
  unfold FrameSet.valIdx
  rw [h, List.take_left']
  · simp only [selChans, List.map_map]
    congr 1
    apply List.map_congr_left
    intro e _; exact chanAt_nv d e
  · rfl

/-- **`setFrameBytes` of one run**: the bytes of the consecutive channels `a, …, a + m - 1` (all selected, standing behind
the selected channels `D` in the frame set) are written as their words right behind the words of `D`. -/
theorem setFrameBytes_run (d : Dfsr) (fs : FrameSet) (by_ : List Nat) (fr a m : Nat) (D rest : List Nat)
    (row : List (Option Nat)) (hm : 0 < m)
    (hch : fs.chIdx = D ++ List.range' a m ++ rest) (hD : ∀ x ∈ D, x ≠ a)
    (hlt : ∀ c ∈ List.range' a m, c < d.chans.length) (hok : d.sizesOk)
    (hlen : by_.length = sumN ((selChans d (List.range' a m)).map Chan.size))
    (hrow : fs.frames[fr]? = some row)
    (hrl : sumN ((selChans d D).map Chan.numValues) + sumN ((selChans d (List.range' a m)).map Chan.numValues) ≤ row.length) :
    FrameSet.setFrameBytes d fs by_ fr (some a) (some (a + m - 1))
      = .ok { fs with frames := fs.frames.set fr (writeAt row (sumN ((selChans d D).map Chan.numValues))
                (rowWords (selChans d (List.range' a m)) by_)) } := by
  have hmm : a + m - 1 + 1 - a = m := by omega
  have hidx : listIndexOf fs.chIdx a = some D.length := by
    obtain ⟨k, rfl⟩ : ∃ k, m = k + 1 := ⟨m - 1, by omega⟩
    rw [hch, List.range'_succ, List.append_assoc, List.cons_append]; exact listIndexOf_append D a _ hD
  have hcw := chanWords_run d fs hok (List.range' a m) D.length by_ hlt
    (by intro j hj; rw [hch, List.append_assoc, List.getElem?_append_right (by omega)]
        simp only [Nat.add_sub_cancel_left]; rw [List.getElem?_append_left hj])
    (by omega)
  simp only [List.length_range'] at hcw
  unfold FrameSet.setFrameBytes
  simp only [hidx, List.drop_zero, hmm, hcw, Nat.zero_add, hlen, ne_eq, not_true_eq_false, if_false, hrow]
  rw [valIdx_prefix d fs D _ (by rw [hch, List.append_assoc])]
  have hwl := rowWords_length (selChans d (List.range' a m)) by_
  have : ¬ (sumN ((selChans d D).map Chan.numValues) + (rowWords (selChans d (List.range' a m)) by_).length > row.length) := by
    rw [hwl]; omega
  simp only [this, if_false]

theorem chSize_eq (d : Dfsr) (p : Plan) (hp : p.sizes = d.chans.map Chan.size) (c : Nat) (hc : c < d.chans.length) :
    p.chSize c = (chanAt d c).size := by
  unfold Plan.chSize chanAt
  rw [hp, List.getD_eq_getElem?_getD, List.getElem?_map, List.getElem?_eq_getElem hc]
  rfl

theorem run_sizes (d : Dfsr) (p : Plan) (hp : p.sizes = d.chans.map Chan.size) (a m : Nat) (h : a + m ≤ d.chans.length) :
    sumN ((selChans d (List.range' a m)).map Chan.size) + p.skipToChStart a = p.skipToChStart (a + m) := by
  induction m generalizing a with
  | zero => simp [selChans, sumN]
  | succ m ih =>
    have := ih (a + 1) (by omega)
    simp only [List.range'_succ, selChans, List.map_cons, sumN] at this ⊢
    rw [skip_succ, chSize_eq d p hp a (by omega)] at this
    rw [show a + (m + 1) = a + 1 + m by omega]
    omega

/-- the words of a run read in one piece are the words of its channels taken from the frame -/
theorem runWords_eq (d : Dfsr) (p : Plan) (hp : p.sizes = d.chans.map Chan.size) (hok : d.sizesOk) (F : List Nat) :
    ∀ (m a : Nat), a + m ≤ d.chans.length →
      rowWords (selChans d (List.range' a m)) ((F.drop (p.skipToChStart a)).take (p.skipToChStart (a + m) - p.skipToChStart a))
        = (List.range' a m).flatMap (chanRow d p F) := by
  intro m
  induction m with
  | zero => intro a _; simp [selChans, rowWords]
  | succ m ih =>
    intro a h
    have ha : a < d.chans.length := by omega
    have hsz : (chanAt d a).size = (chanAt d a).numValues * (chanAt d a).wordLen := by
      have : chanAt d a = d.chans[a] := by simp [chanAt, List.getElem?_eq_getElem ha]
      rw [this]; exact hok _ (List.getElem_mem ha)
    have hs1 := skip_succ p a
    rw [chSize_eq d p hp a ha] at hs1
    have hmono := skip_mono p (a + 1) (a + 1 + m) (by omega)
    have hidx : a + (m + 1) = a + 1 + m := by omega
    simp only [List.range'_succ, selChans, List.map_cons, rowWords, List.flatMap_cons]
    congr 1
    · unfold chanRow
      apply takeWords_take
      rw [hidx]; omega
    · have := ih (a + 1) (by omega)
      simp only [selChans] at this
      rw [← this, List.drop_take, List.drop_drop, hidx]
      congr 2
      · omega
      · rw [hs1]

/-! ### executing the events of one frame -/

/-- a matrix row whose first `ws.length` cells hold the words `ws` -/
def filled (row0 : List (Option Nat)) (ws : List Nat) : List (Option Nat) := ws.map some ++ row0.drop ws.length

theorem filled_length (row0 : List (Option Nat)) (ws : List Nat) (h : ws.length ≤ row0.length) :
    (filled row0 ws).length = row0.length := by simp [filled]; omega

theorem writeAt_filled (row0 : List (Option Nat)) (ws ws2 : List Nat) :
    writeAt (filled row0 ws) ws.length ws2 = filled row0 (ws ++ ws2) := by
  unfold writeAt filled
  rw [List.take_left' (by simp), List.drop_append, List.drop_eq_nil_of_le (by simp)]
  simp [List.drop_drop, List.append_assoc]

/-- state after an event, given by properties (the operation log is left open) -/
def StateIs (r : Run) (cur : Option (Nat × List Nat)) (ofs : Nat) (fs : FrameSet) : Prop :=
  r.cur = cur ∧ r.ofs = ofs ∧ r.fs = fs

theorem step_seek (d : Dfsr) (st : Store) (r : Run) (t : Nat) (bs : List Nat)
    (hfind : Store.find st t = some bs) (hhead : bs.head? = some d.dataType) (hlen : 2 ≤ bs.length) :
    ∃ r0, execEv d st r ⟨.seekLr, t, none, none, none⟩ = .ok r0 ∧ StateIs r0 (some (t, bs)) 2 r.fs := by
  unfold execEv Run.read
  simp only [hfind]
  have h1 : ¬ (0 + 2 > bs.length) := by omega
  simp only [h1, if_false, List.drop_zero]
  have hh : (bs.take 2).head? = some d.dataType := by
    cases bs with
    | nil => simp at hlen
    | cons x xs => simpa using hhead
  simp only [hh, ne_eq, not_true_eq_false, if_false]
  exact ⟨_, rfl, rfl, rfl, rfl⟩

theorem exec_read (d : Dfsr) (st : Store) (r : Run) (t : Nat) (bs : List Nat) (siz fr : Nat) (cf ct : Option Nat)
    (fs' : FrameSet) (hcur : r.cur = some (t, bs)) (hlen : r.ofs + siz ≤ bs.length)
    (hset : FrameSet.setFrameBytes d r.fs ((bs.drop r.ofs).take siz) fr cf ct = .ok fs') :
    ∃ ops, execEv d st r ⟨.read, siz, some fr, cf, ct⟩ = .ok ⟨r.cur, r.ofs + siz, fs', ops⟩ := by
  unfold execEv Run.read
  simp only [hcur]
  have h1 : ¬ (r.ofs + siz > bs.length) := by omega
  simp only [h1, if_false, hset]
  exact ⟨_, rfl⟩

theorem skip_le_frame (p : Plan) (c : Nat) : p.skipToChStart c ≤ p.frameSize := sumN_take_le _ _

theorem sumN_append (a b : List Nat) : sumN (a ++ b) = sumN a + sumN b := by
  induction a with
  | nil => simp [sumN]
  | cons x xs ih => simp [sumN, ih]; omega

theorem rowSel_length (d : Dfsr) (p : Plan) (cs : List Nat) (F : List Nat) :
    (rowSel d p cs F).length = sumN ((selChans d cs).map Chan.numValues) := by
  induction cs with
  | nil => simp [rowSel, selChans, sumN]
  | cons c cs ih =>
    simp only [rowSel, List.flatMap_cons, List.length_append, selChans, List.map_cons, sumN] at ih ⊢
    rw [ih]; simp [chanRow, takeWords_length]

theorem rowSel_append (d : Dfsr) (p : Plan) (a b : List Nat) (F : List Nat) :
    rowSel d p (a ++ b) F = rowSel d p a F ++ rowSel d p b F := by simp [rowSel]

/-- the fixed context of executing one frame's events: record `bs` at `t`, frame bytes start at `fb`, matrix row `fr` -/
structure FrameCtx (d : Dfsr) (p : Plan) (r0 : Run) (t : Nat) (bs : List Nat) (fb fr : Nat) (cs : List Nat)
    (row0 : List (Option Nat)) : Prop where
  hp : p.sizes = d.chans.map Chan.size
  hok : d.sizesOk
  hcur : r0.cur = some (t, bs)
  hfb : fb + p.frameSize ≤ bs.length
  hch : r0.fs.chIdx = cs
  hlt : ∀ c ∈ cs, c < d.chans.length
  hrow : r0.fs.frames[fr]? = some row0
  hrl : row0.length = sumN ((selChans d cs).map Chan.numValues)

/-- the words of the selected channels `D` are in the row; the file stands at the start of channel `ch` -/
def AtCh (d : Dfsr) (p : Plan) (r0 : Run) (bs : List Nat) (fb fr : Nat) (row0 : List (Option Nat))
    (D : List Nat) (ch : Nat) (ra : Run) : Prop :=
  ra.cur = r0.cur ∧ ra.ofs = fb + p.skipToChStart ch ∧
    ra.fs = { r0.fs with frames := r0.fs.frames.set fr (filled row0 (rowSel d p D (bs.drop fb))) }

theorem selChans_append (d : Dfsr) (a b : List Nat) : selChans d (a ++ b) = selChans d a ++ selChans d b := by
  simp [selChans]

/-- reading the pending run `a .. a+m-1` -/
theorem flush_run (d : Dfsr) (p : Plan) (st : Store) (r0 : Run) (t : Nat) (bs : List Nat) (fb fr : Nat) (cs : List Nat)
    (row0 : List (Option Nat)) (hc : FrameCtx d p r0 t bs fb fr cs row0)
    (D rem : List Nat) (a m : Nat) (hm : 0 < m) (hcs : cs = D ++ List.range' a m ++ rem) (hD : ∀ x ∈ D, x < a)
    (ra : Run) (hra : AtCh d p r0 bs fb fr row0 D a ra) :
    ∃ ra2, execEv d st ra ⟨.read, p.skipToChStart (a + m) - p.skipToChStart a, some fr, some a, some (a + m - 1)⟩ = .ok ra2 ∧
      AtCh d p r0 bs fb fr row0 (D ++ List.range' a m) (a + m) ra2 := by
  obtain ⟨h1, h2, h3⟩ := hra
  have hlast : a + m - 1 < d.chans.length := by
    apply hc.hlt; rw [hcs]; simp only [List.mem_append, List.mem_range'_1]; left; right; omega
  have ham : a + m ≤ d.chans.length := by omega
  have hsz := run_sizes d p hc.hp a m ham
  have hmono := skip_mono p a (a + m) (by omega)
  have hle := skip_le_frame p (a + m)
  have hfbl := hc.hfb
  have hnv : sumN ((selChans d cs).map Chan.numValues)
      = sumN ((selChans d D).map Chan.numValues) + sumN ((selChans d (List.range' a m)).map Chan.numValues)
        + sumN ((selChans d rem).map Chan.numValues) := by
    rw [hcs, selChans_append, selChans_append, List.map_append, List.map_append, sumN_append, sumN_append]
  have hDlen := rowSel_length d p D (bs.drop fb)
  have hrowra : ra.fs.frames[fr]? = some (filled row0 (rowSel d p D (bs.drop fb))) := by
    rw [h3]; simp only
    have hlt : fr < r0.fs.frames.length := by
      rcases Nat.lt_or_ge fr r0.fs.frames.length with h | h
      · exact h
      · have := hc.hrow; rw [List.getElem?_eq_none h] at this; cases this
    simp [hlt]
  have hby : ((bs.drop ra.ofs).take (p.skipToChStart (a + m) - p.skipToChStart a)).length
      = sumN ((selChans d (List.range' a m)).map Chan.size) := by
    rw [List.length_take, List.length_drop, h2]; clear * - hsz hmono hle hfbl; omega
  have hset := setFrameBytes_run d ra.fs ((bs.drop ra.ofs).take (p.skipToChStart (a + m) - p.skipToChStart a)) fr a m
    D rem (filled row0 (rowSel d p D (bs.drop fb))) hm
    (by rw [h3]; simp only; rw [hc.hch, hcs])
    (fun x hx => by have := hD x hx; omega)
    (by intro c hc'; apply hc.hlt; rw [hcs]; simp only [List.mem_append]; left; right; exact hc')
    hc.hok hby hrowra
    (by rw [filled_length _ _ (by rw [hDlen, hc.hrl, hnv]; omega), hc.hrl, hnv]; omega)
  obtain ⟨ops, hex⟩ := exec_read d st ra t bs _ fr (some a) (some (a + m - 1)) _ (by rw [h1]; exact hc.hcur) (by rw [h2]; clear * - hmono hle hfbl; omega) hset
  refine ⟨_, hex, ?_, ?_, ?_⟩
  · exact h1
  · simp only [h2]; omega
  · simp only [h3, List.set_set]
    congr 2
    rw [← hDlen, h2, ← List.drop_drop, runWords_eq d p hc.hp hc.hok (bs.drop fb) m a ham,
      writeAt_filled _ _ _]
    rw [rowSel_append]; rfl

theorem exec_skip (d : Dfsr) (st : Store) (r : Run) (t : Nat) (bs : List Nat) (siz : Nat) (fr cf ct : Option Nat)
    (hcur : r.cur = some (t, bs)) (hlen : r.ofs + siz ≤ bs.length) :
    ∃ ops, execEv d st r ⟨.skip, siz, fr, cf, ct⟩ = .ok ⟨r.cur, r.ofs + siz, r.fs, ops⟩ := by
  unfold execEv
  simp only [hcur]
  exact ⟨_, by rw [Nat.min_eq_right hlen]⟩

theorem runEvs_exec (d : Dfsr) (p : Plan) (st : Store) (r0 : Run) (t : Nat) (bs : List Nat) (fb fr : Nat)
    (cs : List Nat) (row0 : List (Option Nat)) (hc : FrameCtx d p r0 t bs fb fr cs row0) (hsorted : cs.Pairwise (· < ·)) :
    ∀ (R : List (Nat × Nat)) (r : Nat × Nat) (D : List Nat) (ra : Run),
      cs = D ++ (r :: R).flatMap (fun r => List.range' r.1 r.2) → RunsOk (r :: R) →
      AtCh d p r0 bs fb fr row0 D r.1 ra →
      ∃ ra', execEvs d st (withFr fr (runEvs p (r :: R))) ra = .ok ra' ∧
        AtCh d p r0 bs fb fr row0 cs (runsEnd (r :: R) 0) ra' := by
  have hD : ∀ (D : List Nat) (a m : Nat) (rem : List Nat), cs = D ++ List.range' a m ++ rem → 0 < m → ∀ x ∈ D, x < a := by
    intro D a m rem hcs hm x hx
    rw [hcs, List.append_assoc] at hsorted
    exact (List.pairwise_append.1 hsorted).2.2 x hx a (List.mem_append_left _ (by simp [List.mem_range'_1]; omega))
  intro R
  induction R with
  | nil =>
    intro r D ra hcs hok hat
    have hcs' : cs = D ++ List.range' r.1 r.2 ++ [] := by simpa using hcs
    obtain ⟨ra2, hex, hat2⟩ := flush_run d p st r0 t bs fb fr cs row0 hc D [] r.1 r.2 hok hcs' (hD _ _ _ _ hcs' hok) ra hat
    refine ⟨ra2, by simp only [runEvs, readRun, withFr, List.map_cons, List.map_nil, execEvs, hex], ?_⟩
    rw [hcs']; simpa [runsEnd] using hat2
  | cons s R ih =>
    intro r D ra hcs hok hat
    obtain ⟨hm, hlt, hok'⟩ := hok
    have hcs' : cs = D ++ List.range' r.1 r.2 ++ (s :: R).flatMap (fun r => List.range' r.1 r.2) := by
      rw [hcs, List.flatMap_cons, List.append_assoc]
    obtain ⟨ra2, hex, h1, h2, h3⟩ := flush_run d p st r0 t bs fb fr cs row0 hc D _ r.1 r.2 hm hcs' (hD _ _ _ _ hcs' hm) ra hat
    have hmono := skip_mono p (r.1 + r.2) s.1 (by omega)
    have hle := skip_le_frame p s.1
    have hfb := hc.hfb
    obtain ⟨ops, hsk⟩ := exec_skip d st ra2 t bs (p.skipToChStart s.1 - p.skipToChStart (r.1 + r.2)) (some fr)
      (some (r.1 + r.2)) (some (s.1 - 1)) (by rw [h1]; exact hc.hcur) (by rw [h2]; omega)
    obtain ⟨ra', hex', hat'⟩ := ih s (D ++ List.range' r.1 r.2) ⟨ra2.cur, ra2.ofs + (p.skipToChStart s.1 - p.skipToChStart (r.1 + r.2)), ra2.fs, ops⟩ hcs' hok'
      ⟨h1, by simp only [h2]; omega, h3⟩
    exact ⟨ra', by simp only [runEvs, readRun, withFr, List.map_cons, execEvs, hex, hsk]; exact hex', hat'⟩

theorem filled_full (row0 : List (Option Nat)) (ws : List Nat) (h : ws.length = row0.length) :
    filled row0 ws = ws.map some := by
  unfold filled; rw [h, List.drop_length, List.append_nil]

/-- **The events of one frame, executed** (any non-empty sorted channel list `cs = chIdx`): started at the first
selected channel of the frame whose bytes begin at `fb`, they replace row `fr` by the words of the selected channels and
leave the file behind the last selected channel. -/
theorem frameEvents_exec (d : Dfsr) (p : Plan) (st : Store) (r0 : Run) (t : Nat) (bs : List Nat) (fb fr : Nat)
    (c0 : Nat) (rest : List Nat) (row0 : List (Option Nat)) (hc : FrameCtx d p r0 t bs fb fr (c0 :: rest) row0)
    (hsorted : (c0 :: rest).Pairwise (· < ·)) (hofs : r0.ofs = fb + p.skipToChStart c0)
    (pre post : Option Ev) (fevts : List Ev) (hret : retFrameEvents p (c0 :: rest) = (pre, fevts, post)) :
    ∃ r', execEvs d st (withFr fr fevts) r0 = .ok r' ∧ r'.cur = r0.cur ∧
      r'.ofs = fb + p.skipToChStart (lastP1 rest (c0 + 1)) ∧
      r'.fs = { r0.fs with frames := r0.fs.frames.set fr ((rowSel d p (c0 :: rest) (bs.drop fb)).map some) } := by
  rw [retFrameEvents_eq] at hret
  have hp := List.pairwise_cons.1 hsorted
  have hok := runsAux_ok c0 1 rest (by omega) (fun c hc => hp.1 c hc) hp.2
  obtain ⟨k, R, hk⟩ := runsAux_head c0 1 rest
  have hat0 : AtCh d p r0 bs fb fr row0 [] c0 r0 := by
    refine ⟨rfl, hofs, ?_⟩
    have hlt : fr < r0.fs.frames.length := by
      rcases Nat.lt_or_ge fr r0.fs.frames.length with h | h
      · exact h
      · have := hc.hrow; rw [List.getElem?_eq_none h] at this; cases this
    have hget : r0.fs.frames[fr] = row0 := by
      have := hc.hrow; rw [List.getElem?_eq_getElem hlt] at this; exact Option.some.inj this
    simp only [rowSel, List.flatMap_nil, filled, List.map_nil, List.length_nil, List.drop_zero, List.nil_append]
    rw [← hget, List.set_getElem_self]
  obtain ⟨ra', hex, h1, h2, h3⟩ := runEvs_exec d p st r0 t bs fb fr (c0 :: rest) row0 hc hsorted R (c0, k) [] r0
    (by rw [← hk, runsAux_flat]; simp [List.range'_succ]) (hk ▸ hok) hat0
  rw [← hk, runsAux_end] at h2
  refine ⟨ra', by rw [← (Prod.mk.inj (Prod.mk.inj hret).2).1, hk]; exact hex, h1, h2, ?_⟩
  rw [h3, filled_full]
  rw [rowSel_length, hc.hrl]

/-! ### rows and channels of a direct-X frame set -/

/-- the row of the frame at offset `g` of record `bs` for the selected channels `cs` (no indirect word) -/
def rowOfSel (d : Dfsr) (p : Plan) (cs : List Nat) (bs : List Nat) (g : Nat) : List (Option Nat) :=
  (rowSel d p cs (bs.drop (2 + g * p.frameSize))).map some

theorem rowOfSel_length (d : Dfsr) (p : Plan) (cs : List Nat) (bs : List Nat) (g : Nat) :
    (rowOfSel d p cs bs g).length = sumN ((selChans d cs).map Chan.numValues) := by
  simp [rowOfSel, rowSel_length]

/-- the channels of the frame set (`_chIdxIntExt`) for a direct-X log pass whose X channel is channel 0 -/
def selIdx (d : Dfsr) (chList : Option (List Nat)) : List Nat :=
  match chList with
  | none => List.range d.chans.length
  | some l => sortDedup (l ++ [0])

theorem selIdx_props (d : Dfsr) (chList : Option (List Nat)) (hn : 0 < d.chans.length)
    (hcl : ∀ l, chList = some l → ∀ c ∈ l, c < d.chans.length) :
    (selIdx d chList).Pairwise (· < ·) ∧ (∀ c ∈ selIdx d chList, c < d.chans.length) ∧ selIdx d chList ≠ [] := by
  cases chList with
  | none =>
    refine ⟨List.pairwise_lt_range, by intro c hc; simpa [selIdx] using hc, ?_⟩
    intro h
    have : (selIdx d none).length = d.chans.length := by simp [selIdx]
    rw [h] at this; simp at this; omega
  | some l =>
    refine ⟨sortDedup_sorted _, ?_, ?_⟩
    · intro c hc
      have := (sortDedup_mem (l ++ [0]) c).1 hc
      rcases List.mem_append.1 this with h | h
      · exact hcl l rfl c h
      · simp at h; omega
    · intro h
      have : 0 ∈ sortDedup (l ++ [0]) := (sortDedup_mem _ 0).2 (by simp)
      simp only [selIdx] at h
      rw [h] at this; simp at this

theorem new_direct (d : Dfsr) (S : Sl) (chList : Option (List Nat)) (hrm : d.recMode = 0)
    (hlt : ∀ c ∈ selIdx d chList, c < d.chans.length) :
    FrameSet.new d S chList 0 = .ok ⟨selIdx d chList, rangeLen S.start S.stop S.step1,
      List.replicate (rangeLen S.start S.stop S.step1)
        (List.replicate (sumN ((selChans d (selIdx d chList)).map Chan.numValues)) none), [], none⟩ := by
  have hvpf : ∀ cs : List Nat, sumN (cs.map (fun e => ((d.chans[e]?).map Chan.numValues).getD 0))
      = sumN ((selChans d cs).map Chan.numValues) := by
    intro cs; simp only [selChans, List.map_map]; congr 1
    apply List.map_congr_left; intro e _; exact chanAt_nv d e
  have hany : (selIdx d chList).any (fun e => decide (e ≥ d.chans.length)) = false := by
    rw [List.any_eq_false]; intro e he; have := hlt e he; simp; omega
  unfold FrameSet.new
  cases chList with
  | none =>
    simp only [selIdx] at hany ⊢
    simp only [hrm, hany]
    simp [hvpf]
  | some l =>
    simp only [selIdx] at hany ⊢
    simp only [hrm]
    simp [hany, hvpf]

/-- the row the matrix must hold for frame `f` (direct X): the selected channels, from the record that `locate` finds -/
def frameRowSel (d : Dfsr) (st : Store) (R : List (Int × Nat)) (cs : List Nat) (f : Nat) : List (Option Nat) :=
  match locate R f with
  | some (t, off) => rowOfSel d ⟨0, d.chans.map Chan.size⟩ cs (bytesOf st t.toNat) off
  | none => []

theorem selChans_range (d : Dfsr) : selChans d (List.range' 0 d.chans.length) = d.chans := by
  apply List.ext_getElem
  · simp [selChans]
  · intro i h1 h2
    simp [selChans, chanAt, List.getElem?_eq_getElem h2]

theorem rowOfSel_all (d : Dfsr) (p : Plan) (hp : p.sizes = d.chans.map Chan.size) (hok : d.sizesOk) (bs : List Nat) (g : Nat) :
    rowOfSel d p (List.range d.chans.length) bs g = rowOf d bs g := by
  have hfs : p.frameSize = sumN (d.chans.map Chan.size) := by rw [Plan.frameSize, hp]
  have hall : p.skipToChStart (0 + d.chans.length) = p.frameSize := by
    rw [← skipToChStart_all p, Plan.numChannels, hp]; simp
  have := runWords_eq d p hp hok (bs.drop (2 + g * p.frameSize)) d.chans.length 0 (by omega)
  rw [selChans_range, skip_zero, hall, List.drop_zero, Nat.sub_zero] at this
  rw [rowOfSel, rowSel, List.range_eq_range', ← this, rowOf, hfs]

theorem frameRowSel_all (d : Dfsr) (hok : d.sizesOk) (st : Store) (R : List (Int × Nat)) :
    frameRowSel d st R (List.range d.chans.length) = frameRow d st R := by
  funext f
  unfold frameRowSel frameRow
  cases locate R f with
  | none => rfl
  | some q => exact rowOfSel_all d _ rfl hok _ _

end TD.C06
