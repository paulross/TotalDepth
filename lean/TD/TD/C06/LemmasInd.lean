import TD.C06.LemmasSel

/-!
C06 — indirect (implied) X: the X events of the interpreter, the values they give the frames of one record (`entryXs`)
and of a whole load (`allXs`), and where those are the true X (`badList`).
-/
namespace TD.C06

/-- what is needed of the DFSR for an indirect X axis: recording mode 1, an X word of `w > 0` bytes -/
structure IndCtx (d : Dfsr) (p : Plan) (w : Nat) : Prop where
  hrm : d.recMode = 1
  hw : lisSize d.depthRc = some w
  hwpos : 0 < w
  hp : p = ⟨w, d.chans.map Chan.size⟩
  hok : d.sizesOk

/-- the indirect X word alone -/
theorem setFrameBytes_indr (d : Dfsr) (p : Plan) (w : Nat) (hi : IndCtx d p w) (fs : FrameSet) (by_ : List Nat) (fr : Nat)
    (x : Int) (hlen : by_.length = w) (hx : xDecode d.depthRc (beWord by_) = .ok x) (hfr : fr < fs.xvec.length) :
    FrameSet.setFrameBytes d fs by_ fr none none = .ok { fs with xvec := fs.xvec.set fr (some x) } := by
  unfold FrameSet.setFrameBytes
  have h1 : ¬ d.recMode ≠ 1 := by simp [hi.hrm]
  have h2 : ¬ by_.length < w := by omega
  have h3 : by_.take w = by_ := by rw [← hlen, List.take_length]
  simp only [h1, if_false, hi.hw, h3, hx, hfr, if_true, hlen, ne_eq, not_true_eq_false, Nat.lt_irrefl]

/-- the indirect X word merged with the first run of channels -/
theorem setFrameBytes_merged (d : Dfsr) (p : Plan) (w : Nat) (hi : IndCtx d p w) (fs fs2 : FrameSet) (by_ : List Nat)
    (fr ct : Nat) (x : Int) (hlen : w ≤ by_.length) (hx : xDecode d.depthRc (beWord (by_.take w)) = .ok x)
    (hfr : fr < fs.xvec.length)
    (h2 : FrameSet.setFrameBytes d { fs with xvec := fs.xvec.set fr (some x) } (by_.drop w) fr (some 0) (some ct) = .ok fs2) :
    FrameSet.setFrameBytes d fs by_ fr none (some ct) = .ok fs2 := by
  unfold FrameSet.setFrameBytes at h2 ⊢
  have h1 : ¬ d.recMode ≠ 1 := by simp [hi.hrm]
  have hl : ¬ by_.length < w := by omega
  simp only [h1, if_false, hi.hw, hl, hx, hfr, if_true]
  simp only [List.drop_zero, Nat.zero_add, List.length_drop] at h2
  split at h2
  · cases h2
  · rename_i ci hci
    split at h2
    · cases h2
    · rename_i ws used hcw
      by_cases hu : used = by_.length - w
      · have : ¬ (w + used ≠ by_.length) := by omega
        simp only [hu, ne_eq, not_true_eq_false, if_false] at h2
        simp only [this, if_false]
        exact h2
      · simp only [hu, ne_eq, not_false_eq_true, if_true] at h2
        cases h2

/-! ### the interpreter does not look at the operation log -/

/-- same state up to the operation log -/
def SameRun (r1 r2 : Run) : Prop := r1.cur = r2.cur ∧ r1.ofs = r2.ofs ∧ r1.fs = r2.fs

theorem SameRun.refl (r : Run) : SameRun r r := ⟨rfl, rfl, rfl⟩

theorem execEv_same (d : Dfsr) (st : Store) (e : Ev) (r1 r2 r1' : Run) (hs : SameRun r1 r2)
    (h : execEv d st r1 e = .ok r1') : ∃ r2', execEv d st r2 e = .ok r2' ∧ SameRun r1' r2' := by
  obtain ⟨c1, o1, f1, ops1⟩ := r1
  obtain ⟨c2, o2, f2, ops2⟩ := r2
  obtain ⟨hc, ho, hf⟩ := hs
  simp only at hc ho hf
  subst hc ho hf
  unfold execEv Run.read at h ⊢
  cases hty : e.ty <;> simp only [hty] at h ⊢
  · -- read
    cases c1 with
    | none => simp at h
    | some tb =>
      obtain ⟨t, bs⟩ := tb
      by_cases hlen : o1 + e.siz > bs.length
      · simp [hlen] at h
      · simp only [hlen, if_false] at h ⊢
        cases hfr : e.fr with
        | none => simp [hfr] at h
        | some fr =>
          simp only [hfr] at h ⊢
          cases hsb : FrameSet.setFrameBytes d f1 (List.take e.siz (List.drop o1 bs)) fr e.cf e.ct with
          | error err => simp [hsb] at h
          | ok fs' => simp only [hsb] at h ⊢; cases h; exact ⟨_, rfl, rfl, rfl, rfl⟩
  · -- skip
    cases c1 with
    | none => simp at h
    | some tb => cases h; exact ⟨_, rfl, rfl, rfl, rfl⟩
  · -- extrap
    cases hfr : e.fr with
    | none => simp [hfr] at h
    | some frInt =>
      simp only [hfr] at h ⊢
      cases hx : f1.xvec[if frInt = 0 then 0 else frInt - 1]? with
      | none => simp [hx] at h
      | some ox =>
        cases ox with
        | none => cases hsp : f1.frameSpacing <;> simp [hx, hsp] at h
        | some x =>
          cases hsp : f1.frameSpacing with
          | none => simp [hx, hsp] at h
          | some sp =>
            simp only [hx, hsp] at h ⊢
            by_cases hl : frInt < f1.xvec.length
            · simp only [hl, if_true] at h ⊢; cases h; exact ⟨_, rfl, rfl, rfl, rfl⟩
            · simp [hl] at h
  · -- seekLr
    cases hfind : Store.find st e.siz with
    | none => simp [hfind] at h
    | some bs =>
      simp only [hfind] at h ⊢
      by_cases hlen : 0 + 2 > bs.length
      · simp [hlen] at h
      · simp only [hlen, if_false] at h ⊢
        by_cases hd : (List.take 2 (List.drop 0 bs)).head? ≠ some d.dataType
        · rw [if_pos hd] at h; cases h
        · rw [if_neg hd] at h ⊢; cases h; exact ⟨_, rfl, rfl, rfl, rfl⟩

theorem execEvs_same (d : Dfsr) (st : Store) (evs : List Ev) :
    ∀ (r1 r2 r1' : Run), SameRun r1 r2 → execEvs d st evs r1 = .ok r1' →
      ∃ r2', execEvs d st evs r2 = .ok r2' ∧ SameRun r1' r2' := by
  induction evs with
  | nil => intro r1 r2 r1' hs h; simp only [execEvs] at h ⊢; cases h; exact ⟨r2, rfl, hs⟩
  | cons e es ih =>
    intro r1 r2 r1' hs h
    simp only [execEvs] at h ⊢
    split at h
    · cases h
    · rename_i ra hra
      obtain ⟨rb, hrb, hsb⟩ := execEv_same d st e r1 r2 ra hs hra
      rw [hrb]
      exact ih ra rb r1' hsb h

/-! ### single X events -/

theorem exec_extrap (d : Dfsr) (st : Store) (r : Run) (n fr : Nat) (cf ct : Option Nat) (x sp : Int)
    (hx : r.fs.xvec[if fr = 0 then 0 else fr - 1]? = some (some x)) (hsp : r.fs.frameSpacing = some sp)
    (hfr : fr < r.fs.xvec.length) :
    execEv d st r ⟨.extrap, n, some fr, cf, ct⟩
      = .ok { r with fs := { r.fs with xvec := r.fs.xvec.set fr (some (x + (n : Int) * sp)) } } := by
  unfold execEv
  simp only [hx, hsp, hfr, if_true]

/-- the implied X values following `x`: `x + st·sp, x + 2·st·sp, …` (`m` of them) -/
def xsFrom (x : Int) (st : Nat) (sp : Int) : Nat → List Int
  | 0 => []
  | m + 1 => (x + (st : Int) * sp) :: xsFrom (x + (st : Int) * sp) st sp m

/-- write consecutive X values from index `i` on -/
def setVals (v : List (Option Int)) (i : Nat) (xs : List Int) : List (Option Int) := setFrom v i (xs.map some)

theorem setVals_nil (v : List (Option Int)) (i : Nat) : setVals v i [] = v := rfl

theorem setVals_cons (v : List (Option Int)) (i : Nat) (x : Int) (xs : List Int) :
    setVals v i (x :: xs) = setVals (v.set i (some x)) (i + 1) xs := rfl

theorem setVals_length (v : List (Option Int)) (i : Nat) (xs : List Int) : (setVals v i xs).length = v.length :=
  setFrom_length ..

theorem xsFrom_length (x : Int) (st : Nat) (sp : Int) (m : Nat) : (xsFrom x st sp m).length = m := by
  induction m generalizing x with
  | zero => rfl
  | succ m ih => simp [xsFrom, ih]

/-! ### the indirect read merged into the first read -/

/-- a merged indirect + channel read behaves like the indirect read followed by the channel read (up to the log) -/
theorem merged_transfer (d : Dfsr) (p : Plan) (w : Nat) (hi : IndCtx d p w) (st : Store) (r r' : Run) (t : Nat)
    (bs : List Nat) (fr siz1 ct1 : Nat) (R : List Ev) (hcur : r.cur = some (t, bs))
    (h : execEvs d st (⟨.read, w, some fr, none, none⟩ :: ⟨.read, siz1, some fr, some 0, some ct1⟩ :: R) r = .ok r') :
    ∃ r'', execEvs d st (⟨.read, w + siz1, some fr, none, some ct1⟩ :: R) r = .ok r'' ∧ SameRun r' r'' := by
  simp only [execEvs] at h
  split at h
  · cases h
  · rename_i ra hra
    split at h
    · cases h
    · rename_i rb hrb
      -- decompose the two reads
      unfold execEv Run.read at hra hrb
      simp only [hcur] at hra
      by_cases hl1 : r.ofs + w > bs.length
      · simp [hl1] at hra
      · simp only [hl1, if_false] at hra
        cases hs1 : FrameSet.setFrameBytes d r.fs (List.take w (List.drop r.ofs bs)) fr none none with
        | error e => simp [hs1] at hra
        | ok fs1 =>
          simp only [hs1] at hra
          cases hra
          simp only at hrb
          by_cases hl2 : r.ofs + w + siz1 > bs.length
          · simp [hl2] at hrb
          · simp only [hl2, if_false] at hrb
            cases hs2 : FrameSet.setFrameBytes d fs1 (List.take siz1 (List.drop (r.ofs + w) bs)) fr (some 0) (some ct1) with
            | error e => simp [hs2] at hrb
            | ok fs2 =>
              simp only [hs2] at hrb
              cases hrb
              -- what the indirect read did
              unfold FrameSet.setFrameBytes at hs1
              have h1 : ¬ d.recMode ≠ 1 := by simp [hi.hrm]
              simp only [h1, if_false, hi.hw] at hs1
              have hlw : (List.take w (List.drop r.ofs bs)).length = w := by
                rw [List.length_take, List.length_drop]; omega
              have hl : ¬ (List.take w (List.drop r.ofs bs)).length < w := by omega
              simp only [hl, if_false, List.take_take, Nat.min_self] at hs1
              cases hx : xDecode d.depthRc (beWord (List.take w (List.drop r.ofs bs))) with
              | error e => simp [hx] at hs1
              | ok x =>
                simp only [hx] at hs1
                by_cases hfr : fr < r.fs.xvec.length
                · simp only [hfr, if_true, hlw, ne_eq, not_true_eq_false, if_false, Except.ok.injEq] at hs1
                  subst hs1
                  have hby : List.take w (List.take (w + siz1) (List.drop r.ofs bs)) = List.take w (List.drop r.ofs bs) := by
                    rw [List.take_take]; congr 1; omega
                  have hby2 : List.drop w (List.take (w + siz1) (List.drop r.ofs bs)) = List.take siz1 (List.drop (r.ofs + w) bs) := by
                    rw [List.drop_take, List.drop_drop]; congr 1; omega
                  have hmerged := setFrameBytes_merged d p w hi r.fs fs2 (List.take (w + siz1) (List.drop r.ofs bs)) fr ct1 x
                    (by rw [List.length_take, List.length_drop]; omega) (by rw [hby]; exact hx) hfr (by rw [hby2]; exact hs2)
                  obtain ⟨ops, hex⟩ := exec_read d st r t bs (w + siz1) fr none (some ct1) fs2 hcur (by omega) hmerged
                  simp only [execEvs, hex]
                  refine execEvs_same d st R _ _ r' ?_ h
                  exact ⟨hcur.symm, by simp only; omega, rfl⟩
                · simp [hfr] at hs1

/-! ### the implied X of the frames of one record -/

/-- X of the first loaded frame of a record: the record's own X word when the first selected offset `a` is 0;
otherwise `a·spacing` added to the record's X word for the first loaded record, and to the X of the previously loaded
frame for every later record (the rule behind finding F7) -/
def entryBase (sp xrec : Int) (a : Nat) (prev : Option Int) : Int :=
  if a = 0 then xrec else match prev with
    | none => xrec + (a : Int) * sp
    | some pv => pv + (a : Int) * sp

/-- the implied X values of the frames loaded from one record -/
def entryXs (sp xrec : Int) (a step len : Nat) (prev : Option Int) : List Int :=
  entryBase sp xrec a prev :: xsFrom (entryBase sp xrec a prev) step sp len

/-- `prev` is the X of the previously loaded frame (none for the first loaded record) -/
def PrevOk (xv : List (Option Int)) (frInt : Nat) (prev : Option Int) : Prop :=
  (frInt = 0 ∧ prev = none) ∨ (0 < frInt ∧ ∃ pv, prev = some pv ∧ xv[frInt - 1]? = some (some pv))

theorem step_indr (d : Dfsr) (p : Plan) (w : Nat) (hi : IndCtx d p w) (st : Store) (r0 : Run) (t : Nat) (bs : List Nat)
    (fs : FrameSet) (fr : Nat) (x : Int) (h0 : StateIs r0 (some (t, bs)) 2 fs) (hlen : 2 + w ≤ bs.length)
    (hx : xDecode d.depthRc (beWord ((bs.drop 2).take w)) = .ok x) (hfr : fr < fs.xvec.length) :
    ∃ r1, execEv d st r0 ⟨.read, w, some fr, none, none⟩ = .ok r1 ∧
      StateIs r1 (some (t, bs)) (2 + w) { fs with xvec := fs.xvec.set fr (some x) } := by
  obtain ⟨h1, h2, h3⟩ := h0
  have hl : ((bs.drop r0.ofs).take w).length = w := by rw [List.length_take, List.length_drop, h2]; omega
  obtain ⟨ops, h⟩ := exec_read d st r0 t bs w fr none none _ h1 (by rw [h2]; exact hlen)
    (setFrameBytes_indr d p w hi r0.fs _ fr x hl (by rw [h2]; exact hx) (by rw [h3]; exact hfr))
  exact ⟨_, h, h1, by simp only [h2], by simp only [h3]⟩

theorem step_skip (d : Dfsr) (st : Store) (r : Run) (t : Nat) (bs : List Nat) (ofs : Nat) (fs : FrameSet) (siz : Nat)
    (fr cf ct : Option Nat) (h0 : StateIs r (some (t, bs)) ofs fs) (hlen : ofs + siz ≤ bs.length) :
    ∃ r1, execEv d st r ⟨.skip, siz, fr, cf, ct⟩ = .ok r1 ∧ StateIs r1 (some (t, bs)) (ofs + siz) fs := by
  obtain ⟨h1, h2, h3⟩ := h0
  obtain ⟨ops, h⟩ := exec_skip d st r t bs siz fr cf ct h1 (by rw [h2]; exact hlen)
  exact ⟨_, h, h1, by simp only [h2], h3⟩

theorem step_extrap_head (d : Dfsr) (st : Store) (r : Run) (cur : Option (Nat × List Nat)) (ofs : Nat) (fs : FrameSet)
    (frInt a : Nat) (cf ct : Option Nat) (xrec sp : Int) (prev : Option Int) (ha : 0 < a)
    (h0 : StateIs r cur ofs { fs with xvec := fs.xvec.set frInt (some xrec) }) (hfr : frInt < fs.xvec.length)
    (hsp : fs.frameSpacing = some sp) (hprev : PrevOk fs.xvec frInt prev) :
    ∃ r1, execEv d st r ⟨.extrap, a, some frInt, cf, ct⟩ = .ok r1 ∧
      StateIs r1 cur ofs { fs with xvec := fs.xvec.set frInt (some (entryBase sp xrec a prev)) } := by
  obtain ⟨h1, h2, h3⟩ := h0
  have hne : ¬ a = 0 := by omega
  have hfr' : frInt < r.fs.xvec.length := by rw [h3]; simpa using hfr
  have hsp' : r.fs.frameSpacing = some sp := by rw [h3]; exact hsp
  refine ⟨{ r with fs := { r.fs with xvec := fs.xvec.set frInt (some (entryBase sp xrec a prev)) } }, ?_, h1, h2,
    by simp only [h3]⟩
  rcases hprev with ⟨h0, hp⟩ | ⟨h0, pv, hp, hpv⟩
  · subst h0 hp
    have hx : r.fs.xvec[if 0 = 0 then 0 else 0 - 1]? = some (some xrec) := by
      simp only [if_true, h3]; rw [List.getElem?_set]; simp [hfr]
    rw [exec_extrap d st r a 0 cf ct xrec sp hx hsp' hfr']
    simp only [h3, List.set_set, entryBase, hne, if_false]
  · subst hp
    have hx : r.fs.xvec[if frInt = 0 then 0 else frInt - 1]? = some (some pv) := by
      have : ¬ frInt = 0 := by omega
      simp only [this, if_false, h3]; rw [List.getElem?_set]
      have : ¬ frInt = frInt - 1 := by omega
      simp [this, hpv]
    rw [exec_extrap d st r a frInt cf ct pv sp hx hsp' hfr']
    simp only [h3, List.set_set, entryBase, hne, if_false]

/-! ### the implied X of a whole load -/

theorem setVals_append (v : List (Option Int)) (i : Nat) (xs ys : List Int) :
    setVals (setVals v i xs) (i + xs.length) ys = setVals v i (xs ++ ys) := by
  have := setFrom_append v i (xs.map some) (ys.map some)
  rwa [List.length_map, ← List.map_append] at this

theorem setVals_getElem (v : List (Option Int)) (i : Nat) (xs : List Int) (q : Nat) (h : i + xs.length ≤ v.length) :
    (setVals v i xs)[q]? = if i ≤ q ∧ q < i + xs.length then (xs[q - i]?).map some else v[q]? := by
  have := setFrom_getElem v i (xs.map some) q (by rwa [List.length_map])
  rwa [List.length_map, List.getElem?_map] at this

/-- the X word of the record at `t`, decoded; 0 when it does not decode — every theorem that speaks of `xrecOf` assumes
that the X word of each record of the table decodes (`xDecode … = .ok x`) -/
def xrecOf (d : Dfsr) (st : Store) (w : Nat) (t : Int) : Int :=
  match xDecode d.depthRc (beWord (((bytesOf st t.toNat).drop 2).take w)) with
  | .ok x => x
  | .error _ => 0

/-- the implied X values of all loaded frames, entry after entry: `prev` is the X of the previously loaded frame -/
def allXs (sp : Int) (xr : Int → Int) (c : Nat) : List (Int × List Nat) → Option Int → List Int
  | [], _ => []
  | e :: rest, prev =>
    entryXs sp (xr e.1) (e.2.headD 0) c (e.2.length - 1) prev
      ++ allXs sp xr c rest (entryXs sp (xr e.1) (e.2.headD 0) c (e.2.length - 1) prev).getLast?

theorem entryXs_length (sp xrec : Int) (a step len : Nat) (prev : Option Int) :
    (entryXs sp xrec a step len prev).length = len + 1 := by simp [entryXs, xsFrom_length]

/-- the channels of the frame set for an indirect-X log pass (no X channel is added) -/
def selIdxI (d : Dfsr) (chList : Option (List Nat)) : List Nat :=
  match chList with
  | none => List.range d.chans.length
  | some l => sortDedup l

/-- the signed frame spacing used for the implied X (`FrameSet._frameSpacing`) -/
def spacingOf (d : Dfsr) (s : Int) : Int := if d.upDown = 1 then -(s.natAbs : Int) else (s.natAbs : Int)

theorem new_indirect (d : Dfsr) (S : Sl) (chList : Option (List Nat)) (s : Int) (hrm : d.recMode = 1)
    (hu : d.spacingUnits = d.depthUnits) (hs : d.spacing = some s)
    (hlt : ∀ c ∈ selIdxI d chList, c < d.chans.length) :
    FrameSet.new d S chList 0 = .ok ⟨selIdxI d chList, rangeLen S.start S.stop S.step1,
      List.replicate (rangeLen S.start S.stop S.step1)
        (List.replicate (sumN ((selChans d (selIdxI d chList)).map Chan.numValues)) none),
      List.replicate (rangeLen S.start S.stop S.step1) none, some (spacingOf d s)⟩ := by
  have hvpf : ∀ cs : List Nat, sumN (cs.map (fun e => ((d.chans[e]?).map Chan.numValues).getD 0))
      = sumN ((selChans d cs).map Chan.numValues) := by
    intro cs; simp only [selChans, List.map_map]; congr 1
    apply List.map_congr_left; intro e _; exact chanAt_nv d e
  have hany : (selIdxI d chList).any (fun e => decide (e ≥ d.chans.length)) = false := by
    rw [List.any_eq_false]; intro e he; have := hlt e he; simp; omega
  unfold FrameSet.new
  cases chList with
  | none =>
    simp only [selIdxI] at hany ⊢
    simp only [hrm, hany, hu, hs]
    simp [hvpf, spacingOf]
  | some l =>
    simp only [selIdxI] at hany ⊢
    simp only [hrm, hu, hs]
    simp [hany, hvpf, spacingOf]

theorem setVals_full (n : Nat) (xs : List Int) (h : xs.length = n) :
    setVals (List.replicate n none) 0 xs = xs.map some :=
  setFrom_full _ _ (by rw [List.length_map, h, List.length_replicate])

/-- the grouping of the requested frames by record (`_retFrameSetMap`, sorted) -/
def groupsOf (R : List (Int × Nat)) (a b c : Nat) : List (Int × List Nat) :=
  foldMap [] ((rangeList a b c).map (fun f => (locate R f).getD (0, 0)))

theorem allXs_length (sp : Int) (xr : Int → Int) (c : Nat) (G : List (Int × List Nat)) (prev : Option Int)
    (h : ∀ e ∈ G, e.2 ≠ []) : (allXs sp xr c G prev).length = (G.map (·.2.length)).sum := by
  induction G generalizing prev with
  | nil => rfl
  | cons e es ih =>
    have he := h e (List.mem_cons_self ..)
    have : e.2.length - 1 + 1 = e.2.length := by
      have : 0 < e.2.length := List.length_pos_iff.2 he
      omega
    simp only [allXs, List.length_append, entryXs_length, List.map_cons, List.sum_cons, this]
    rw [ih _ (fun x hx => h x (List.mem_cons_of_mem _ hx))]

theorem xsFrom_closed (x : Int) (st : Nat) (sp : Int) (m : Nat) :
    xsFrom x st sp m = (List.range m).map (fun i => x + (((i + 1) * st : Nat) : Int) * sp) := by
  induction m generalizing x with
  | zero => rfl
  | succ m ih =>
    rw [xsFrom, ih, List.range_succ_eq_map]
    simp only [List.map_cons, List.map_map, List.cons.injEq]
    constructor
    · push_cast; ring
    · apply List.map_congr_left; intro i _; simp only [Function.comp]; push_cast; ring

/-- when the first X of a record is `xr + a·sp`, all its X are `xr + offset·sp` -/
theorem entryXs_good (sp xr : Int) (a c len : Nat) (prev : Option Int) (h : prev = none ∨ a = 0) :
    entryXs sp xr a c len prev = (ap a c (len + 1)).map (fun (off : Nat) => xr + (off : Int) * sp) := by
  have hb : entryBase sp xr a prev = xr + (a : Int) * sp := by
    unfold entryBase
    rcases h with rfl | rfl
    · by_cases ha : a = 0
      · simp [ha]
      · simp [ha]
    · simp
  unfold entryXs
  rw [hb, xsFrom_closed]; unfold ap; rw [List.range_succ_eq_map]
  simp only [List.map_cons, List.map_map, Nat.zero_mul, Nat.add_zero, List.cons.injEq, true_and]
  apply List.map_congr_left; intro i _; simp only [Function.comp]; push_cast; ring

/-- **Implied X, the good class**: if every record but the first loaded one is entered at offset 0, the implied X of
every loaded frame is its record's X word plus offset·spacing. -/
theorem allXs_good (sp : Int) (xr : Int → Int) (c : Nat) :
    ∀ (G : List (Int × List Nat)) (prev : Option Int), (∀ e ∈ G, ∃ a len, e.2 = ap a c (len + 1)) →
      ((prev = none ∧ ∀ e ∈ G.tail, e.2.headD 0 = 0) ∨ ∀ e ∈ G, e.2.headD 0 = 0) →
      allXs sp xr c G prev = (flat G).map (fun (q : Int × Nat) => xr q.1 + (q.2 : Int) * sp) := by
  intro G
  induction G with
  | nil => intro _ _ _; rfl
  | cons e es ih =>
    intro prev hap hgood
    obtain ⟨a, len, hbuf⟩ := hap e (List.mem_cons_self ..)
    have hhd : e.2.headD 0 = a := by rw [hbuf]; simp [ap, List.range_succ_eq_map]
    have hl : e.2.length - 1 = len := by rw [hbuf]; simp [ap]
    have hthis : prev = none ∨ a = 0 := by
      rcases hgood with ⟨h, _⟩ | h
      · left; exact h
      · right; rw [← hhd]; exact h e (List.mem_cons_self ..)
    have hrest : ∀ e' ∈ es, e'.2.headD 0 = 0 := by
      rcases hgood with ⟨_, h⟩ | h
      · simpa using h
      · exact fun e' he' => h e' (List.mem_cons_of_mem _ he')
    simp only [allXs, hhd, hl]
    rw [entryXs_good sp (xr e.1) a c len prev hthis, ih _ (fun x hx => hap x (List.mem_cons_of_mem _ hx)) (Or.inr hrest)]
    simp only [flat, List.flatMap_cons, List.map_append, List.map_map, hbuf]
    rfl

theorem groupsOf_spec (R : List (Int × Nat)) (hR : IncTells R) (a b c : Nat) (hc : 0 < c) (hb : b ≤ (R.map (·.2)).sum) :
    Grouped c (groupsOf R a b c) ∧
    flat (groupsOf R a b c) = (rangeList a b c).map (fun f => (locate R f).getD (0, 0)) ∧
    (∀ e ∈ (groupsOf R a b c).tail, e.2.headD 0 < c) := by
  have hloc : ∀ f, f < b → locate R f = some ((locate R f).getD (0, 0)) := by
    intro f hf
    obtain ⟨r, hr⟩ := locate_lt R f (by omega)
    simp [hr]
  have := foldMap_grouped c ((rangeList a b c).map (fun f => (locate R f).getD (0, 0))) [] ⟨by simp, by simp⟩ (by simp)
    (chain_of_frames R hR c hc (fun f => (locate R f).getD (0, 0)) a b (fun f _ h2 => hloc f h2))
    (by cases (rangeList a b c).map (fun f => (locate R f).getD (0, 0)) with
        | nil => trivial
        | cons q _ => exact Or.inl rfl)
  simpa [flat, groupsOf] using this

/-- the true X of a located frame: its record's X word plus offset·spacing -/
def tx (sp : Int) (xr : Int → Int) (q : Int × Nat) : Int := xr q.1 + (q.2 : Int) * sp

/-- consecutive located frames are `c` frames apart on a common X scale -/
def StepX (sp : Int) (xr : Int → Int) (c : Nat) (L : List (Int × Nat)) : Prop :=
  ∀ i q q', L[i]? = some q → L[i + 1]? = some q' → tx sp xr q' = tx sp xr q + (c : Int) * sp

/-- which loaded frames get a wrong implied X: those of every record but the first that is entered at an offset > 0 -/
def badList : List (Int × List Nat) → Bool → List Bool
  | [], _ => []
  | e :: es, first => List.replicate e.2.length (!first && decide (e.2.headD 0 > 0)) ++ badList es false

theorem entryXs_closed (sp xrec : Int) (a c len : Nat) (prev : Option Int) :
    entryXs sp xrec a c len prev
      = (List.range (len + 1)).map (fun j => entryBase sp xrec a prev + (((j * c : Nat) : Int)) * sp) := by
  unfold entryXs
  rw [xsFrom_closed, List.range_succ_eq_map]
  simp only [List.map_cons, List.map_map, Nat.zero_mul, Nat.cast_zero, Int.zero_mul, Int.add_zero, List.cons.injEq, true_and]
  apply List.map_congr_left; intro i _; simp only [Function.comp]

theorem flat_cons_ap (t : Int) (a c len : Nat) (es : List (Int × List Nat)) :
    flat ((t, ap a c (len + 1)) :: es) = (List.range (len + 1)).map (fun j => (t, a + j * c)) ++ flat es := by
  simp [flat, ap, List.map_map, Function.comp]

/-- one record: all its implied X deviate from the true X by the same amount -/
theorem entry_dev (sp : Int) (xr : Int → Int) (t : Int) (a c len : Nat) (prev : Option Int) :
    List.zipWith (fun x q => decide (x ≠ tx sp xr q)) (entryXs sp (xr t) a c len prev)
        ((List.range (len + 1)).map (fun j => (t, a + j * c)))
      = List.replicate (len + 1) (decide (entryBase sp (xr t) a prev - (xr t + (a : Int) * sp) ≠ 0)) := by
  rw [entryXs_closed, List.zipWith_map]
  have : ∀ j : Nat, decide (entryBase sp (xr t) a prev + ((j * c : Nat) : Int) * sp ≠ tx sp xr (t, a + j * c))
      = decide (entryBase sp (xr t) a prev - (xr t + (a : Int) * sp) ≠ 0) := by
    intro j
    congr 1
    simp only [tx, ne_eq, eq_iff_iff]
    push_cast
    constructor <;> intro h <;> intro h' <;> apply h <;> linarith
  apply List.ext_getElem
  · simp
  · intro i h1 h2
    simp only [List.getElem_zipWith, List.getElem_range, List.getElem_replicate]
    exact this i

theorem entryXs_getLast (sp xrec : Int) (a c len : Nat) (prev : Option Int) :
    (entryXs sp xrec a c len prev).getLast? = some (entryBase sp xrec a prev + (((len * c : Nat) : Int)) * sp) := by
  rw [entryXs_closed, List.range_succ, List.map_append]; simp

/-- **Where the implied X is wrong**: exactly at the frames of every record but the first loaded one that is entered
at an offset > 0 (spacing ≠ 0, X words of the records consistent). The previously loaded frame carries the deviation
`m·sp` from its true X `tprev`; a record entered at offset `0 < a < c` adds `(a - c)·sp`. With `m ≤ 0` the sum
`(m + a - c)·sp` cannot vanish, so deviations never cancel; a record entered at offset 0 resets `m` to 0. -/
theorem allXs_dev (sp : Int) (xr : Int → Int) (c : Nat) (hsp : sp ≠ 0) :
    ∀ (G : List (Int × List Nat)) (prev : Option Int) (first : Bool) (tprev m : Int),
      (∀ e ∈ G, ∃ a len, e.2 = ap a c (len + 1)) →
      (∀ e ∈ (if first then G.tail else G), e.2.headD 0 < c) →
      ((first = true ∧ prev = none) ∨ (first = false ∧ prev = some (tprev + m * sp) ∧ m ≤ 0 ∧
          ∀ e ∈ G.head?, tx sp xr (e.1, e.2.headD 0) = tprev + (c : Int) * sp)) →
      StepX sp xr c (flat G) →
      List.zipWith (fun x q => decide (x ≠ tx sp xr q)) (allXs sp xr c G prev) (flat G) = badList G first := by
  intro G
  induction G with
  | nil => intro _ _ _ _ _ _ _ _; rfl
  | cons e es ih =>
    intro prev first tprev m hap hlt hprev hstepx
    obtain ⟨t, buf⟩ := e
    obtain ⟨a, len, hbuf⟩ := hap (t, buf) (List.mem_cons_self ..)
    simp only at hbuf
    subst hbuf
    have hhd : (ap a c (len + 1)).headD 0 = a := by simp [ap, List.range_succ_eq_map]
    have hl : (ap a c (len + 1)).length - 1 = len := by simp [ap]
    have hlen1 : (ap a c (len + 1)).length = len + 1 := by simp [ap]
    -- the deviation of this record
    have hdelta : ∃ m' : Int, m' ≤ 0 ∧ entryBase sp (xr t) a prev - (xr t + (a : Int) * sp) = m' * sp ∧
        (decide (entryBase sp (xr t) a prev - (xr t + (a : Int) * sp) ≠ 0) = (!first && decide (a > 0))) := by
      rcases hprev with ⟨hf, hp⟩ | ⟨hf, hp, hm, hlink⟩
      · subst hf hp
        refine ⟨0, le_refl _, ?_, ?_⟩
        · unfold entryBase; by_cases ha : a = 0 <;> simp [ha]
        · have : entryBase sp (xr t) a none - (xr t + (a : Int) * sp) = 0 := by
            unfold entryBase; by_cases ha : a = 0 <;> simp [ha]
          simp [this]
      · subst hf hp
        by_cases ha : a = 0
        · subst ha
          refine ⟨0, le_refl _, by simp [entryBase], by simp [entryBase]⟩
        · have hac : a < c := by
            have := hlt (t, ap a c (len + 1)) (by simp)
            simp only at this
            rw [hhd] at this; exact this
          have hl' := hlink (t, ap a c (len + 1)) (by simp)
          simp only [tx, hhd] at hl'
          have hbase : entryBase sp (xr t) a (some (tprev + m * sp)) = tprev + m * sp + (a : Int) * sp := by
            simp [entryBase, ha]
          have hd : entryBase sp (xr t) a (some (tprev + m * sp)) - (xr t + (a : Int) * sp) = (m + (a : Int) - (c : Int)) * sp := by
            rw [hbase, hl']; ring
          have hm' : m + (a : Int) - (c : Int) ≤ 0 := by omega
          have hne : m + (a : Int) - (c : Int) ≠ 0 := by omega
          refine ⟨m + a - c, hm', hd, ?_⟩
          have : (m + (a : Int) - (c : Int)) * sp ≠ 0 := mul_ne_zero hne hsp
          have ha' : a > 0 := by omega
          simp [hd, this, ha']
    obtain ⟨m', hm', hdm, hdec⟩ := hdelta
    simp only [allXs, hhd, badList, hlen1, Nat.add_sub_cancel]
    rw [flat_cons_ap, List.zipWith_append (by simp [entryXs_length]), entry_dev, hdec]
    congr 1
    -- the remaining records
    rw [entryXs_getLast]
    have hstep' : StepX sp xr c (flat es) := by
      intro i q q' h1 h2
      apply hstepx (len + 1 + i) q q'
      · rw [flat_cons_ap, List.getElem?_append_right (by simp)]; simpa using h1
      · rw [flat_cons_ap, List.getElem?_append_right (by simp; omega)]
        simp only [List.length_map, List.length_range]
        rw [show len + 1 + i + 1 - (len + 1) = i + 1 by omega]; exact h2
    apply ih _ false (tx sp xr (t, a + len * c)) m' (fun x hx => hap x (List.mem_cons_of_mem _ hx))
    · simp only [Bool.false_eq_true, if_false]
      intro x hx
      cases first with
      | true => simpa using hlt x (by simpa using hx)
      | false => exact hlt x (by simp [hx])
    · right
      refine ⟨rfl, ?_, hm', ?_⟩
      · congr 1
        simp only [tx]
        push_cast
        linarith
      · intro e' he'
        cases es with
        | nil => simp at he'
        | cons e2 es2 =>
          simp only [List.head?_cons, Option.mem_def, Option.some.injEq] at he'
          subst he'
          obtain ⟨a2, len2, hb2⟩ := hap e2 (by simp)
          have hh2 : e2.2.headD 0 = a2 := by rw [hb2]; simp [ap, List.range_succ_eq_map]
          rw [hh2]
          apply hstepx len (t, a + len * c) (e2.1, a2)
          · rw [flat_cons_ap, List.getElem?_append_left (by simp)]; simp
          · rw [flat_cons_ap, List.getElem?_append_right (by simp)]
            simp only [List.length_map, List.length_range, Nat.sub_self]
            obtain ⟨t2, b2⟩ := e2
            simp only at hb2; subst hb2
            rw [flat_cons_ap]; simp [List.range_succ_eq_map]
    · exact hstep'

end TD.C06
