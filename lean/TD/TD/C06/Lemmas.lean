import TD.C06.Model
import Mathlib.Tactic.Ring
import Mathlib.Tactic.Linarith

/-!
C06 — what the file index must list (`specEntries`) and what a run-length table stands for (`expand`, `locate`), and
that `indexStep`, `rle01Add`, `rle01Tell` agree with them.
-/
namespace TD.C06

/-! ## File index -/

/-- what the index must list for one logical record: `(tell, type, kind, table name)` — independent of the state -/
def specEntry (r : Nat × List Nat) : Option (Nat × Nat × Kind × Option EbVal) :=
  match r.2 with
  | t :: _ :: payload =>
    if t = 0 ∨ t = 1 then none else
    match despatch t with
    | none => none
    | some k => some (r.1, t, k, if k = .table then (match readCbValue payload with | .ok v => some v | .error _ => none) else none)
  | _ => none

def specEntries (recs : List (Nat × List Nat)) : List (Nat × Nat × Kind × Option EbVal) := recs.filterMap specEntry

def Entry.proj (e : Entry) : Nat × Nat × Kind × Option EbVal := (e.tell, e.lrType, e.kind, e.name)

theorem map_set_same {α β} (f : α → β) (l : List α) (i : Nat) (a e : α) (h : l[i]? = some e) (hf : f a = f e) :
    (l.set i a).map f = l.map f := by
  induction l generalizing i with
  | nil => rfl
  | cons x xs ih =>
    cases i with
    | zero => simp at h; subst h; simp [hf]
    | succ j => simp at h; simp [ih j h]

theorem updEntry_proj (l : List Entry) (i : Nat) (lp : LogPass) : (updEntry l i lp).map Entry.proj = l.map Entry.proj := by
  unfold updEntry
  split
  · rename_i e he
    exact map_set_same _ _ _ _ _ he rfl
  · rfl

theorem indexStep_proj (s s' : IdxState) (r : Nat × List Nat) (h : indexStep s r = .ok s') :
    s'.idx.map Entry.proj = s.idx.map Entry.proj ++ (specEntry r).toList := by
  obtain ⟨tell, bs⟩ := r
  unfold indexStep at h
  simp only at h
  unfold specEntry
  split at h
  · rename_i t a payload
    simp only
    split at h
    · rename_i h01
      simp only [h01, if_true, Option.toList_none, List.append_nil]
      split at h
      · split at h
        · cases h
        · split at h
          · cases h
          · cases h; simp [updEntry_proj]
      · cases h; rfl
    · rename_i h01
      simp only [h01, if_false]
      split at h
      · cases h; rename_i hd; simp [hd]
      · rename_i k hd
        simp only [hd]
        split at h
        · cases h
        · rename_i en hen
          have hen' : en.proj = (tell, t, k, if k = .table then (match readCbValue payload with | .ok v => some v | .error _ => none) else none) := by
            cases k <;> simp only at hen
            case table =>
              cases hv : readCbValue payload with
              | error e => rw [hv] at hen; cases hen
              | ok v => rw [hv] at hen; cases hen; rfl
            case logPass =>
              split at hen
              · cases hen
              · split at hen <;> cases hen; rfl
            all_goals first | (cases hen; rfl) | (split at hen <;> cases hen; rfl)
          have hidx : s'.idx = s.idx ++ [en] := by
            split at h
            · cases h; rfl
            · split at h
              · split at h
                · split at h <;> (try split at h) <;> cases h <;> rfl
                · cases h; rfl
              · cases h; rfl
          rw [hidx, List.map_append]; simp [hen']
  · cases h

theorem indexFile_proj (recs : List (Nat × List Nat)) (s s' : IdxState) (h : indexFile recs s = .ok s') :
    s'.idx.map Entry.proj = s.idx.map Entry.proj ++ specEntries recs := by
  induction recs generalizing s with
  | nil => simp [indexFile] at h; subst h; simp [specEntries]
  | cons r rs ih =>
    simp only [indexFile] at h
    split at h
    · cases h
    · rename_i s1 hs1
      rw [ih s1 h, indexStep_proj s s1 r hs1]
      simp only [specEntries, List.filterMap_cons]
      cases specEntry r <;> simp

/-! ## Run length encoding of the data records -/

/-- `k` records from index `i` of a run `(datum, stride)` with `n` frames each -/
def expandFrom (d s : Int) (n : Nat) : Nat → Nat → List (Int × Nat)
  | _, 0 => []
  | i, k + 1 => (d + (i : Int) * s, n) :: expandFrom d s n (i + 1) k

def Item01.expand (it : Item01) : List (Int × Nat) := expandFrom it.pos.datum it.pos.stride it.numFrames 0 (it.pos.rep + 1)

/-- the data records a run-length table stands for: `(position, frames)` in order -/
def expand : List Item01 → List (Int × Nat)
  | [] => []
  | it :: its => it.expand ++ expand its

/-- specification of the frame lookup on the plain record list -/
def locate : List (Int × Nat) → Nat → Option (Int × Nat)
  | [], _ => none
  | (t, n) :: rest, f => if f < n then some (t, f) else locate rest (f - n)

theorem expandFrom_snoc (d s : Int) (n i k : Nat) :
    expandFrom d s n i (k + 1) = expandFrom d s n i k ++ [(d + ((i + k : Nat) : Int) * s, n)] := by
  induction k generalizing i with
  | zero => simp [expandFrom]
  | succ k ih =>
    rw [expandFrom, ih (i + 1)]
    simp only [expandFrom, List.cons_append]
    rw [show i + 1 + k = i + (k + 1) by omega]

theorem item01_add_expand (it it' : Item01) (t : Int) (n : Nat) (x : Int) (h : it.add t n x = some it') :
    it'.expand = it.expand ++ [(t, n)] := by
  unfold Item01.add at h
  split at h
  · cases h
  · rename_i hn
    have hn' : n = it.numFrames := by simpa using hn
    split at h
    · cases h
    · rename_i p' hp
      cases h
      unfold RItem.add at hp
      unfold Item01.expand
      simp only
      split at hp
      · rename_i h0
        cases hp
        simp only [h0]
        simp [expandFrom, hn']
      · split at hp
        · rename_i hv
          cases hp
          simp only
          rw [expandFrom_snoc]
          simp only [Nat.zero_add, hn', List.append_cancel_left_eq, List.cons.injEq, Prod.mk.injEq, and_true]
          rw [hv]; push_cast; ring
        · cases hp

theorem mk1_expand (t : Int) (n : Nat) (x : Int) : (Item01.mk1 t n x).expand = [(t, n)] := by
  simp [Item01.mk1, Item01.expand, expandFrom]

/-- **RLE, add**: adding a record to the run-length table appends it to the list the table stands for. -/
theorem rle01Add_expand (l : List Item01) (t : Int) (n : Nat) (x : Int) :
    expand (rle01Add l t n x) = expand l ++ [(t, n)] := by
  induction l with
  | nil => simp [rle01Add, expand, mk1_expand]
  | cons it its ih =>
    cases its with
    | nil =>
      simp only [rle01Add]
      split
      · rename_i it' h
        simp [expand, item01_add_expand it it' t n x h]
      · simp [expand, mk1_expand]
    | cons it2 its2 =>
      simp only [rle01Add, expand] at ih ⊢
      rw [ih]; simp

theorem locate_expandFrom_zero (d s : Int) (i k : Nat) (rest : List (Int × Nat)) (f : Nat) :
    locate (expandFrom d s 0 i k ++ rest) f = locate rest f := by
  induction k generalizing i with
  | zero => simp [expandFrom]
  | succ k ih => simp [expandFrom, locate, ih]

theorem locate_expandFrom (d s : Int) (n : Nat) (hn : 0 < n) (i k : Nat) (rest : List (Int × Nat)) (f : Nat) :
    locate (expandFrom d s n i k ++ rest) f =
      if f < k * n then some (d + ((i + f / n : Nat) : Int) * s, f % n) else locate rest (f - k * n) := by
  induction k generalizing i f with
  | zero => simp [expandFrom]
  | succ k ih =>
    simp only [expandFrom, List.cons_append, locate]
    by_cases hf : f < n
    · have : f < (k + 1) * n := by nlinarith
      simp [hf, this, Nat.div_eq_of_lt hf, Nat.mod_eq_of_lt hf]
    · simp only [hf, if_false]
      rw [ih]
      have hge : n ≤ f := by omega
      have h1 : (f - n < k * n) ↔ (f < (k + 1) * n) := by
        rw [Nat.add_mul, Nat.one_mul]; omega
      have h2 : f / n = (f - n) / n + 1 := by
        rw [Nat.div_eq f n]; simp [hn, hge]
      have h3 : f % n = (f - n) % n := Nat.mod_eq_sub_mod hge
      have h4 : f - n - k * n = f - (k + 1) * n := by
        rw [Nat.add_mul, Nat.one_mul]; omega
      by_cases hc : f < (k + 1) * n
      · simp only [h1.2 hc, hc, if_true, h2, h3]
        rw [show i + 1 + (f - n) / n = i + ((f - n) / n + 1) by omega]
      · have : ¬ (f - n < k * n) := fun h => hc (h1.1 h)
        simp only [this, hc, if_false, h4]

/-- lookup inside one run-length item, as the code does it (`<=`, `%`, `//`) -/
theorem item01_tell (it : Item01) (hn : 0 < it.numFrames) (f : Nat) :
    it.tellLrForFrame f =
      .ok (if f < it.totalFrames then (f % it.numFrames, some (it.pos.datum + ((f / it.numFrames : Nat) : Int) * it.pos.stride))
           else (f - it.totalFrames, none)) := by
  unfold Item01.tellLrForFrame
  have hn0 : it.numFrames ≠ 0 := by omega
  simp only [hn0, if_false]
  by_cases hlt : f < it.totalFrames
  · have hle : f ≤ it.totalFrames := by omega
    simp only [hle, hlt, if_true]
    have hdiv : f / it.numFrames ≤ it.pos.rep := by
      unfold Item01.totalFrames at hlt
      have : f / it.numFrames < it.pos.rep + 1 := by
        rw [Nat.div_lt_iff_lt_mul hn]; rw [Nat.mul_comm]; exact hlt
      omega
    unfold RItem.value
    have : ¬ (f / it.numFrames > it.pos.rep) := by omega
    simp only [this, if_false]
    by_cases hr : it.pos.rep = 0
    · have h0 : f / it.numFrames = 0 := Nat.le_zero.mp (hr ▸ hdiv)
      simp [hr, h0]
    · simp [hr]
  · by_cases heq : f = it.totalFrames
    · subst heq
      simp only [Nat.le_refl, if_true, Nat.lt_irrefl, if_false, Nat.sub_self]
      unfold Item01.totalFrames RItem.value
      have h1 : it.numFrames * (it.pos.rep + 1) / it.numFrames = it.pos.rep + 1 := Nat.mul_div_cancel_left _ hn
      have h2 : it.numFrames * (it.pos.rep + 1) % it.numFrames = 0 := Nat.mul_mod_right _ _
      simp [h1, h2]
    · have : ¬ (f ≤ it.totalFrames) := by omega
      simp [this, hlt]

/-- **RLE, lookup**: `RLEType01.tellLrForFrame` finds the record that holds frame `f` and the offset in it, for every
table; records without frames are passed over. -/
theorem rle01Tell_locate (l : List Item01) (f : Nat) :
    rle01Tell l f = (match locate (expand l) f with | some r => .ok r | none => .error .indexError) := by
  induction l generalizing f with
  | nil => simp [rle01Tell, expand, locate]
  | cons it its ih =>
    simp only [rle01Tell, expand]
    by_cases hn0 : it.numFrames = 0
    · have : it.tellLrForFrame f = .ok (f, none) := by simp [Item01.tellLrForFrame, hn0]
      rw [this]
      unfold Item01.expand
      rw [hn0, locate_expandFrom_zero]
      exact ih f
    · have hn : 0 < it.numFrames := by omega
      rw [item01_tell it hn f]
      unfold Item01.expand
      rw [locate_expandFrom _ _ _ hn]
      have htot : it.totalFrames = (it.pos.rep + 1) * it.numFrames := by unfold Item01.totalFrames; ring
      by_cases hlt : f < it.totalFrames
      · have hlt' : f < (it.pos.rep + 1) * it.numFrames := by omega
        simp [hlt, hlt']
      · have hlt' : ¬ f < (it.pos.rep + 1) * it.numFrames := by omega
        simp only [hlt, hlt', if_false]
        rw [ih, htot]

theorem expand_total (l : List Item01) : rle01Total l = ((expand l).map (·.2)).sum := by
  have hfrom : ∀ (d s : Int) (n i k : Nat), ((expandFrom d s n i k).map (·.2)).sum = k * n := by
    intro d s n i k
    induction k generalizing i with
    | zero => simp [expandFrom]
    | succ k ih => simp [expandFrom, ih, Nat.add_mul]; omega
  induction l with
  | nil => simp [rle01Total, expand]
  | cons it its ih =>
    simp only [rle01Total, expand, List.map_append, List.sum_append, ih, Item01.expand, hfrom, Item01.totalFrames]
    ring


/-! ## Indexing a data record -/

theorem numFrames_ok (p : Plan) (len n : Nat) (h : p.numFrames len = .ok n) :
    len = p.indr + n * p.frameSize ∧ 0 < p.frameSize := by
  unfold Plan.numFrames at h
  by_cases h1 : len < p.indr
  · simp [h1] at h
  · by_cases h2 : p.frameSize = 0
    · simp [h1, h2] at h
    · by_cases h3 : (len - p.indr) % p.frameSize = 0
      · simp [h1, h2, h3] at h
        have := Nat.div_add_mod (len - p.indr) p.frameSize
        rw [h3, Nat.add_zero, h, Nat.mul_comm] at this
        exact ⟨by omega, by omega⟩
      · simp [h1, h2, h3] at h

theorem addType01Data_ok (lp lp' : LogPass) (tell t len : Nat) (x : Int) (h : lp.addType01Data tell t len x = .ok lp') :
    ∃ n, lp.plan.numFrames len = .ok n ∧ lp'.rle = rle01Add lp.rle tell n x := by
  unfold LogPass.addType01Data at h
  by_cases h1 : lp.dfsr.dataType ≠ t
  · simp [h1] at h
  · simp only [h1, if_false] at h
    cases hn : lp.plan.numFrames len with
    | error e => simp [hn] at h
    | ok n => simp [hn] at h; exact ⟨n, rfl, by rw [← h]⟩

theorem indexAddData_ok (lp lp' : LogPass) (tell t : Nat) (payload : List Nat)
    (h : indexAddData lp tell t payload = .ok lp') : ∃ x, lp.addType01Data tell t payload.length x = .ok lp' := by
  unfold indexAddData at h
  simp only at h
  repeat' (first | (exact ⟨_, h⟩) | (cases h) | split at h)

end TD.C06
