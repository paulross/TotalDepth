import TD.C12.Lemmas

/-!
# C12 — batch conversion isolates bad files and is independent of job scheduling

The theorems are about the abstract batch of `Model.lean`: `conv` is an arbitrary *total* function (hypothesis
"nothing escapes `single_*_to_las`" — a Lean function cannot raise), a schedule is any interleaving of the tasks'
event sequences on `k` workers.  What the theorems do **not** cover — OS process scheduling, pool start-up,
pickling of arguments/results, the two hypotheses themselves for the real converters — is exercised by the plugin
(`harness/props/c12.py`); the property is therefore "partial" at proof level.
-/
namespace TD.C12

section Batch
set_option linter.unusedSectionVars false
variable {P B R O T : Type} [DecidableEq P] [DecidableEq O]
variable (conv : P × B → R × List (O × T))

/-- **Schedule independence.**  If no two tasks write the same output path (and the input paths are distinct), then
every valid schedule on any number `k` of workers leaves the same results dict and the same output tree as the
sequential loop. -/
theorem schedule_independent (tasks : List (P × B)) (hd : OutputsDisjoint conv tasks) (hp : PathsDistinct tasks)
    (k : Nat) (σ : List Ev) (hv : validSched k (nOutsOf conv tasks) σ = true) :
    StateEquiv (runSched conv σ tasks) (sequential conv tasks) :=
  ⟨results_eq conv tasks hv hp, tree_eq conv tasks hv hd⟩

/-- any two valid schedules, on any numbers of workers, agree -/
theorem schedules_agree (tasks : List (P × B)) (hd : OutputsDisjoint conv tasks) (hp : PathsDistinct tasks)
    (k k' : Nat) (σ σ' : List Ev) (hv : validSched k (nOutsOf conv tasks) σ = true)
    (hv' : validSched k' (nOutsOf conv tasks) σ' = true) :
    StateEquiv (runSched conv σ tasks) (runSched conv σ' tasks) := by
  have h1 := schedule_independent conv tasks hd hp k σ hv
  have h2 := schedule_independent conv tasks hd hp k' σ' hv'
  exact ⟨fun p => (h1.1 p).trans (h2.1 p).symm, fun o => (h1.2 o).trans (h2.2 o).symm⟩

/-- The sequential loop walks the directory alphabetically, the pool is fed in size order: the order of the tasks
does not matter either. -/
theorem order_independent (tasks tasks' : List (P × B)) (hperm : tasks.Perm tasks')
    (hd : OutputsDisjoint conv tasks) (hp : PathsDistinct tasks) :
    StateEquiv (sequential conv tasks) (sequential conv tasks') := by
  constructor
  · intro p
    rw [sequential_results, sequential_results]
    exact aget_asetAll_congr (writesTo_flatMap_perm _ (hp.pairwise conv) hperm p) []
  · intro o
    rw [sequential_tree, sequential_tree]
    exact aget_asetAll_congr (writesTo_flatMap_perm _ hd hperm o) []

/-- **One result per input file**: the keys of the results dict are exactly the input paths, each once. -/
theorem one_result_per_file (tasks : List (P × B)) (hp : PathsDistinct tasks)
    (k : Nat) (σ : List Ev) (hv : validSched k (nOutsOf conv tasks) σ = true) :
    (akeys (runSched conv σ tasks).results).Perm (tasks.map Prod.fst) := by
  have hn : (akeys (runSched conv σ tasks).results).Nodup := by
    rw [runSched_results]; exact nodup_akeys_asetAll [] _ List.nodup_nil
  refine (List.perm_ext_iff_of_nodup hn hp).mpr fun p => ?_
  rw [mem_akeys_iff, results_eq conv tasks hv hp, ← mem_akeys_iff, sequential_results, mem_akeys_asetAll,
    mem_akeys_flatMap, List.mem_map]
  exact (or_iff_right List.not_mem_nil).trans
    (exists_congr fun t => and_congr_right fun _ => List.mem_singleton.trans eq_comm)

/-- **Isolation** (for a total `conv`): as many results as files, and the result recorded for a file is
`(conv file).1` — a function of that file's path and bytes alone, whatever the other files are, wherever the file
stands in the order, whatever the schedule. -/
theorem isolation (tasks : List (P × B)) (hp : PathsDistinct tasks)
    (k : Nat) (σ : List Ev) (hv : validSched k (nOutsOf conv tasks) σ = true) :
    (runSched conv σ tasks).results.length = tasks.length ∧
    ∀ t ∈ tasks, aget (runSched conv σ tasks).results t.1 = some (conv t).1 := by
  constructor
  · have := (one_result_per_file conv tasks hp k σ hv).length_eq
    rwa [akeys, List.length_map, List.length_map] at this
  · intro t ht
    rw [results_eq conv tasks hv hp, seq_results_get conv tasks hp ht]

/-- the result of a file is the same in any two batches that contain it (other files replaced, damaged, added, removed) -/
theorem result_depends_only_on_file (tasks tasks' : List (P × B)) (hp : PathsDistinct tasks) (hp' : PathsDistinct tasks')
    (k k' : Nat) (σ σ' : List Ev) (hv : validSched k (nOutsOf conv tasks) σ = true)
    (hv' : validSched k' (nOutsOf conv tasks') σ' = true) (t : P × B) (ht : t ∈ tasks) (ht' : t ∈ tasks') :
    aget (runSched conv σ tasks).results t.1 = aget (runSched conv σ' tasks').results t.1 := by
  rw [(isolation conv tasks hp k σ hv).2 t ht, (isolation conv tasks' hp' k' σ' hv').2 t ht']

/-- **Sibling outputs are not altered**: every output path of a file holds, after the batch, exactly what converting
that file on its own into an empty directory puts there. -/
theorem outputs_as_alone (tasks : List (P × B)) (hd : OutputsDisjoint conv tasks)
    (k : Nat) (σ : List Ev) (hv : validSched k (nOutsOf conv tasks) σ = true)
    (t : P × B) (ht : t ∈ tasks) (o : O) (ho : o ∈ akeys (conv t).2) :
    aget (runSched conv σ tasks).tree o = aget (alone conv t).tree o := by
  rw [tree_eq conv tasks hv hd, seq_tree_get conv tasks hd ht ho]

/-- **Outputs depend only on the file itself** (its full path and bytes): in any two batches that contain the file —
other files added, removed, damaged, same-named files in other sub-directories, other order, other worker count,
other schedule — every output path of the file ends up with the same content. -/
theorem outputs_depend_only_on_file (tasks tasks' : List (P × B))
    (hd : OutputsDisjoint conv tasks) (hd' : OutputsDisjoint conv tasks')
    (k k' : Nat) (σ σ' : List Ev) (hv : validSched k (nOutsOf conv tasks) σ = true)
    (hv' : validSched k' (nOutsOf conv tasks') σ' = true) (t : P × B) (ht : t ∈ tasks) (ht' : t ∈ tasks')
    (o : O) (ho : o ∈ akeys (conv t).2) :
    aget (runSched conv σ tasks).tree o = aget (runSched conv σ' tasks').tree o := by
  rw [outputs_as_alone conv tasks hd k σ hv t ht o ho, outputs_as_alone conv tasks' hd' k' σ' hv' t ht' o ho]

/-- **Options are not state.**  If no file conversion changes the options it is given (`(step o t).2 = o`), the loop that
threads the options through the files is exactly the batch of the per-file function with the SAME options for every
file — so all the theorems above apply with `conv := fun t => (step opt t).1`, and the caller's options come back unchanged. -/
theorem options_not_threaded {Opt : Type} (step : Opt → P × B → (R × List (O × T)) × Opt) (opt : Opt)
    (hpure : ∀ o t, (step o t).2 = o) (tasks : List (P × B)) :
    sequentialThreaded step opt tasks = (sequential (fun t => (step opt t).1) tasks, opt) := by
  unfold sequentialThreaded sequential
  generalize (State.init : State P R O T) = s0
  induction tasks generalizing s0 with
  | nil => rfl
  | cons t r ih =>
    simp only [List.foldl_cons]
    rw [hpure opt t]
    exact ih _

/-- ... and the batch creates nothing else: a path present in the tree is an output path of one of the files -/
theorem tree_only_outputs (tasks : List (P × B)) (σ : List Ev) (o : O)
    (h : o ∈ akeys (runSched conv σ tasks).tree) : ∃ t ∈ tasks, o ∈ akeys (conv t).2 := by
  rw [runSched_tree, mem_akeys_asetAll] at h
  obtain ⟨b, hb, rfl⟩ := List.mem_map.mp (h.resolve_left List.not_mem_nil)
  obtain ⟨e, _, he⟩ := List.mem_filterMap.mp hb
  obtain ⟨hi, hm⟩ := evWrite_some conv tasks he
  exact ⟨_, List.getElem_mem hi, mem_akeys_of_mem hm⟩

/-- **Nothing missing, nothing extra**: the set of paths in the final tree is exactly the union of the output paths of the
files (each of which holds the stand-alone content by `outputs_as_alone`). -/
theorem tree_keys_exact (tasks : List (P × B)) (hd : OutputsDisjoint conv tasks)
    (k : Nat) (σ : List Ev) (hv : validSched k (nOutsOf conv tasks) σ = true) (o : O) :
    o ∈ akeys (runSched conv σ tasks).tree ↔ ∃ t ∈ tasks, o ∈ akeys (conv t).2 := by
  rw [mem_akeys_iff, tree_eq conv tasks hv hd, ← mem_akeys_iff, sequential_tree, mem_akeys_asetAll, mem_akeys_flatMap]
  exact or_iff_right List.not_mem_nil

/-- Output-path disjointness follows from an injective naming rule: if every output path of a task is
`nm (key t) i` for a naming function that is injective in the key, and the keys of the tasks are distinct. -/
theorem outputsDisjoint_of_naming {κ ι : Type} (tasks : List (P × B)) (key : P × B → κ) (nm : κ → ι → O)
    (hinj : ∀ a b i j, nm a i = nm b j → a = b)
    (hkeys : (tasks.map key).Nodup)
    (hout : ∀ t ∈ tasks, ∀ o ∈ akeys (conv t).2, ∃ i, o = nm (key t) i) :
    OutputsDisjoint conv tasks := by
  have hpw : tasks.Pairwise (fun a b => key a ≠ key b) := List.pairwise_map.mp hkeys
  unfold OutputsDisjoint
  refine (List.Pairwise.and_mem.mp hpw).imp ?_
  intro a b ⟨ha, hb, hab⟩ o hoa hob
  obtain ⟨i, hi⟩ := hout a ha o hoa
  obtain ⟨j, hj⟩ := hout b hb o hob
  exact hab (hinj _ _ i j (hi.symm.trans hj))

end Batch

/-- a small concrete conversion: file `n` writes `n % 3` outputs `(10 n + j, n)` -/
def exConv : Nat × Nat → Nat × List (Nat × Nat) :=
  fun t => (t.2, (List.range (t.1 % 3)).map (fun j => (10 * t.1 + j, t.2)))

def exTasks : List (Nat × Nat) := [(1, 7), (2, 8), (3, 9), (5, 4)]

/-- an interleaved schedule of `exTasks` on 2 workers -/
def exSched : List Ev :=
  [.start 1, .start 0, .write 1 0, .write 0 0, .finish 0, .start 2, .write 1 1, .finish 2, .finish 1, .start 3,
   .write 3 0, .write 3 1, .finish 3]

example : validSched 2 (nOutsOf exConv exTasks) exSched = true := by decide +kernel
example : validSched 1 (nOutsOf exConv exTasks) exSched = false := by decide +kernel
example : validSched 1 (nOutsOf exConv exTasks) (seqSchedule (nOutsOf exConv exTasks)) = true := by decide +kernel
example : PathsDistinct exTasks := by decide +kernel
example : OutputsDisjoint exConv exTasks := by decide +kernel
example : (runSched exConv exSched exTasks).tree = [(20, 8), (10, 7), (21, 8), (50, 4), (51, 4)] := by decide +kernel
example : (sequential exConv exTasks).tree = [(10, 7), (20, 8), (21, 8), (50, 4), (51, 4)] := by decide +kernel

/-- **F14 at batch level**: when two tasks write the same output path the schedule decides what the file holds
(the hypothesis `OutputsDisjoint` of `schedule_independent` cannot be dropped). -/
def f14Conv : Nat × Nat → Nat × List (Nat × Nat) := fun t => (t.2, [(0, t.2)])

theorem f14_schedule_dependent :
    validSched 2 (nOutsOf f14Conv [(1, 1), (2, 2)]) [.start 0, .start 1, .write 0 0, .write 1 0, .finish 0, .finish 1] = true ∧
    validSched 2 (nOutsOf f14Conv [(1, 1), (2, 2)]) [.start 0, .start 1, .write 1 0, .write 0 0, .finish 0, .finish 1] = true ∧
    aget (runSched f14Conv [.start 0, .start 1, .write 0 0, .write 1 0, .finish 0, .finish 1] [(1, 1), (2, 2)]).tree 0 ≠
    aget (runSched f14Conv [.start 0, .start 1, .write 1 0, .write 0 0, .finish 0, .finish 1] [(1, 1), (2, 2)]).tree 0 := by
  decide +kernel

/-- the hypothesis of `options_not_threaded` cannot be dropped: a conversion that narrows the requested channel set in
place (options = list of requested channels, a file keeps only those it records and hands the narrowed list on) makes the
second file's result differ from its result under the original options. -/
def narrowStep : List Nat → Nat × List Nat → (List Nat × List (Nat × Nat)) × List Nat :=
  fun req t => ((req.filter (· ∈ t.2), []), req.filter (· ∈ t.2))

theorem options_threaded_counterexample :
    aget (sequentialThreaded narrowStep [1, 2] [(10, [1]), (20, [1, 2])]).1.results 20 = some [1] ∧
    aget (sequential (fun t => (narrowStep [1, 2] t).1) [(10, [1]), (20, [1, 2])]).results 20 = some [1, 2] := by
  decide +kernel

/-! ## output naming -/

/-- LIS: `f'{path_out}_{i}.las'` is injective in (path_out, i). -/
theorem lis_out_path_injective (p p' : Str) (i i' : Nat) (h : lisOut p i = lisOut p' i') : p = p' ∧ i = i' :=
  suffix_inj underscore_not_mem_dec dec_inj h

/-- BIT: `f'{path_out}_{f:04d}.las'` is injective in (path_out, f). -/
theorem bit_out_path_injective (p p' : Str) (f f' : Nat) (h : bitOut p f = bitOut p' f') : p = p' ∧ f = f' :=
  suffix_inj underscore_not_mem_pad4 pad4_inj h

/-- RP66V1, one input file: `las_file_name` is injective in (logical file index, frame array ident). -/
theorem rp_out_path_injective_same_file (p : Str) (lf lf' : Nat) (id id' : List Nat) (x : Str)
    (h : lasFileName p lf id = .ok x) (h' : lasFileName p lf' id' = .ok x) : lf = lf' ∧ id = id' := by
  obtain ⟨s, hs, rfl⟩ := lasFileName_ok h
  obtain ⟨s', hs', hx⟩ := lasFileName_ok h'
  have := rpName_inj_same_stem
    (join_inj (rpName_head _ lf s (slash_not_mem_stem p)) (rpName_head _ lf' s' (slash_not_mem_stem p)) hx)
  exact ⟨this.1, asciiDecode_inj hs (this.2 ▸ hs')⟩

/-- the explicit no-collision hypothesis for two RP66V1 inputs in one directory: their stems (name minus extension)
differ and neither stem followed by '_' is a prefix of the other. -/
def NoStemCollision (s s' : Str) : Prop := s ≠ s' ∧ ¬ (s ++ ['_']) <+: s' ∧ ¬ (s' ++ ['_']) <+: s

instance (s s' : Str) : Decidable (NoStemCollision s s') := by
  unfold NoStemCollision; exact inferInstance

/-- RP66V1, two input files of one directory: under `NoStemCollision` they never produce the same output path. -/
theorem rp_out_path_injective (p p' : Str) (lf lf' : Nat) (id id' : List Nat) (x x' : Str)
    (hdir : dirname p = dirname p')
    (hns : NoStemCollision (stemOfName (basename p)) (stemOfName (basename p')))
    (h : lasFileName p lf id = .ok x) (h' : lasFileName p' lf' id' = .ok x') : x ≠ x' := by
  obtain ⟨s, _, rfl⟩ := lasFileName_ok h
  obtain ⟨s', _, rfl⟩ := lasFileName_ok h'
  intro hx
  rw [hdir] at hx
  rcases rpName_stem_prefix
    (join_inj (rpName_head _ lf s (slash_not_mem_stem p)) (rpName_head _ lf' s' (slash_not_mem_stem p')) hx) with e | e | e
  · exact hns.1 e
  · exact hns.2.1 e
  · exact hns.2.2 e

example : NoStemCollision (stemOfName (basename "out/a.dlis".toList)) (stemOfName (basename "out/b.DLIS".toList)) := by
  decide +kernel

/-- **F14**: two RP66V1 inputs of one directory whose names differ only in the extension (`b.dlis`, `b.DLIS`) are
given the same output path — the hypothesis of `rp_out_path_injective` fails and so does `OutputsDisjoint`. -/
theorem f14_same_output_path :
    lasFileName "out/b.dlis".toList 0 [53, 48] = lasFileName "out/b.DLIS".toList 0 [53, 48] ∧
    lasFileName "out/b.dlis".toList 0 [53, 48] = .ok "out/b_0_50.las".toList ∧
    ¬ NoStemCollision (stemOfName (basename "out/b.dlis".toList)) (stemOfName (basename "out/b.DLIS".toList)) := by
  simp only [String.reduceToList]
  decide +kernel

/-- the second way `NoStemCollision` can fail: stems `a` and `a_0` collide when a frame array ident looks like
`<digits>_<rest>` (logical file 0 / frame `1_X` of `a` and logical file 1 / frame `X` of `a_0`). -/
theorem rp_stem_underscore_collision :
    lasFileName "out/a.dlis".toList 0 [49, 95, 88] = lasFileName "out/a_0.dlis".toList 1 [88] := by
  simp only [String.reduceToList]
  decide +kernel

/-- the LIS and BIT rules keep the input extension, so the F14 pair is kept apart -/
example : lisOut "out/b.lis".toList 0 ≠ lisOut "out/b.LIS".toList 0 := by decide +kernel
example : bitOut "out/b.bit".toList 0 = "out/b.bit_0000.las".toList := by decide +kernel

/-- same-named files in different sub-directories are different tasks with different output directories -/
example : walkPath "in".toList "out".toList ["RUN_1".toList, "MAIN.dlis".toList]
    = ("in/RUN_1/MAIN.dlis".toList, "out/RUN_1/MAIN.dlis".toList) := by decide +kernel
example : (walkPath "in".toList "out".toList ["RUN_1".toList, "MAIN.dlis".toList]).2
    ≠ (walkPath "in".toList "out".toList ["RUN_2".toList, "MAIN.dlis".toList]).2 := by decide +kernel

end TD.C12
