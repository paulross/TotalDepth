import TD.C12.Model

/-! A run of the batch is `asetAll []` of its writes; a lookup depends only on the writes to the key looked up
(`aget_asetAll_congr`), which under a valid schedule are the owning task's own (`interleaving_writes`). -/
namespace TD.C12

section AList
variable {κ ν : Type} [DecidableEq κ]

theorem aget_append (a b : List (κ × ν)) (k : κ) : aget (a ++ b) k = (aget a k).or (aget b k) := by
  induction a with
  | nil => rfl
  | cons x r ih =>
    by_cases h : x.1 = k
    · simp only [List.cons_append, aget, h, if_true, Option.some_or]
    · simp only [List.cons_append, aget, h, if_false, ih]

theorem aget_aset (m : List (κ × ν)) (k k' : κ) (v : ν) :
    aget (aset m k v) k' = if k = k' then some v else aget m k' := by
  induction m with
  | nil => simp [aget, aset]
  | cons x r ih =>
    obtain ⟨k0, v0⟩ := x
    by_cases h : k0 = k
    · subst h
      by_cases h2 : k0 = k' <;> simp [aget, aset, h2]
    · by_cases h2 : k0 = k'
      · subst h2
        simp [aget, aset, h, Ne.symm h]
      · simp [aget, aset, h, h2, ih]

theorem akeys_aset (m : List (κ × ν)) (k : κ) (v : ν) :
    akeys (aset m k v) = if k ∈ akeys m then akeys m else akeys m ++ [k] := by
  induction m with
  | nil => rfl
  | cons x r ih =>
    by_cases h : x.1 = k
    · simp only [akeys, aset, h, if_true, List.map_cons, List.mem_cons, true_or]
    · have ih' : (aset r k v).map Prod.fst = _ := ih
      simp only [akeys, aset, h, if_false, List.map_cons, ih', List.mem_cons, Ne.symm h, false_or]
      by_cases h2 : k ∈ r.map Prod.fst <;> simp only [h2, if_true, if_false, List.cons_append]

theorem nodup_akeys_asetAll (m ws : List (κ × ν)) (h : (akeys m).Nodup) : (akeys (asetAll m ws)).Nodup := by
  induction ws generalizing m with
  | nil => exact h
  | cons w r ih =>
    refine ih _ ?_
    rw [akeys_aset]
    split
    · exact h
    · rename_i hk
      exact List.nodup_append.mpr ⟨h, List.pairwise_singleton _ _, fun a ha b hb => by
        rw [List.mem_singleton.mp hb]; rintro rfl; exact hk ha⟩

theorem mem_akeys_iff (m : List (κ × ν)) (k : κ) : k ∈ akeys m ↔ (aget m k).isSome := by
  induction m with
  | nil => exact ⟨nofun, nofun⟩
  | cons x r ih =>
    by_cases h : x.1 = k
    · simp only [akeys, List.map_cons, aget, h, if_true, List.mem_cons, true_or, Option.isSome_some]
    · simp only [aget, h, if_false, ← ih]
      exact ⟨fun hm => (List.mem_cons.mp hm).resolve_left (Ne.symm h), List.mem_cons_of_mem _⟩

omit [DecidableEq κ] in
theorem mem_akeys_of_mem {l : List (κ × ν)} {b : κ × ν} (h : b ∈ l) : b.1 ∈ akeys l :=
  List.mem_map_of_mem h

theorem asetAll_append (m a b : List (κ × ν)) : asetAll m (a ++ b) = asetAll (asetAll m a) b :=
  List.foldl_append

theorem aget_asetAll (ws m : List (κ × ν)) (k : κ) :
    aget (asetAll m ws) k = (lastWrite ws k).or (aget m k) := by
  induction ws generalizing m with
  | nil => rfl
  | cons w r ih =>
    rw [show asetAll m (w :: r) = asetAll (aset m w.1 w.2) r from rfl, ih]
    simp only [lastWrite, List.reverse_cons, aget_append, aget_aset, aget]
    by_cases hk : w.1 = k <;> simp [hk]

theorem mem_akeys_asetAll (m ws : List (κ × ν)) (k : κ) : k ∈ akeys (asetAll m ws) ↔ k ∈ akeys m ∨ k ∈ akeys ws := by
  rw [mem_akeys_iff, aget_asetAll, Option.isSome_or, Bool.or_eq_true, lastWrite, ← mem_akeys_iff, ← mem_akeys_iff, or_comm,
    akeys, akeys, List.map_reverse, List.mem_reverse, akeys]

/-- the writes to `k` in a sequence of writes, in their order -/
def writesTo (k : κ) (ws : List (κ × ν)) : List (κ × ν) := ws.filter fun x => decide (x.1 = k)

theorem writesTo_append (k : κ) (a b : List (κ × ν)) : writesTo k (a ++ b) = writesTo k a ++ writesTo k b :=
  List.filter_append a b

theorem writesTo_cons_self (w : κ × ν) (r : List (κ × ν)) : writesTo w.1 (w :: r) = w :: writesTo w.1 r :=
  List.filter_cons_of_pos (decide_eq_true rfl)

theorem writesTo_cons_of_ne {k : κ} {w : κ × ν} (h : w.1 ≠ k) (r : List (κ × ν)) : writesTo k (w :: r) = writesTo k r :=
  List.filter_cons_of_neg (mt of_decide_eq_true h)

theorem writesTo_eq_nil {k : κ} {ws : List (κ × ν)} (h : k ∉ akeys ws) : writesTo k ws = [] :=
  List.filter_eq_nil_iff.mpr fun _ hx hxk => h (of_decide_eq_true hxk ▸ mem_akeys_of_mem hx)

/-- writes to different keys commute -/
theorem aget_asetAll_writesTo (ws : List (κ × ν)) (k : κ) (m m' : List (κ × ν)) (hm : aget m k = aget m' k) :
    aget (asetAll m ws) k = aget (asetAll m' (writesTo k ws)) k := by
  induction ws generalizing m m' with
  | nil => exact hm
  | cons w r ih =>
    by_cases hw : w.1 = k
    · subst hw
      rw [writesTo_cons_self]
      exact ih _ _ (by rw [aget_aset, aget_aset, hm])
    · rw [writesTo_cons_of_ne hw]
      exact ih _ _ (by rw [aget_aset, if_neg hw, hm])

theorem aget_asetAll_congr {ws ws' : List (κ × ν)} {k : κ} (h : writesTo k ws = writesTo k ws') (m : List (κ × ν)) :
    aget (asetAll m ws) k = aget (asetAll m ws') k := by
  rw [aget_asetAll_writesTo ws k m m rfl, h, ← aget_asetAll_writesTo ws' k m m rfl]

variable {τ : Type} (own : τ → List (κ × ν)) {tasks : List τ}

omit [DecidableEq κ] in
theorem mem_akeys_flatMap (tasks : List τ) (k : κ) : k ∈ akeys (tasks.flatMap own) ↔ ∃ t ∈ tasks, k ∈ akeys (own t) := by
  rw [akeys, List.map_flatMap, List.mem_flatMap]; rfl

variable (hd : tasks.Pairwise fun a b => ∀ k, k ∈ akeys (own a) → k ∉ akeys (own b))
include hd

theorem writesTo_flatMap_owned {t : τ} (ht : t ∈ tasks) {k : κ} (hk : k ∈ akeys (own t)) : writesTo k (tasks.flatMap own) = writesTo k (own t) := by
  induction tasks with
  | nil => cases ht
  | cons a r ih =>
    have hp := List.pairwise_cons.mp hd
    rw [List.flatMap_cons, writesTo_append]
    rcases List.mem_cons.mp ht with rfl | htr
    · rw [writesTo_eq_nil fun h => (mem_akeys_flatMap own r k).mp h |>.elim fun b hb => hp.1 b hb.1 k hk hb.2,
        List.append_nil]
    · rw [writesTo_eq_nil fun ha => hp.1 t htr k ha hk, List.nil_append, ih hp.2 htr]

theorem writesTo_eq_flatMap (ws : List (κ × ν)) (hown : ∀ t ∈ tasks, ∀ k ∈ akeys (own t), writesTo k ws = writesTo k (own t))
    (honly : ∀ k ∈ akeys ws, ∃ t ∈ tasks, k ∈ akeys (own t)) (k : κ) :
    writesTo k ws = writesTo k (tasks.flatMap own) := by
  by_cases h : ∃ t ∈ tasks, k ∈ akeys (own t)
  · obtain ⟨t, ht, hk⟩ := h
    rw [hown t ht k hk, writesTo_flatMap_owned own hd ht hk]
  · rw [writesTo_eq_nil fun hk => h (honly k hk), writesTo_eq_nil fun hk => h ((mem_akeys_flatMap own tasks k).mp hk)]

theorem writesTo_flatMap_perm {tasks' : List τ} (hperm : tasks.Perm tasks') (k : κ) :
    writesTo k (tasks.flatMap own) = writesTo k (tasks'.flatMap own) := by
  have hd' := (hperm.pairwise_iff fun {a b} h k hb ha => h k ha hb).mp hd
  refine writesTo_eq_flatMap own hd' _ (fun t ht k hk => writesTo_flatMap_owned own hd (hperm.mem_iff.mpr ht) hk) ?_ k
  intro k hk
  obtain ⟨t, ht, hkt⟩ := (mem_akeys_flatMap own tasks k).mp hk
  exact ⟨t, hperm.mem_iff.mp ht, hkt⟩

end AList

/-! ### generic list facts -/

theorem filterMap_filter_of_imp {α β : Type} (l : List α) (g : α → Option β) (q : α → Bool)
    (h : ∀ a ∈ l, ∀ b, g a = some b → q a = true) : (l.filter q).filterMap g = l.filterMap g := by
  induction l with
  | nil => rfl
  | cons a r ih =>
    have ihr := ih fun a' ha' => h a' (List.mem_cons_of_mem _ ha')
    by_cases hq : q a = true
    · rw [List.filter_cons_of_pos hq, List.filterMap_cons, List.filterMap_cons, ihr]
    · rw [List.filter_cons_of_neg hq, ihr, List.filterMap_cons_none
        (Option.eq_none_iff_forall_ne_some.mpr fun b hb => hq (h a List.mem_cons_self b hb))]

theorem filterMap_getElem?_range {α : Type} (l : List α) :
    (List.range l.length).filterMap (fun j => l[j]?) = l := by
  induction l with
  | nil => rfl
  | cons a r ih =>
    rw [List.length_cons, List.range_succ_eq_map, List.filterMap_cons, List.filterMap_map]
    exact congrArg (a :: ·) ih

/-! ### the batch as a sequence of writes -/
section Batch
variable {P B R O T : Type} [DecidableEq P] [DecidableEq O]
variable (conv : P × B → R × List (O × T)) (tasks : List (P × B))

theorem foldl_stepEv (σ : List Ev) (s : State P R O T) :
    σ.foldl (stepEv conv tasks) s = ⟨asetAll s.results (σ.filterMap (evResult conv tasks)),
      asetAll s.tree (σ.filterMap (evWrite conv tasks))⟩ := by
  induction σ generalizing s with
  | nil => rfl
  | cons e r ih =>
    rw [List.foldl_cons, ih, List.filterMap_cons, List.filterMap_cons]
    unfold stepEv
    cases evWrite conv tasks e <;> cases evResult conv tasks e <;> rfl

theorem runSched_tree (σ : List Ev) :
    (runSched conv σ tasks).tree = asetAll [] (σ.filterMap (evWrite conv tasks)) :=
  congrArg State.tree (foldl_stepEv conv tasks σ State.init)

theorem runSched_results (σ : List Ev) :
    (runSched conv σ tasks).results = asetAll [] (σ.filterMap (evResult conv tasks)) :=
  congrArg State.results (foldl_stepEv conv tasks σ State.init)

theorem foldl_sequential (s : State P R O T) :
    tasks.foldl (fun s t => (⟨aset s.results t.1 (conv t).1, asetAll s.tree (conv t).2⟩ : State P R O T)) s
      = ⟨asetAll s.results (tasks.flatMap fun t => [(t.1, (conv t).1)]),
         asetAll s.tree (tasks.flatMap fun t => (conv t).2)⟩ := by
  induction tasks generalizing s with
  | nil => rfl
  | cons t r ih =>
    rw [List.foldl_cons, ih, List.flatMap_cons, List.flatMap_cons, asetAll_append, asetAll_append]
    rfl

theorem sequential_tree :
    (sequential conv tasks).tree = asetAll [] (tasks.flatMap (fun t => (conv t).2)) :=
  congrArg State.tree (foldl_sequential conv tasks State.init)

/-- the results dict is one more tree, in which task `t` writes the single pair `(t.1, (conv t).1)` -/
theorem sequential_results :
    (sequential conv tasks).results = asetAll [] (tasks.flatMap fun t => [(t.1, (conv t).1)]) :=
  congrArg State.results (foldl_sequential conv tasks State.init)

end Batch

/-! ### reading `validSched` -/

theorem valid_inRange {k : Nat} {nOuts : List Nat} {σ : List Ev} (h : validSched k nOuts σ = true) :
    ∀ e ∈ σ, e.task < nOuts.length := by
  simp only [validSched, Bool.and_eq_true, List.all_eq_true, decide_eq_true_eq] at h
  exact h.1.1

theorem valid_proj {k : Nat} {nOuts : List Nat} {σ : List Ev} (h : validSched k nOuts σ = true)
    (i : Nat) (hi : i < nOuts.length) :
    σ.filter (fun e => e.task == i) = taskEvents i (nOuts.getD i 0) := by
  simp only [validSched, Bool.and_eq_true, List.all_eq_true] at h
  exact eq_of_beq (h.1.2 i (List.mem_range.mpr hi))

theorem valid_workers {k : Nat} {nOuts : List Nat} {σ : List Ev} (h : validSched k nOuts σ = true) :
    workersOK k σ 0 = true := by
  simp only [validSched, Bool.and_eq_true] at h
  exact h.2

/-- **key lemma**: if the events of task `i`, in the schedule's order, write exactly `own tasks[i]` and no key belongs to two
tasks, every key receives the writes it receives when the tasks run one after the other.  Tree: `f := evWrite conv tasks`,
`own t := (conv t).2`; results: `f := evResult conv tasks`, `own t := [(t.1, (conv t).1)]`. -/
theorem interleaving_writes {κ ν τ : Type} [DecidableEq κ] (own : τ → List (κ × ν)) {tasks : List τ}
    (hd : tasks.Pairwise fun a b => ∀ k, k ∈ akeys (own a) → k ∉ akeys (own b))
    (f : Ev → Option (κ × ν)) {σ : List Ev} (hr : ∀ e ∈ σ, e.task < tasks.length)
    (hproj : ∀ i (hi : i < tasks.length), (σ.filter fun e => e.task == i).filterMap f = own tasks[i]) (k : κ) :
    writesTo k (σ.filterMap f) = writesTo k (tasks.flatMap own) := by
  have hmem : ∀ e (he : e ∈ σ) b, f e = some b → b ∈ own (tasks[e.task]'(hr e he)) := fun e he b hb => by
    rw [← hproj _ (hr e he)]
    exact List.mem_filterMap.mpr ⟨e, List.mem_filter.mpr ⟨he, beq_self_eq_true _⟩, hb⟩
  refine writesTo_eq_flatMap own hd _ ?_ ?_ k
  · intro t ht k hk
    obtain ⟨i, hi, rfl⟩ := List.mem_iff_getElem.mp ht
    rw [← hproj i hi, writesTo, writesTo, List.filter_filterMap, List.filter_filterMap, filterMap_filter_of_imp]
    intro e he b hb
    obtain ⟨hb, hbk⟩ := Option.filter_eq_some_iff.mp hb
    have hk' : k ∈ akeys (own (tasks[e.task]'(hr e he))) := of_decide_eq_true hbk ▸ mem_akeys_of_mem (hmem e he b hb)
    -- two tasks owning `k` are the same task
    have hp := List.pairwise_iff_getElem.mp hd
    rcases Nat.lt_trichotomy e.task i with h | h | h
    · exact absurd hk (hp _ _ (hr e he) hi h k hk')
    · exact beq_iff_eq.mpr h
    · exact absurd hk' (hp _ _ hi (hr e he) h k hk)
  · intro k hk
    obtain ⟨b, hb, rfl⟩ := List.mem_map.mp hk
    obtain ⟨e, he, hb⟩ := List.mem_filterMap.mp hb
    exact ⟨_, List.getElem_mem (hr e he), mem_akeys_of_mem (hmem e he b hb)⟩

section Batch
set_option linter.unusedSectionVars false
variable {P B R O T : Type} [DecidableEq P] [DecidableEq O]
variable (conv : P × B → R × List (O × T)) (tasks : List (P × B))

theorem evWrite_write {i : Nat} (hi : i < tasks.length) (j : Nat) :
    evWrite conv tasks (.write i j) = (conv tasks[i]).2[j]? := by
  rw [evWrite, List.getElem?_eq_getElem hi]; rfl

theorem evResult_finish {i : Nat} (hi : i < tasks.length) :
    evResult conv tasks (.finish i) = some (tasks[i].1, (conv tasks[i]).1) := by
  rw [evResult, List.getElem?_eq_getElem hi]; rfl

theorem writes_taskEvents (i : Nat) (hi : i < tasks.length) :
    (taskEvents i (conv tasks[i]).2.length).filterMap (evWrite conv tasks) = (conv tasks[i]).2 := by
  rw [taskEvents, List.filterMap_cons_none rfl, List.filterMap_append, List.filterMap_map,
    List.filterMap_cons_none rfl, List.filterMap_nil, List.append_nil,
    show evWrite conv tasks ∘ Ev.write i = fun j => (conv tasks[i]).2[j]? from funext (evWrite_write conv tasks hi),
    filterMap_getElem?_range]

theorem results_taskEvents (i : Nat) (hi : i < tasks.length) (n : Nat) :
    (taskEvents i n).filterMap (evResult conv tasks) = [(tasks[i].1, (conv tasks[i]).1)] := by
  rw [taskEvents, List.filterMap_cons_none rfl, List.filterMap_append, List.filterMap_map,
    List.filterMap_eq_nil_iff.mpr (fun _ _ => rfl : ∀ j ∈ List.range n, (evResult conv tasks ∘ Ev.write i) j = none),
    List.filterMap_cons_some (evResult_finish conv tasks hi)]
  rfl

/-- an event that writes `b` belongs to a task that has `b` among its outputs -/
theorem evWrite_some {e : Ev} {b : O × T} (h : evWrite conv tasks e = some b) :
    ∃ (hi : e.task < tasks.length), b ∈ (conv tasks[e.task]).2 := by
  cases e with
  | start i => cases h
  | finish i => cases h
  | write i j =>
    obtain ⟨t, ht, hb⟩ := Option.bind_eq_some_iff.mp h
    obtain ⟨hi, rfl⟩ := List.getElem?_eq_some_iff.mp ht
    exact ⟨hi, List.mem_of_getElem? hb⟩

theorem evResult_some {e : Ev} {x : P × R} (h : evResult conv tasks e = some x) :
    ∃ (hi : e.task < tasks.length), e = Ev.finish e.task ∧ x = (tasks[e.task].1, (conv tasks[e.task]).1) := by
  cases e with
  | start i => cases h
  | write i j => cases h
  | finish i =>
    obtain ⟨t, ht, hx⟩ := Option.map_eq_some_iff.mp h
    obtain ⟨hi, rfl⟩ := List.getElem?_eq_some_iff.mp ht
    exact ⟨hi, rfl, hx.symm⟩

theorem PathsDistinct.pairwise (hp : PathsDistinct tasks) :
    tasks.Pairwise fun a b => ∀ p, p ∈ akeys [(a.1, (conv a).1)] → p ∉ akeys [(b.1, (conv b).1)] :=
  (List.pairwise_map.mp hp).imp fun h _ ha hb => h ((List.mem_singleton.mp ha).symm.trans (List.mem_singleton.mp hb))

variable {k : Nat} {σ : List Ev} (hv : validSched k (nOutsOf conv tasks) σ = true)
include hv

theorem tree_eq (hd : OutputsDisjoint conv tasks) (o : O) :
    aget (runSched conv σ tasks).tree o = aget (sequential conv tasks).tree o := by
  have hlen : (nOutsOf conv tasks).length = tasks.length := List.length_map _
  rw [runSched_tree, sequential_tree]
  refine aget_asetAll_congr (interleaving_writes (fun t => (conv t).2) hd _ (hlen ▸ valid_inRange hv) ?_ o) []
  intro i hi
  rw [valid_proj hv i (hlen ▸ hi), nOutsOf, List.getD_eq_getElem?_getD, List.getElem?_map,
    List.getElem?_eq_getElem hi]
  exact writes_taskEvents conv tasks i hi

theorem results_eq (hp : PathsDistinct tasks) (p : P) :
    aget (runSched conv σ tasks).results p = aget (sequential conv tasks).results p := by
  have hlen : (nOutsOf conv tasks).length = tasks.length := List.length_map _
  rw [runSched_results, sequential_results]
  refine aget_asetAll_congr (interleaving_writes (fun t => [(t.1, (conv t).1)])
    (hp.pairwise conv) _ (hlen ▸ valid_inRange hv) ?_ p) []
  intro i hi
  rw [valid_proj hv i (hlen ▸ hi)]
  exact results_taskEvents conv tasks i hi _

omit hv

/-! the sequential loop -/

theorem seq_tree_get (hd : OutputsDisjoint conv tasks) {t : P × B} (ht : t ∈ tasks) {o : O}
    (ho : o ∈ akeys (conv t).2) : aget (sequential conv tasks).tree o = aget (alone conv t).tree o := by
  rw [sequential_tree]
  exact aget_asetAll_congr (writesTo_flatMap_owned (fun t => (conv t).2) hd ht ho) []

theorem seq_results_get (hp : PathsDistinct tasks) {t : P × B} (ht : t ∈ tasks) :
    aget (sequential conv tasks).results t.1 = some (conv t).1 := by
  rw [sequential_results, aget_asetAll_congr (writesTo_flatMap_owned (fun t => [(t.1, (conv t).1)])
    (hp.pairwise conv) ht (List.mem_singleton.mpr rfl)) []]
  exact if_pos rfl

end Batch
/-! ### strings: splitting at a separator, decimal numerals, posixpath facts -/

theorem append_cons_eq {α : Type} {c : α} {a a' b b' : List α} (h : a ++ c :: b = a' ++ c :: b') :
    a = a' ∨ (a ++ [c]) <+: a' ∨ (a' ++ [c]) <+: a := by
  rcases List.append_eq_append_iff.mp h with ⟨r, h1, h2⟩ | ⟨r, h1, h2⟩
  · cases r with
    | nil => exact .inl (by rw [h1, List.append_nil])
    | cons x r => exact .inr (.inl ⟨r, by rw [h1, (List.cons.inj h2).1, List.append_assoc]; rfl⟩)
  · cases r with
    | nil => exact .inl (by rw [h1, List.append_nil])
    | cons x r => exact .inr (.inr ⟨r, by rw [h1, (List.cons.inj h2).1, List.append_assoc]; rfl⟩)

theorem split_at_first {α : Type} {c : α} {a a' b b' : List α} (h : a ++ c :: b = a' ++ c :: b')
    (ha : c ∉ a) (ha' : c ∉ a') : a = a' ∧ b = b' := by
  rcases append_cons_eq h with rfl | hp | hp
  · exact ⟨rfl, (List.cons.inj (List.append_cancel_left h)).2⟩
  · exact absurd (hp.subset (List.mem_append_right a List.mem_cons_self)) ha'
  · exact absurd (hp.subset (List.mem_append_right a' List.mem_cons_self)) ha

theorem split_at_last {α : Type} {c : α} {a a' b b' : List α} (h : a ++ c :: b = a' ++ c :: b')
    (hb : c ∉ b) (hb' : c ∉ b') : a = a' ∧ b = b' := by
  have h' := congrArg List.reverse h
  simp only [List.reverse_append, List.reverse_cons, List.append_assoc, List.singleton_append] at h'
  have := split_at_first h' (by simpa using hb) (by simpa using hb')
  exact ⟨List.reverse_inj.mp this.2, List.reverse_inj.mp this.1⟩

theorem suffix_inj {d : Nat → Str} (hd : ∀ n, '_' ∉ d n) (hinj : ∀ {n m}, d n = d m → n = m) {p p' : Str} {i i' : Nat}
    (h : p ++ '_' :: (d i ++ dotLas) = p' ++ '_' :: (d i' ++ dotLas)) : p = p' ∧ i = i' := by
  rw [← List.cons_append, ← List.append_assoc, ← List.cons_append, ← List.append_assoc] at h
  have h3 := split_at_last ((List.append_left_inj dotLas).mp h) (hd i) (hd i')
  exact ⟨h3.1, hinj h3.2⟩

theorem dec_inj {n m : Nat} (h : dec n = dec m) : n = m := by
  have := congrArg (fun l => Nat.ofDigitChars 10 l 0) h
  simpa [dec] using this

theorem underscore_not_mem_dec (n : Nat) : '_' ∉ dec n := by
  simp [dec]

theorem pad4_inj {n m : Nat} (h : pad4 n = pad4 m) : n = m := by
  have := congrArg (fun l => Nat.ofDigitChars 10 l 0) h
  simpa [pad4, dec, Nat.ofDigitChars_append] using this

theorem underscore_not_mem_pad4 (n : Nat) : '_' ∉ pad4 n := by
  simp [pad4, dec, List.mem_replicate]

theorem underscore_not_mem_dotLas : '_' ∉ dotLas := by decide

theorem slash_not_mem_basename (p : Str) : '/' ∉ basename p := fun h =>
  absurd (List.all_eq_true.mp List.all_takeWhile _ (List.mem_reverse.mp h)) (by decide)

theorem mem_stemOfName {n : Str} {c : Char} (h : c ∈ stemOfName n) : c ∈ n := by
  unfold stemOfName at h
  split at h
  · simp only at h
    split at h
    · exact h
    · have h1 := List.mem_reverse.mp h
      have h2 := List.mem_of_mem_drop h1
      have h3 := (List.dropWhile_sublist _).mem h2
      exact List.mem_reverse.mp h3
  · exact h

theorem slash_not_mem_stem (p : Str) : '/' ∉ stemOfName (basename p) :=
  fun h => slash_not_mem_basename p (mem_stemOfName h)

/-- `join d` is injective on names that do not start with '/' -/
theorem join_inj {d a b : Str} (ha : a.head? ≠ some '/') (hb : b.head? ≠ some '/') (h : join d a = join d b) :
    a = b := by
  unfold join at h
  simp only [ha, hb, if_false] at h
  split at h
  · exact (List.append_right_inj d).mp h
  · have := (List.append_right_inj d).mp h
    simpa using this

theorem rpName_head (s : Str) (lf : Nat) (id : Str) (hs : '/' ∉ s) : (rpName s lf id).head? ≠ some '/' := by
  cases s with
  | nil => simp [rpName]
  | cons c r =>
    simp only [rpName, List.cons_append, List.head?_cons, ne_eq, Option.some.injEq]
    intro hc; exact hs (hc ▸ List.mem_cons_self)

theorem rpName_inj_same_stem {s : Str} {lf lf' : Nat} {id id' : Str}
    (h : rpName s lf id = rpName s lf' id') : lf = lf' ∧ id = id' := by
  unfold rpName at h
  have h1 := (List.append_right_inj s).mp h
  simp only [List.cons.injEq, true_and] at h1
  have h2 := split_at_first h1 (underscore_not_mem_dec lf) (underscore_not_mem_dec lf')
  exact ⟨dec_inj h2.1, (List.append_left_inj dotLas).mp h2.2⟩

theorem lasFileName_ok {p : Str} {lf : Nat} {id : List Nat} {x : Str} (h : lasFileName p lf id = .ok x) :
    ∃ s, asciiDecode id = .ok s ∧ x = join (dirname p) (rpName (stemOfName (basename p)) lf s) := by
  unfold lasFileName at h
  cases hd : asciiDecode id with
  | error e => rw [hd] at h; cases h
  | ok s => rw [hd] at h; cases h; exact ⟨s, rfl, rfl⟩

theorem rpName_stem_prefix {s s' : Str} {lf lf' : Nat} {id id' : Str}
    (h : rpName s lf id = rpName s' lf' id') :
    s = s' ∨ (s ++ ['_']) <+: s' ∨ (s' ++ ['_']) <+: s :=
  append_cons_eq h

theorem toNat_ofNat_of_lt {n : Nat} (h : n < 128) : (Char.ofNat n).toNat = n := by
  have hv : n.isValidChar := Or.inl (Nat.lt_trans h (by decide : 128 < 55296))
  rw [Char.ofNat, dif_pos hv]
  rfl

theorem asciiDecode_ok {a : List Nat} {s : Str} (h : asciiDecode a = .ok s) : s.map Char.toNat = a := by
  unfold asciiDecode at h
  split at h
  · rename_i hall
    cases h
    rw [List.map_map]
    exact (List.map_congr_left fun x hx =>
      toNat_ofNat_of_lt (of_decide_eq_true (List.all_eq_true.mp hall x hx))).trans (List.map_id' _)
  · cases h

theorem asciiDecode_inj {a b : List Nat} {s : Str} (ha : asciiDecode a = .ok s) (hb : asciiDecode b = .ok s) :
    a = b :=
  (asciiDecode_ok ha).symm.trans (asciiDecode_ok hb)

end TD.C12
