/-
C04 — the frame selector for NEGATIVE slice steps.  `TD.C15.Model` (`sliceAdjust`, `rangeList`) models
`slice(start, stop, step).indices(n)` / `range` for every non-zero step; the C15 theorems cover step ≥ 1.  Here the
negative half, in C04 because `pyBoundNeg`/`pySelectedNeg` specify C04's frame selector for such steps.
-/
import TD.C15.Props

namespace TD.C04
open TD.C15

/-- Python's bound for a negative step: relative to the end when negative, then clamped into `[-1, n-1]`. -/
def pyBoundNeg (a : Option Int) (dflt : Int) (n : Nat) : Int :=
  match a with
  | none => dflt
  | some a => max (-1) (min ((n : Int) - 1) (if a < 0 then a + n else a))

/-- the positions `xs[start:stop:step]` picks for a negative step: from the clamped start downwards, above the
clamped stop, every `|step|`-th -/
def pySelectedNeg (start stop : Option Int) (st : Int) (n : Nat) (i : Int) : Prop :=
  pyBoundNeg stop (-1) n < i ∧ i ≤ pyBoundNeg start ((n : Int) - 1) n ∧ (pyBoundNeg start ((n : Int) - 1) n - i) % (-st) = 0

theorem pyBoundNeg_mem_range (a : Option Int) {d : Int} {n : Nat} (h0 : -1 ≤ d) (hn : d ≤ (n : Int) - 1) :
    -1 ≤ pyBoundNeg a d n ∧ pyBoundNeg a d n ≤ (n : Int) - 1 := by
  cases a with
  | none => exact ⟨h0, hn⟩
  | some a => exact ⟨le_max_left _ _, max_le (by omega) (min_le_left _ _)⟩

theorem slice_adjust_neg (start stop step : Option Int) (n : Nat) (hst : step.getD 1 < 0) :
    sliceAdjust start stop step n =
      .ok (pyBoundNeg start ((n : Int) - 1) n, pyBoundNeg stop (-1) n, step.getD 1) := by
  unfold sliceAdjust
  simp only [show ¬ step.getD 1 = 0 by omega, if_false, show ¬ step.getD 1 > 0 by omega]
  congr 2
  · cases start with
    | none => rfl
    | some a => exact adjust_eq_clamp a n (-1) (n - 1) le_rfl (by decide) le_rfl (by omega) (by omega)
  · congr 1
    cases stop with
    | none => rfl
    | some a => exact adjust_eq_clamp a n (-1) (n - 1) le_rfl (by decide) le_rfl (by omega) (by omega)

/-- **Slice, negative step**: an index is generated iff Python slicing selects it; the list is strictly decreasing
(rows come out in reverse order) and every index is inside the sequence. -/
theorem slice_indices_mem_iff_neg (start stop step : Option Int) (n : Nat) (hst : step.getD 1 < 0) :
    ∃ l, sliceIndices start stop step n = .ok l ∧
      (∀ i, i ∈ l ↔ pySelectedNeg start stop (step.getD 1) n i) ∧
      l.Pairwise (· > ·) ∧ (∀ i ∈ l, 0 ≤ i ∧ i < n) := by
  refine ⟨_, sliceIndices_of_adjust (slice_adjust_neg _ _ _ _ hst), mem_rangeList_neg hst,
    rangeList_pairwise_neg hst, fun i hi => ?_⟩
  have := (mem_rangeList_neg hst i).1 hi
  have hb0 := (pyBoundNeg_mem_range stop (n := n) le_rfl (by omega)).1
  have hb1 := (pyBoundNeg_mem_range start (n := n) (by omega) le_rfl).2
  omega

/-- as a list: the decreasing enumeration of the selected positions, i.e. `list(range(n))[start:stop:step]` -/
theorem slice_indices_eq_python_neg (start stop step : Option Int) (n : Nat) (hst : step.getD 1 < 0) :
    sliceIndices start stop step n =
      .ok ((((List.range n).map (fun (k : Nat) => (k : Int))).reverse).filter
            (fun i => decide (pyBoundNeg stop (-1) n < i ∧ i ≤ pyBoundNeg start ((n : Int) - 1) n ∧
              (pyBoundNeg start ((n : Int) - 1) n - i) % (-(step.getD 1)) = 0))) := by
  obtain ⟨l, hl, hmem, hsorted, hbnd⟩ := slice_indices_mem_iff_neg start stop step n hst
  rw [hl]
  exact congrArg _ (eq_filter_reverse_range_of_pairwise_gt (p := fun i => pyBoundNeg stop (-1) n < i ∧
    i ≤ pyBoundNeg start ((n : Int) - 1) n ∧ (pyBoundNeg start ((n : Int) - 1) n - i) % (-(step.getD 1)) = 0)
    hsorted hbnd hmem)

end TD.C04
