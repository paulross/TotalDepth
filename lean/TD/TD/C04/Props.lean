import TD.C04.Lemmas
import TD.C04.SliceNeg

/-!
# C04 — DLIS frame arrays hold exactly the recorded values; sub-selection commutes

Property theorems and the predicates they need.  The model (`TD.C04.Model`) transcribes `LogicalFile.populate_frame_array`, `add_iflr`,
`RP66V1FrameArray.read/read_partial`, `RP66V1FrameChannel.read/seek`, `FrameChannel.init_array`; the frame selectors are
the model of `common/Slice.py` proved in `TD.C15`.  The specification (`TD.C04.Spec`) encodes recorded frames and states
what a population is: rows and columns of the recorded values.
-/
namespace TD.C04
open TD.C03 (Bytes Value ObName Rec)
open TD.C15 (Selector)

/-- the selectors the property quantifies over: every frame, every Python slice (any non-zero step, **negative steps
included** — `slice(start, stop, 0)` is a `ValueError` in Python itself), a sample of at least one -/
def selOk : Option Selector → Prop
  | none => True
  | some (.slice _ _ c) => c.getD 1 ≠ 0
  | some (.sample s) => 0 < s

/-- **What a slice selects, and in which order** (both signs of the step).  The frame indexes generated for
`Slice(start, stop, step)` are exactly `list(range(n))[start:stop:step]`: for a positive step the increasing
enumeration of the positions between the clamped bounds (C15 `slice_indices_eq_python`), for a negative step the
*decreasing* enumeration from the clamped start down to above the clamped stop — so rows are populated in reverse
order — and the reported count is the length of that list. -/
theorem slice_selects_python (a b c : Option Int) (n : Nat) (h : c.getD 1 ≠ 0) :
    ∃ l, TD.C15.sliceIndices a b c n = .ok l ∧ TD.C15.sliceCount a b c n = .ok l.length ∧
      (0 < c.getD 1 → l = (((List.range n).map (fun (k : Nat) => (k : Int))).filter
          (fun i => decide (TD.C15.pyBound a 0 n ≤ i ∧ i < TD.C15.pyBound b n n ∧
            (i - TD.C15.pyBound a 0 n) % (c.getD 1) = 0)))) ∧
      (c.getD 1 < 0 → l = ((((List.range n).map (fun (k : Nat) => (k : Int))).reverse).filter
          (fun i => decide (pyBoundNeg b (-1) n < i ∧ i ≤ pyBoundNeg a ((n : Int) - 1) n ∧
            (pyBoundNeg a ((n : Int) - 1) n - i) % (-(c.getD 1)) = 0)))) := by
  rcases Int.lt_or_gt_of_ne h with hneg | hpos
  · have h1 := slice_indices_eq_python_neg a b c n hneg
    refine ⟨_, h1, TD.C15.sliceCount_of_indices h1, fun hp => by omega, fun _ => rfl⟩
  · have h1 := TD.C15.slice_indices_eq_python a b c n hpos
    refine ⟨_, h1, TD.C15.sliceCount_of_indices h1, fun _ => rfl, fun hn => by omega⟩

/-- The frame indexes a selector yields are inside the frame range and their number is the reported count
(from C15: `slice_indices_mem_iff`, `sample_count`, `sample_shape`; negative steps: `slice_indices_mem_iff_neg`). -/
theorem selector_indices (sel : Option Selector) (n : Nat) (h : selOk sel) :
    ∃ idx cnt, selIndices sel n = .ok (idx, cnt) ∧ (∀ i ∈ idx, i < n) ∧ idx.length = cnt := by
  cases sel with
  | none => exact ⟨List.range n, n, rfl, fun i hi => List.mem_range.1 hi, by simp⟩
  | some s =>
    cases s with
    | slice a b c =>
      have hl' : ∃ l, TD.C15.sliceIndices a b c n = .ok l ∧ ∀ i ∈ l, 0 ≤ i ∧ i < n := by
        rcases Int.lt_or_gt_of_ne (show c.getD 1 ≠ 0 from h) with hneg | hpos
        · obtain ⟨l, hl, _, _, hb⟩ := slice_indices_mem_iff_neg a b c n hneg
          exact ⟨l, hl, hb⟩
        · obtain ⟨l, hl, _, _, hb⟩ := TD.C15.slice_indices_mem_iff a b c n hpos
          exact ⟨l, hl, hb⟩
      obtain ⟨l, hl, hb⟩ := hl'
      refine ⟨l.map Int.toNat, l.length, ?_, ?_, by simp⟩
      · simp only [selIndices, hl, TD.C15.sliceCount_of_indices hl]
      · intro i hi
        obtain ⟨j, hj, rfl⟩ := List.mem_map.1 hi
        have := hb j hj
        omega
    | sample s =>
      have h1 := TD.C15.sample_count n s h
      have h2 := TD.C15.sample_shape n s h
      exact ⟨TD.C15.sampleIndices n s, TD.C15.sampleCount n s, rfl, h2.2.2.1, h1.2.symm⟩

/-- one selector OBJECT applied, one after the other, to frame arrays of the lengths `ns` (as `ToLAS` does with one
`--frame-slice` across frame types): as coded a `Slice` holds only the builtin `slice` and a `Sample` only its size —
nothing is remembered from one length to the next -/
def applyAll (sel : Option Selector) (ns : List Nat) : List (Except Err (List Nat × Nat)) := ns.map (selIndices sel)

/-- **Selection is a function of (selector value, n) only**: whatever lengths the same selector object was applied to
before (shorter, longer, any number of times), the indexes and count it yields for length `n` are `selIndices sel n`
— with `selector_indices`/`slice_selects_python`, Python slicing of `range(n)`. -/
theorem selector_reuse_stateless (sel : Option Selector) (before after : List Nat) (n : Nat) :
    (applyAll sel (before ++ n :: after))[before.length]? = some (selIndices sel n) := by
  simp [applyAll]

example : (applyAll (some (.slice none none (some (-1)))) ([2] ++ 5 :: []))[[2].length]? = some (.ok ([4, 3, 2, 1, 0], 5)) := by
  rw [selector_reuse_stateless]; rfl

/-- **Sub-selection commutes, for every prior storage.**  Let the position map of the frame type point at the frame
records holding `rows` (`fetchOk`), let `arrs` be *any* storage with one array per channel (whatever earlier calls
left there), `sel` any selector and `chans` any channel subset.  Then the selector yields indexes `idx` inside the frame
range, and (when it selects at least one frame) `populate` succeeds, returns `idx.length`, and leaves exactly
`expectArrays chans (rows at idx)`: for every selected channel — the first always — the `idx`-rows of that channel's
recorded values, element by element in row-major order; for every other channel an empty array. -/
theorem populate_commutes (ft : FrameType) (recs : List Rec) (posmap : List (ObName × List IflrRef))
    (iflrs : List IflrRef) (rows : List (List (List Value))) (arrs : List Arr)
    (sel : Option Selector) (chans : Option (List Bytes))
    (hname : TD.C03.obnameOk ft.name) (hch : ∀ c ∈ ft.chans, chanOk c)
    (hmap : posmap.lookup ft.name = some iflrs) (hf : fetchOk ft recs iflrs rows)
    (harrs : arrs.length = ft.chans.length) (hsel : selOk sel) :
    ∃ idx, (∀ i ∈ idx, i < rows.length) ∧ selIndices sel rows.length = .ok (idx, idx.length) ∧
      (idx ≠ [] → populate ft recs posmap arrs sel chans =
        .ok (expectArrays chans 0 ft.chans (idx.map (fun i => rows.getD i [])), idx.length)) := by
  obtain ⟨idx, cnt, hsi, hb, hl⟩ := selector_indices sel rows.length hsel
  subst hl
  refine ⟨idx, hb, hsi, ?_⟩
  intro hne
  have hn0 : idx.length ≠ 0 := by
    intro h; exact hne (List.length_eq_zero_iff.1 h)
  obtain ⟨arrs0, hinit, hshape⟩ := initArrays_shape chans idx.length ft.chans 0 arrs harrs
  have hloop := populateLoop_fold ft recs iflrs rows chans idx.length hname hch hf idx 0 arrs0 hb (by simp) hshape
  have hrows : rowsOk ft.chans (idx.map (fun i => rows.getD i [])) := by
    intro r hr
    obtain ⟨i, hi, rfl⟩ := List.mem_map.1 hr
    have hi' : i < iflrs.length := by rw [hf.1]; exact hb i hi
    obtain ⟨_, _, _, _, _, hv⟩ := hf.2 i hi'
    exact hv
  have hexp := foldRows_expect chans idx.length ft.chans 0 (idx.map (fun i => rows.getD i [])) arrs0 (by simp) hrows hshape
  unfold populate
  rw [hmap]
  simp only [hf.1, hsi, hn0, if_false, hinit, hloop, hexp]

/-- **Every value.**  Populating without a selector gives, for every frame, channel and element, exactly the recorded
value, and the frame count is the number of (non-empty) frame records of the type. -/
theorem populate_all_values (ft : FrameType) (recs : List Rec) (posmap : List (ObName × List IflrRef))
    (iflrs : List IflrRef) (rows : List (List (List Value))) (arrs : List Arr)
    (hname : TD.C03.obnameOk ft.name) (hch : ∀ c ∈ ft.chans, chanOk c)
    (hmap : posmap.lookup ft.name = some iflrs) (hf : fetchOk ft recs iflrs rows)
    (harrs : arrs.length = ft.chans.length) (hne : rows ≠ []) :
    populate ft recs posmap arrs none none = .ok (expectArrays none 0 ft.chans rows, rows.length) := by
  obtain ⟨idx, _, hsi, hp⟩ := populate_commutes ft recs posmap iflrs rows arrs none none hname hch hmap hf harrs trivial
  obtain rfl : List.range rows.length = idx := (Prod.mk.inj (Except.ok.inj hsi)).1
  have hid : (List.range rows.length).map (fun i => rows.getD i []) = rows :=
    List.ext_getElem (by simp) fun i h1 _ => by simp at h1; simp [h1]
  have := hp (by simpa using hne)
  rwa [hid, List.length_range] at this

/-- **History independence.**  Whatever two storages earlier populate calls (or the indexing pass) left behind, the
same call gives the same result — value, frame count or error; together with `populate_commutes` (the resulting storage
again has one array per channel) this lifts to every sequence of calls: the state after a call is a function of that
call only.  Covers the array-reuse path of `FrameChannel.init_array`. -/
theorem populate_history_independent (ft : FrameType) (recs : List Rec) (posmap : List (ObName × List IflrRef))
    (iflrs : List IflrRef) (rows : List (List (List Value))) (arrs arrs' : List Arr)
    (sel : Option Selector) (chans : Option (List Bytes))
    (hname : TD.C03.obnameOk ft.name) (hch : ∀ c ∈ ft.chans, chanOk c)
    (hmap : posmap.lookup ft.name = some iflrs) (hf : fetchOk ft recs iflrs rows)
    (harrs : arrs.length = ft.chans.length) (harrs' : arrs'.length = ft.chans.length) (hsel : selOk sel) :
    populate ft recs posmap arrs sel chans = populate ft recs posmap arrs' sel chans := by
  obtain ⟨idx, _, hsi, hp⟩ := populate_commutes ft recs posmap iflrs rows arrs sel chans hname hch hmap hf harrs hsel
  obtain ⟨idx', _, hsi', hp'⟩ := populate_commutes ft recs posmap iflrs rows arrs' sel chans hname hch hmap hf harrs' hsel
  obtain rfl : idx = idx' := (Prod.mk.inj (Except.ok.inj (hsi.symm.trans hsi'))).1
  by_cases hne : idx = []
  · subst hne
    unfold populate
    simp [hmap, hf.1, hsi]
  · rw [hp hne, hp' hne]

/-! ## The position map -/

/-- the references computed for frame type `k` are, in file order, one per frame record of the type that has data,
carrying its frame number and the values of its first channel -/
theorem refsOf_spec (k : Nat) : ∀ (items : List (Rec ⊕ FrameA)) (pos : Nat),
    (refsOf k pos items).map (fun r => r.frameNo) = frameNosOf k (framesIn items) ∧
    (refsOf k pos items).map (fun r => r.x) = (rowsOf k (framesIn items)).map (fun row => row.headD []) ∧
    (refsOf k pos items).length = (rowsOf k (framesIn items)).length ∧
    (refsOf k pos items).Pairwise (fun a b => a.pos < b.pos) ∧ (∀ r ∈ refsOf k pos items, pos ≤ r.pos)
  | [], pos => ⟨rfl, rfl, rfl, List.Pairwise.nil, fun _ h => nomatch h⟩
  | it :: its, pos => by
    obtain ⟨h1, h2, h3, h4, h5⟩ := refsOf_spec k its (pos + 1)
    obtain ⟨e1, e2, e3⟩ := cons_rowOf k pos it its
    rw [e1, e2, e3]
    cases rowOf k it with
    | none => exact ⟨h1, h2, h3, h4, fun r hr => Nat.le_of_succ_le (h5 r hr)⟩
    | some p =>
      refine ⟨congrArg (p.1 :: ·) h1, congrArg (p.2.headD [] :: ·) h2, congrArg (· + 1) h3,
        List.pairwise_cons.2 ⟨fun r hr => h5 r hr, h4⟩, fun r hr => ?_⟩
      rcases List.mem_cons.1 hr with rfl | hr
      · exact le_rfl
      · exact Nat.le_of_succ_le (h5 r hr)

/-- **X and frame number.**  For any file whose records are frame records of a well-formed log pass (any interleaving
of frame types, frame records without data, any frame numbers) mixed with arbitrary records the IFLR index skips
(encrypted records, EFLRs), indexing succeeds and the position map holds for every frame type, in file order,
exactly one entry per frame record of that type with data: its position, its recorded frame number and the values of
its first channel. -/
theorem x_and_frameno (lp : List FrameType) (hlp : lpOk lp) (items : List (Rec ⊕ FrameA))
    (hskip : ∀ r, .inl r ∈ items → (r.encrypted || r.isEflr) = true) (hfr : ∀ f, .inr f ∈ items → frameOk lp f) :
    ∃ m, indexIflrs lp 0 (items.map (toRec lp)) [] = .ok m ∧
      ∀ k ft, lp[k]? = some ft →
        (m.lookup ft.name).getD [] = refsOf k 0 items ∧
        ((m.lookup ft.name).getD []).map (fun r => r.frameNo) = frameNosOf k (framesIn items) ∧
        ((m.lookup ft.name).getD []).map (fun r => r.x) = (rowsOf k (framesIn items)).map (fun row => row.headD []) := by
  obtain ⟨m, h1, h2⟩ := index_spec lp hlp items 0 [] hskip hfr
  refine ⟨m, h1, ?_⟩
  intro k ft hk
  have := h2 k ft hk
  simp only [List.lookup, Option.getD_none, List.nil_append] at this
  obtain ⟨s1, s2, _, _, _⟩ := refsOf_spec k items 0
  exact ⟨this, by rw [this]; exact s1, by rw [this]; exact s2⟩

/-- **Frame count.**  The number of frames the index holds for a frame type (what `populate` without a selector
returns, see `populate_all_values`) is the number of frame records of that type that carry data. -/
theorem frame_count (lp : List FrameType) (hlp : lpOk lp) (items : List (Rec ⊕ FrameA))
    (hskip : ∀ r, .inl r ∈ items → (r.encrypted || r.isEflr) = true) (hfr : ∀ f, .inr f ∈ items → frameOk lp f) :
    ∃ m, indexIflrs lp 0 (items.map (toRec lp)) [] = .ok m ∧
      ∀ k ft, lp[k]? = some ft → ((m.lookup ft.name).getD []).length = (rowsOf k (framesIn items)).length := by
  obtain ⟨m, h1, h2⟩ := x_and_frameno lp hlp items hskip hfr
  refine ⟨m, h1, ?_⟩
  intro k ft hk
  rw [(h2 k ft hk).1]
  exact (refsOf_spec k items 0).2.2.1

/-- **The position map points at the right records.**  Entry `j` of the references computed for frame type `k` is the
position of the frame record that encodes row `j` of that type (this is the hypothesis `fetchOk` of the populate
theorems). -/
theorem fetch_of_refs (lp : List FrameType) (k : Nat) (ft : FrameType) (hk : lp[k]? = some ft) :
    ∀ (items : List (Rec ⊕ FrameA)) (pre : List Rec), (∀ f, .inr f ∈ items → frameOk lp f) →
      fetchOk ft (pre ++ items.map (toRec lp)) (refsOf k pre.length items) (rowsOf k (framesIn items))
  | [], pre, _ => ⟨rfl, fun j hj => nomatch hj⟩
  | it :: its, pre, hfr => by
    have ih := fetch_of_refs lp k ft hk its (pre ++ [toRec lp it]) (fun f hf => hfr f (List.mem_cons_of_mem _ hf))
    rw [List.append_assoc, List.length_append] at ih
    obtain ⟨e1, e2, _⟩ := cons_rowOf k pre.length it its
    rw [e1, e2, List.map_cons]
    cases h : rowOf k it with
    | none => exact ih
    | some p =>
      obtain ⟨f, rfl, hft, _, hv⟩ := rowOf_eq_some h
      obtain ⟨hfno, hrest⟩ := hfr f (List.mem_cons_self ..)
      rw [hft, hk] at hrest
      simp only [hv] at hrest
      refine ⟨congrArg (· + 1) ih.1, fun j hj => ?_⟩
      cases j with
      | zero =>
        refine ⟨frameRec lp f, f.frameNo, by simp [toRec], hfno, ?_, hrest.1⟩
        simp [frameRec, hft, hk, hv]
      | succ j =>
        obtain ⟨r, fno, h1, h2, h3, h4⟩ := ih.2 j (Nat.lt_of_succ_lt_succ hj)
        exact ⟨r, fno, h1, h2, h3, h4⟩

/-- **Index and populate, end to end.**  For any well-formed log pass, any file made of its frame records (any
interleaving of frame types, data-less frame records, any frame numbers) mixed with records the index skips, any prior
storage, any selector and any channel subset: indexing succeeds and populating frame type `k` gives exactly the selected
rows and channels of the recorded values of that type. -/
theorem populate_indexed (lp : List FrameType) (hlp : lpOk lp) (items : List (Rec ⊕ FrameA))
    (hskip : ∀ r, .inl r ∈ items → (r.encrypted || r.isEflr) = true) (hfr : ∀ f, .inr f ∈ items → frameOk lp f)
    (k : Nat) (ft : FrameType) (hk : lp[k]? = some ft) (arrs : List Arr) (harrs : arrs.length = ft.chans.length)
    (sel : Option TD.C15.Selector) (chans : Option (List Bytes)) (hsel : selOk sel) :
    ∃ m idx, indexIflrs lp 0 (items.map (toRec lp)) [] = .ok m ∧
      (∀ i ∈ idx, i < (rowsOf k (framesIn items)).length) ∧
      selIndices sel (rowsOf k (framesIn items)).length = .ok (idx, idx.length) ∧
      (idx ≠ [] → populate ft (items.map (toRec lp)) m arrs sel chans =
        .ok (expectArrays chans 0 ft.chans (idx.map (fun i => (rowsOf k (framesIn items)).getD i [])), idx.length)) := by
  obtain ⟨m, hm, hx⟩ := x_and_frameno lp hlp items hskip hfr
  have hrefs := (hx k ft hk).1
  obtain ⟨hname, _, hch⟩ := hlp.2 ft (List.mem_of_getElem? hk)
  have hfetch : fetchOk ft (items.map (toRec lp)) (refsOf k 0 items) _ := fetch_of_refs lp k ft hk items [] hfr
  cases hl : m.lookup ft.name with
  | some refs =>
    rw [hl] at hrefs
    subst hrefs
    obtain ⟨idx, hb, hsi, hp⟩ := populate_commutes ft _ m _ _ arrs sel chans hname hch hl hfetch harrs hsel
    exact ⟨m, idx, hm, hb, hsi, hp⟩
  | none =>
    rw [hl] at hrefs
    obtain ⟨idx, cnt, hsi, hb, rfl⟩ := selector_indices sel (rowsOf k (framesIn items)).length hsel
    refine ⟨m, idx, hm, hb, hsi, fun hne => ?_⟩
    obtain ⟨i, l, rfl⟩ := List.exists_cons_of_ne_nil hne
    have := hb i (List.mem_cons_self ..)
    rw [← hfetch.1, ← hrefs] at this
    exact absurd this (Nat.not_lt_zero _)

/-! ## The log pass: channel order is the Frame's order -/

theorem find_ident (defs : List Chan) (hnd : (defs.map Chan.ident).Nodup) (c : Chan) (hc : c ∈ defs) :
    defs.find? (fun d => d.ident = c.ident) = some c := by
  induction defs with
  | nil => simp at hc
  | cons d ds ih =>
    have hnd' := List.nodup_cons.1 (show (d.ident :: ds.map Chan.ident).Nodup from hnd)
    rcases List.mem_cons.1 hc with rfl | hmem
    · simp [List.find?]
    · have hne : d.ident ≠ c.ident := by
        intro e; apply hnd'.1; rw [e]; exact List.mem_map_of_mem hmem
      simp [List.find?, hne, ih hnd'.2 hmem]

/-- **Frame-array channels are the Frame's CHANNELS list, in that order.**  Whatever order the CHANNEL set defines its
objects in (`defs`: reversed, sorted, shuffled, the index channel defined last, channels of several frames interleaved,
channels no frame uses), the channels picked for a Frame that lists `cs` are exactly `cs` in the listed order — so the
first listed channel is the X axis and frame-record values are decoded with the listed channels' codes and dimensions. -/
theorem frame_channels_in_listed_order (defs : List Chan) (hnd : (defs.map Chan.ident).Nodup) (cs : List Chan)
    (hcs : ∀ c ∈ cs, c ∈ defs) : pickChans defs (cs.map Chan.ident) = .ok cs := by
  induction cs with
  | nil => rfl
  | cons c cs ih =>
    simp only [List.map_cons, pickChans, find_ident defs hnd c (hcs c (by simp)),
      ih (fun x hx => hcs x (by simp [hx]))]

/-- **Permutation invariance**: two CHANNEL sets with the same objects in different definition orders give the same
frame array. -/
theorem frame_channels_perm_invariant (defs defs' : List Chan) (hp : defs.Perm defs')
    (hnd : (defs.map Chan.ident).Nodup) (cs : List Chan) (hcs : ∀ c ∈ cs, c ∈ defs) :
    pickChans defs (cs.map Chan.ident) = pickChans defs' (cs.map Chan.ident) := by
  rw [frame_channels_in_listed_order defs hnd cs hcs,
    frame_channels_in_listed_order defs' ((hp.map Chan.ident).nodup_iff.1 hnd) cs (fun c hc => hp.mem_iff.1 (hcs c hc))]

/-- the whole log pass: one frame array per FRAME object in FRAME-set order, each with its listed channels -/
theorem log_pass_from_tables (defs : List Chan) (hnd : (defs.map Chan.ident).Nodup) :
    ∀ (lp : List FrameType), (∀ ft ∈ lp, ∀ c ∈ ft.chans, c ∈ defs) →
      buildLogPass defs (lp.map (fun ft => (ft.name, ft.chans.map Chan.ident))) = .ok lp
  | [], _ => rfl
  | ft :: lp, h => by
    simp only [List.map_cons, buildLogPass, frame_channels_in_listed_order defs hnd ft.chans (h ft (by simp)),
      log_pass_from_tables defs hnd lp (fun f hf => h f (by simp [hf]))]

example : pickChans [⟨[66], 13, [2]⟩, ⟨[90], 7, [1]⟩, ⟨[65], 2, [1]⟩] [[65], [66]] = .ok [⟨[65], 2, [1]⟩, ⟨[66], 13, [2]⟩] := by
  decide

/-! non-vacuity: two interleaved frame types, a 2×2 channel, a data-less frame record and an encrypted record -/
def exLp : List FrameType :=
  [⟨⟨1, 0, [70, 48]⟩, [⟨[88], 2, [1]⟩, ⟨[65], 13, [2, 2]⟩]⟩, ⟨⟨1, 0, [70, 49]⟩, [⟨[89], 17, [1]⟩]⟩]
def exItems : List (Rec ⊕ FrameA) :=
  [.inr ⟨0, 1, some [[.word 2 1065353216], [.int 1, .int (-2), .int 3, .int 4]]⟩, .inl ⟨true, false, 0, [1, 2]⟩,
   .inr ⟨1, 1, some [[.int 7]]⟩, .inr ⟨0, 2, none⟩,
   .inr ⟨0, 2, some [[.word 2 1073741824], [.int 5, .int 6, .int 7, .int 8]]⟩]

example : lpOk exLp := by
  unfold lpOk exLp chanOk TD.C03.obnameOk
  decide
example : ∀ r, .inl r ∈ exItems → (r.encrypted || r.isEflr) = true := by
  intro r hr; simp [exItems] at hr; subst hr; rfl
example : rowsOf 0 (framesIn exItems) = [[[.word 2 1065353216], [.int 1, .int (-2), .int 3, .int 4]],
    [[.word 2 1073741824], [.int 5, .int 6, .int 7, .int 8]]] := by decide
example : (indexIflrs exLp 0 (exItems.map (toRec exLp)) []).toOption.map (fun m => m.map (fun e => e.2.map (fun r => (r.pos, r.frameNo)))) =
    some [[(0, 1), (4, 2)], [(2, 1)]] := by rfl
example : selOk (some (.slice (some 1) none (some 2))) := by simp [selOk]
example : selOk (some (.slice (some 25) (some 3) (some (-4)))) := by simp [selOk]
example : TD.C15.sliceIndices (some 25) (some 3) (some (-4)) 10 = .ok [9, 5] := by decide

end TD.C04
