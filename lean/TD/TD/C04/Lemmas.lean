/-
C04 — helper lemmas: one frame read into the storage, the populate loop as a fold of row writes, the position map.
-/
import TD.C03.LemmasLF
import TD.C04.Model
import TD.C04.Spec

namespace TD.C04
open TD.C03 (Bytes Value ObName Rec readValues readIflrHeader encValues encValue encIflr valOk obnameOk beEnc)

/-! ### fixed widths -/

theorem encValue_length (rc : Nat) (v : Value) (w : Nat) (hw : fixedLen rc = some w) (hv : valOk rc v = true) :
    (encValue rc v).length = w := by
  cases v with
  | word c x =>
    simp only [valOk, decide_eq_true_eq] at hv
    obtain ⟨rfl, ⟨rfl | rfl | rfl, _⟩ | ⟨rfl, _⟩⟩ := hv <;> cases hw <;> exact TD.C03.beEnc_length _ _
  | int x =>
    simp only [valOk, decide_eq_true_eq] at hv
    rcases hv with ⟨rfl, _⟩ | ⟨rfl, _⟩ | ⟨rfl, _⟩ | ⟨rfl | rfl, _⟩ | ⟨rfl, _⟩ | ⟨rfl, _⟩ | ⟨rfl | rfl, _⟩ <;> cases hw
    · rfl
    · exact TD.C03.beEnc_length 2 _
    · exact TD.C03.beEnc_length 4 _
    · rfl
    · rfl
    · exact TD.C03.beEnc_length 2 _
    · exact TD.C03.beEnc_length 4 _
  | bytes b =>
    simp only [valOk, decide_eq_true_eq] at hv
    rcases hv with ⟨rfl | rfl, _⟩ | ⟨rfl, _⟩ <;> cases hw
  | dtime y tz mo d h mi s ms =>
    simp only [valOk, decide_eq_true_eq] at hv
    obtain ⟨rfl, _⟩ := hv
    cases hw; rfl
  | obname o c i =>
    simp only [valOk, decide_eq_true_eq] at hv
    obtain ⟨rfl, _⟩ := hv
    cases hw
  | objref t o c i =>
    simp only [valOk, decide_eq_true_eq] at hv
    obtain ⟨rfl, _⟩ := hv
    cases hw

theorem fixedLen_numeric (rc : Nat) (hn : numericCode rc = true) : ∃ w, fixedLen rc = some w := by
  have h17 : rc ≤ 17 := by
    simp only [numericCode, Bool.or_eq_true, decide_eq_true_eq] at hn; omega
  have table : ∀ r ≤ 17, numericCode r = true → (fixedLen r).isSome = true := by decide
  exact Option.isSome_iff_exists.1 (table rc h17 hn)

theorem encValues_length (rc : Nat) (w : Nat) (hw : fixedLen rc = some w) :
    ∀ (vs : List Value), (∀ v ∈ vs, valOk rc v = true) → (encValues rc vs).length = w * vs.length
  | [], _ => by simp [encValues]
  | v :: vs, h => by
    have h1 := encValue_length rc v w hw (h v (by simp))
    have h2 := encValues_length rc w hw vs (fun x hx => h x (by simp [hx]))
    simp only [encValues, List.flatMap_cons, List.length_append, List.length_cons] at h2 ⊢
    rw [h1, h2, Nat.mul_add]; omega

/-! ### one frame -/

/-- what reading one frame does to the storage (pure description) -/
def writeRow (sel : Option (List Bytes)) (ai : Nat) : Nat → List Chan → List Arr → List (List Value) → List Arr
  | k, c :: cs, arr :: arrs, vs :: vss =>
    (if selected sel k c then arr.set ai (some vs) else arr) :: writeRow sel ai (k + 1) cs arrs vss
  | _, _, _, _ => []

/-- storage shape before a frame is read: selected channels have room for row `ai`, the others are empty -/
def shapeOk (sel : Option (List Bytes)) (n : Nat) : Nat → List Chan → List Arr → Prop
  | _, [], [] => True
  | k, c :: cs, arr :: arrs => (if selected sel k c then arr.length = n else arr = []) ∧ shapeOk sel n (k + 1) cs arrs
  | _, _, _ => False


theorem readFrameInto_enc (sel : Option (List Bytes)) (ai n : Nat) (hai : ai < n) :
    ∀ (cs : List Chan) (k : Nat) (arrs : List Arr) (vals : List (List Value)) (rest : Bytes),
    (∀ c ∈ cs, chanOk c) → valsOk cs vals → shapeOk sel n k cs arrs →
    readFrameInto sel ai k cs arrs (encFrameData cs vals ++ rest) = .ok (writeRow sel ai k cs arrs vals) ∧
      shapeOk sel n k cs (writeRow sel ai k cs arrs vals)
  | [], _, [], [], _, _, _, _ => ⟨rfl, trivial⟩
  | [], _, [], _ :: _, _, _, hv, _ => hv.elim
  | [], _, _ :: _, _, _, _, _, hs => hs.elim
  | _ :: _, _, [], _, _, _, _, hs => hs.elim
  | _ :: _, _, _ :: _, [], _, _, hv, _ => hv.elim
  | c :: cs, k, arr :: arrs, vs :: vss, rest, hc, ⟨hlen, hvok, hvrest⟩, ⟨hshape, hsrest⟩ => by
    obtain ⟨ih, ihs⟩ := readFrameInto_enc sel ai n hai cs (k + 1) arrs vss rest
      (fun x hx => hc x (List.mem_cons_of_mem _ hx)) hvrest hsrest
    simp only [readFrameInto, selected_eq_wanted, encFrameData, List.append_assoc, writeRow, shapeOk]
    cases hsel : selected sel k c with
    | true =>
      simp only [hsel, if_true] at hshape
      have hr := TD.C03.readValues_enc c.rc vs (encFrameData cs vss ++ rest) hvok
      rw [hlen] at hr
      simp only [if_true, readChan, hshape, show ¬ (ai ≥ n) from by omega, if_false, hr, ih, List.length_set, ihs,
        and_self]
    | false =>
      simp only [hsel, Bool.false_eq_true, if_false] at hshape
      obtain ⟨w, hw⟩ := fixedLen_numeric c.rc (hc c (List.mem_cons_self ..)).1
      have hdrop : (encValues c.rc vs ++ (encFrameData cs vss ++ rest)).drop (w * c.count) = encFrameData cs vss ++ rest := by
        rw [← hlen, ← encValues_length c.rc w hw vs hvok]; simp
      simp only [Bool.false_eq_true, if_false, seekChan, hshape, List.length_nil, ne_eq, not_true_eq_false, hw, hdrop,
        ih, ihs, and_self]

/-! ### the populate loop is a fold of row writes -/

def foldRows (sel : Option (List Bytes)) (k : Nat) (cs : List Chan) : Nat → List (List (List Value)) → List Arr → List Arr
  | _, [], arrs => arrs
  | ai, row :: rows, arrs => foldRows sel k cs (ai + 1) rows (writeRow sel ai k cs arrs row)

/-- every position of the map points at the frame record holding the corresponding row -/
def fetchOk (ft : FrameType) (recs : List Rec) (iflrs : List IflrRef) (rows : List (List (List Value))) : Prop :=
  iflrs.length = rows.length ∧ ∀ j (hj : j < iflrs.length), ∃ r fno, recs[(iflrs[j]).pos]? = some r ∧
    fno < 1073741824 ∧ r.payload = encIflr ft.name fno (encFrameData ft.chans (rows.getD j [])) ∧
    valsOk ft.chans (rows.getD j [])

theorem populateLoop_fold (ft : FrameType) (recs : List Rec) (iflrs : List IflrRef) (rows : List (List (List Value)))
    (sel : Option (List Bytes)) (n : Nat) (hname : obnameOk ft.name) (hch : ∀ c ∈ ft.chans, chanOk c)
    (hf : fetchOk ft recs iflrs rows) :
    ∀ (idx : List Nat) (ai : Nat) (arrs : List Arr), (∀ i ∈ idx, i < rows.length) → ai + idx.length ≤ n →
      shapeOk sel n 0 ft.chans arrs →
      populateLoop ft recs iflrs sel ai idx arrs =
        .ok (foldRows sel 0 ft.chans ai (idx.map (fun i => rows.getD i [])) arrs)
  | [], ai, arrs, _, _, _ => by simp [populateLoop, foldRows]
  | fn :: idx, ai, arrs, hidx, hlen, hs => by
    have hfn : fn < iflrs.length := by rw [hf.1]; exact hidx fn (by simp)
    obtain ⟨r, fno, hr, hfno, hpay, hv⟩ := hf.2 fn hfn
    have hget : iflrs[fn]? = some iflrs[fn] := by simp [hfn]
    have hhdr := TD.C03.readIflrHeader_enc ft.name fno (encFrameData ft.chans (rows.getD fn [])) hname hfno
    obtain ⟨hread, hs'⟩ := readFrameInto_enc sel ai n (by simp at hlen; omega) ft.chans 0 arrs (rows.getD fn []) [] hch hv hs
    rw [List.append_nil] at hread
    have ih := populateLoop_fold ft recs iflrs rows sel n hname hch hf idx (ai + 1)
      (writeRow sel ai 0 ft.chans arrs (rows.getD fn [])) (fun i hi => hidx i (by simp [hi]))
      (by simp at hlen ⊢; omega) hs'
    simp only [populateLoop, hget, hr, hpay, hhdr, hread, ih, List.map_cons, foldRows]

/-! ### a fold of row writes fills the columns -/

def setMany : Arr → Nat → List (List Value) → Arr
  | arr, _, [] => arr
  | arr, ai, v :: vs => setMany (arr.set ai (some v)) (ai + 1) vs

theorem setMany_cons (a : Option (List Value)) : ∀ (vs : List (List Value)) (arr : Arr) (ai : Nat),
    setMany (a :: arr) (ai + 1) vs = a :: setMany arr ai vs
  | [], _, _ => rfl
  | v :: vs, arr, ai => by simp [setMany, setMany_cons a vs]

theorem setMany_full : ∀ (vs : List (List Value)) (arr : Arr), arr.length = vs.length →
    setMany arr 0 vs = vs.map some
  | [], arr, h => by
    have : arr = [] := List.length_eq_zero_iff.1 (by simpa using h)
    simp [setMany, this]
  | v :: vs, [], h => by simp at h
  | v :: vs, a :: arr, h => by
    simp only [setMany, List.set_cons_zero, List.map_cons]
    rw [setMany_cons, setMany_full vs arr (by simpa using h)]

theorem setMany_nil : ∀ (vs : List (List Value)) (ai : Nat), setMany [] ai vs = []
  | [], _ => rfl
  | v :: vs, ai => by simp [setMany, setMany_nil vs]

/-- rows all of the shape the channel list prescribes -/
def rowsOk (cs : List Chan) (rows : List (List (List Value))) : Prop := ∀ r ∈ rows, valsOk cs r

theorem rowsOk_tail (c : Chan) (cs : List Chan) (rows : List (List (List Value))) (h : rowsOk (c :: cs) rows) :
    rowsOk cs (rows.map List.tail) := by
  intro r hr
  obtain ⟨r0, hr0, rfl⟩ := List.mem_map.1 hr
  have := h r0 hr0
  cases r0 with
  | nil => simp [valsOk] at this
  | cons vs vss => exact this.2.2

theorem foldRows_cons (sel : Option (List Bytes)) (k : Nat) (c : Chan) (cs : List Chan) :
    ∀ (rows : List (List (List Value))) (ai : Nat) (arr : Arr) (arrs : List Arr), rowsOk (c :: cs) rows →
    foldRows sel k (c :: cs) ai rows (arr :: arrs) =
      (if selected sel k c then setMany arr ai (rows.map (fun r => r.headD [])) else arr) ::
        foldRows sel (k + 1) cs ai (rows.map List.tail) arrs
  | [], ai, arr, arrs, _ => by cases selected sel k c <;> simp [foldRows, setMany]
  | row :: rows, ai, arr, arrs, h => by
    have hrow := h row (by simp)
    cases row with
    | nil => simp [valsOk] at hrow
    | cons vs vss =>
      have ih := foldRows_cons sel k c cs rows (ai + 1) (if selected sel k c then arr.set ai (some vs) else arr)
        (writeRow sel ai (k + 1) cs arrs vss) (fun r hr => h r (by simp [hr]))
      simp only [foldRows, writeRow, ih, List.map_cons, List.headD_cons, List.tail_cons, setMany]
      cases selected sel k c <;> simp

theorem headD_some (rows : List (List (List Value))) (c : Chan) (cs : List Chan) (h : rowsOk (c :: cs) rows) :
    (rows.map (fun r => r.headD [])).map some = rows.map (fun r => r.head?) := by
  rw [List.map_map]
  apply List.map_congr_left
  intro r hr
  have := h r hr
  cases r with
  | nil => simp [valsOk] at this
  | cons vs vss => rfl

theorem foldRows_expect (sel : Option (List Bytes)) (n : Nat) :
    ∀ (cs : List Chan) (k : Nat) (rows : List (List (List Value))) (arrs : List Arr),
    rows.length = n → rowsOk cs rows → shapeOk sel n k cs arrs →
    foldRows sel k cs 0 rows arrs = expectArrays sel k cs rows
  | [], k, rows, [], _, _, _ => by
    have : ∀ (rs : List (List (List Value))) (ai : Nat), foldRows sel k [] ai rs [] = [] := by
      intro rs
      induction rs with
      | nil => exact fun _ => rfl
      | cons _ _ ih => exact fun ai => ih _
    exact this _ _
  | [], _, _, _ :: _, _, _, hs => hs.elim
  | _ :: _, _, _, [], _, _, hs => hs.elim
  | c :: cs, k, rows, arr :: arrs, hn, hr, ⟨hshape, hsrest⟩ => by
    rw [foldRows_cons sel k c cs rows 0 arr arrs hr]
    have ih := foldRows_expect sel n cs (k + 1) (rows.map List.tail) arrs (by simpa using hn)
      (rowsOk_tail c cs rows hr) hsrest
    simp only [expectArrays, ih]
    cases hsel : selected sel k c with
    | true =>
      simp only [hsel, if_true] at hshape
      simp only [if_true]
      rw [setMany_full _ arr (by simp [hshape, hn]), headD_some rows c cs hr]
    | false =>
      simp only [hsel, Bool.false_eq_true, if_false] at hshape
      simp [hshape]

/-! ### storage initialisation gives the right shape whatever was there before -/

theorem initArray_length (arr : Arr) (n : Nat) : (initArray arr n).length = n := by
  unfold initArray
  split
  · exact List.length_replicate ..
  · rename_i h; exact Decidable.not_not.1 h

theorem initArrays_shape (sel : Option (List Bytes)) (n : Nat) :
    ∀ (cs : List Chan) (k : Nat) (arrs : List Arr), arrs.length = cs.length →
    ∃ arrs0, initArrays sel n k cs arrs = .ok arrs0 ∧ shapeOk sel n k cs arrs0
  | [], _, [], _ => ⟨[], rfl, trivial⟩
  | [], _, _ :: _, h => nomatch h
  | _ :: _, _, [], h => nomatch h
  | c :: cs, k, arr :: arrs, h => by
    obtain ⟨arrs0, h0, hs0⟩ := initArrays_shape sel n cs (k + 1) arrs (Nat.succ.inj h)
    refine ⟨initArray arr (if wanted sel k c then n else 0) :: arrs0, by simp only [initArrays, h0], ?_, hs0⟩
    rw [← selected_eq_wanted]
    cases wanted sel k c
    · exact List.length_eq_zero_iff.1 (initArray_length _ 0)
    · exact initArray_length _ n

/-! ### the position map -/

/-- a record of the file: either one the IFLR index skips (encrypted, or an EFLR) or a frame record -/
def toRec (lp : List FrameType) : Rec ⊕ FrameA → Rec
  | .inl r => r
  | .inr f => frameRec lp f

/-- the references of frame type `k`: position, recorded frame number, the first channel's values -/
def refsOf (k : Nat) : Nat → List (Rec ⊕ FrameA) → List IflrRef
  | _, [] => []
  | pos, .inl _ :: its => refsOf k (pos + 1) its
  | pos, .inr f :: its =>
    match f.vals with
    | some vs => if f.ft = k then ⟨pos, f.frameNo, vs.headD []⟩ :: refsOf k (pos + 1) its else refsOf k (pos + 1) its
    | none => refsOf k (pos + 1) its

/-- the frame records among the records of a file -/
def framesIn : List (Rec ⊕ FrameA) → List FrameA
  | [] => []
  | .inl _ :: its => framesIn its
  | .inr f :: its => f :: framesIn its

/-- frame number and values a record contributes to frame type `k` (a frame record of that type with data) -/
def rowOf (k : Nat) : Rec ⊕ FrameA → Option (Nat × List (List Value))
  | .inl _ => none
  | .inr f => match f.vals with
    | some vs => if f.ft = k then some (f.frameNo, vs) else none
    | none => none

theorem rowOf_eq_some {k : Nat} {it : Rec ⊕ FrameA} {p : Nat × List (List Value)} (h : rowOf k it = some p) :
    ∃ f, it = .inr f ∧ f.ft = k ∧ f.frameNo = p.1 ∧ f.vals = some p.2 := by
  rcases it with r | f
  · cases h
  · cases hv : f.vals with
    | none => simp only [rowOf, hv] at h; cases h
    | some vs =>
      by_cases hk : f.ft = k
      · simp only [rowOf, hv, hk, if_true] at h; cases h; exact ⟨f, rfl, hk, rfl, hv⟩
      · simp only [rowOf, hv, hk, if_false] at h; cases h

theorem cons_rowOf (k pos : Nat) (it : Rec ⊕ FrameA) (its : List (Rec ⊕ FrameA)) :
    refsOf k pos (it :: its) =
      ((rowOf k it).map fun p => (⟨pos, p.1, p.2.headD []⟩ : IflrRef)).toList ++ refsOf k (pos + 1) its ∧
    rowsOf k (framesIn (it :: its)) = ((rowOf k it).map Prod.snd).toList ++ rowsOf k (framesIn its) ∧
    frameNosOf k (framesIn (it :: its)) = ((rowOf k it).map Prod.fst).toList ++ frameNosOf k (framesIn its) := by
  rcases it with r | f
  · exact ⟨rfl, rfl, rfl⟩
  · cases hv : f.vals with
    | none => simp [refsOf, framesIn, rowsOf, frameNosOf, rowOf, hv]
    | some vs => by_cases hk : f.ft = k <;> simp [refsOf, framesIn, rowsOf, frameNosOf, rowOf, hv, hk]

theorem lookup_mapAppend_self (m : List (ObName × List IflrRef)) (k : ObName) (v : IflrRef) :
    ((mapAppend m k v).lookup k).getD [] = (m.lookup k).getD [] ++ [v] := by
  induction m with
  | nil => simp [mapAppend, List.lookup]
  | cons p m ih =>
    obtain ⟨a, b⟩ := p
    by_cases ha : a = k
    · subst ha; simp [mapAppend, List.lookup]
    · have hb : (k == a) = false := by simpa using fun h => ha h.symm
      simp [mapAppend, ha, List.lookup, hb, ih]

theorem lookup_mapAppend_other (m : List (ObName × List IflrRef)) (k k' : ObName) (v : IflrRef) (h : k' ≠ k) :
    (mapAppend m k v).lookup k' = m.lookup k' := by
  induction m with
  | nil =>
    have hb : (k' == k) = false := by simpa using h
    simp [mapAppend, List.lookup, hb]
  | cons p m ih =>
    obtain ⟨a, b⟩ := p
    by_cases ha : a = k
    · subst ha
      have hb : (k' == a) = false := by simpa using h
      simp [mapAppend, List.lookup, hb]
    · simp only [mapAppend, ha, if_false, List.lookup]
      cases (k' == a) <;> simp [ih]

theorem lookupFt_get (lp : List FrameType) (hnd : (lp.map FrameType.name).Nodup) (k : Nat) (ft : FrameType)
    (hk : lp[k]? = some ft) : lookupFt lp ft.name = some ft := by
  unfold lookupFt
  induction lp generalizing k with
  | nil => simp at hk
  | cons a lp ih =>
    have hnd' := List.nodup_cons.1 (show (a.name :: lp.map FrameType.name).Nodup from hnd)
    cases k with
    | zero => simp at hk; subst hk; simp
    | succ k =>
      simp only [List.getElem?_cons_succ] at hk
      have hmem : ft ∈ lp := List.mem_of_getElem? hk
      have hne : a.name ≠ ft.name := by
        intro e; apply hnd'.1; rw [e]; exact List.mem_map_of_mem hmem
      simp [List.find?, hne, ih hnd'.2 k hk]

theorem name_inj (lp : List FrameType) (hnd : (lp.map FrameType.name).Nodup) (i j : Nat) (fi fj : FrameType)
    (hi : lp[i]? = some fi) (hj : lp[j]? = some fj) (h : fi.name = fj.name) : i = j := by
  have hil : i < (lp.map FrameType.name).length := by
    rw [List.length_map]; exact (List.getElem?_eq_some_iff.1 hi).1
  exact (List.getElem?_inj hil hnd).1 (by rw [List.getElem?_map, List.getElem?_map, hi, hj, Option.map_some, Option.map_some, h])

theorem index_spec (lp : List FrameType) (hlp : lpOk lp) (items : List (Rec ⊕ FrameA)) (pos : Nat)
    (m : List (ObName × List IflrRef))
    (hskip : ∀ r, .inl r ∈ items → (r.encrypted || r.isEflr) = true) (hfr : ∀ f, .inr f ∈ items → frameOk lp f) :
    ∃ m', indexIflrs lp pos (items.map (toRec lp)) m = .ok m' ∧
      ∀ k ft, lp[k]? = some ft → (m'.lookup ft.name).getD [] = (m.lookup ft.name).getD [] ++ refsOf k pos items := by
  induction items generalizing pos m with
  | nil => exact ⟨m, rfl, fun k ft _ => (List.append_nil _).symm⟩
  | cons it items ih =>
    replace ih := fun m => ih (pos + 1) m (fun r hr => hskip r (List.mem_cons_of_mem _ hr))
      (fun f hf => hfr f (List.mem_cons_of_mem _ hf))
    rcases it with r | f
    · obtain ⟨m', h1, h2⟩ := ih m
      refine ⟨m', ?_, h2⟩
      simp only [List.map_cons, toRec, indexIflrs, hskip r (List.mem_cons_self ..), if_true, h1]
    · obtain ⟨hfno, hfok⟩ := hfr f (List.mem_cons_self ..)
      cases hft : lp[f.ft]? with
      | none => simp [hft] at hfok
      | some ft =>
        simp only [hft] at hfok
        obtain ⟨hname, hchne, hch⟩ := hlp.2 ft (List.mem_of_getElem? hft)
        cases hvals : f.vals with
        | none =>
          obtain ⟨m', h1, h2⟩ := ih m
          refine ⟨m', ?_, fun k ft' hk => by simp only [refsOf, hvals]; exact h2 k ft' hk⟩
          simp only [List.map_cons, toRec, frameRec, hft, hvals, indexIflrs, Bool.or_self, Bool.false_eq_true,
            if_false, TD.C03.readIflrHeader_enc ft.name f.frameNo [] hname hfno, h1]
        | some vs =>
          simp only [hvals] at hfok
          obtain ⟨hv, hne⟩ := hfok
          obtain ⟨c0, cs, hcs⟩ := List.exists_cons_of_ne_nil hchne
          rw [hcs] at hv hne
          cases vs with
          | nil => simp [valsOk] at hv
          | cons v0 vss =>
            obtain ⟨m', h1, h2⟩ := ih (mapAppend m ft.name ⟨pos, f.frameNo, v0⟩)
            refine ⟨m', ?_, fun k ft' hk => ?_⟩
            · obtain ⟨b, bs, hd⟩ := List.exists_cons_of_ne_nil hne
              have hrd := TD.C03.readValues_enc c0.rc v0 (encFrameData cs vss) hv.2.1
              rw [hv.1, show encValues c0.rc v0 ++ encFrameData cs vss = b :: bs from hd] at hrd
              simp only [List.map_cons, toRec, frameRec, hft, hvals, indexIflrs, Bool.or_self, Bool.false_eq_true,
                if_false, hcs, hd, TD.C03.readIflrHeader_enc ft.name f.frameNo (b :: bs) hname hfno,
                lookupFt_get lp hlp.1 f.ft ft hft, hrd, h1]
            · rw [h2 k ft' hk]
              simp only [refsOf, hvals, List.headD_cons]
              by_cases hkk : f.ft = k
              · subst hkk
                obtain rfl : ft = ft' := Option.some.inj (hft.symm.trans hk)
                simp [lookup_mapAppend_self, List.append_assoc]
              · have hne' : ft'.name ≠ ft.name := fun e => hkk (name_inj lp hlp.1 f.ft k ft ft' hft hk e.symm)
                simp [hkk, lookup_mapAppend_other _ _ _ _ hne']

end TD.C04
