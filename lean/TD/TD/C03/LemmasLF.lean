/-
C03 — helper lemmas for the logical-file index.
-/
import TD.C03.Lemmas

namespace TD.C03

/-- the unencrypted records of a list of items -/
def plain : List Item → List ItemLayout → List Rec
  | [], _ => []
  | it :: its, lays => plainRec it (lays.headD default) :: plain its lays.tail

theorem indexFrom_append (a b : List (Nat × Rec)) (files : List LFile) :
    indexFrom files (a ++ b) = (indexFrom files a).bind fun files' => indexFrom files' b := by
  induction a generalizing files with
  | nil => rfl
  | cons p a ih =>
    simp only [List.cons_append, indexFrom]
    cases indexStep files p with
    | error e => rfl
    | ok f => exact ih f

theorem indexStep_encrypted (files : List LFile) (p : Nat × Rec) (h : p.2.encrypted = true) :
    indexStep files p = .ok files := by
  unfold indexStep; simp [h]

theorem indexFrom_filter : ∀ (prs : List (Nat × Rec)) (files : List LFile),
    indexFrom files prs = indexFrom files (prs.filter (fun p => !p.2.encrypted))
  | [], _ => rfl
  | p :: prs, files => by
    cases he : p.2.encrypted with
    | true =>
      simp only [List.filter_cons, he, Bool.not_true, Bool.false_eq_true, if_false, indexFrom,
        indexStep_encrypted files p he]
      exact indexFrom_filter prs files
    | false =>
      simp only [List.filter_cons, he, Bool.not_false, if_true, indexFrom]
      cases indexStep files p with
      | error e => rfl
      | ok f1 => exact indexFrom_filter prs f1

theorem filter_encrypted (l : List Rec) :
    (l.map fun r => { r with encrypted := true }).filter (fun r => !r.encrypted) = [] :=
  List.filter_eq_nil_iff.2 fun a ha => by obtain ⟨r, _, rfl⟩ := List.mem_map.1 ha; simp

theorem filter_encItems : ∀ (its : List Item) (lays : List ItemLayout),
    (encItems its lays).filter (fun r => !r.encrypted) = plain its lays
  | [], _ => rfl
  | it :: its, lays => by
    have hp : (plainRec it (lays.headD default)).encrypted = false := by cases it <;> rfl
    simp only [encItems, encItem, List.filter_append, filter_encrypted, List.nil_append, List.filter_cons, hp,
      Bool.not_false, if_true, List.filter_nil, List.cons_append, plain, filter_encItems its lays.tail]

theorem filter_encodeLogicalFiles (lfs : List (List Item)) (lays : List ItemLayout) (trailer : List Rec) :
    (encodeLogicalFiles lfs lays trailer).filter (fun r => !r.encrypted) = plain lfs.flatten lays := by
  rw [encodeLogicalFiles, List.filter_append, filter_encItems, filter_encrypted, List.append_nil]

theorem readIflrHeader_enc (n : ObName) (f : Nat) (d : Bytes) (hn : obnameOk n) (hf : f < 1073741824) :
    readIflrHeader (encIflr n f d) = .ok ((n, f), d) := by
  unfold readIflrHeader encIflr
  rw [readObname_enc n _ hn.1]
  simp only [readUvari_enc f d hf]

theorem getLast?_snoc (l : List LFile) (x : LFile) : (l ++ [x]).getLast? = some x := by simp

theorem setLast_snoc (l : List LFile) (x y : LFile) : setLast (l ++ [x]) y = l ++ [y] := by
  simp [setLast]

/-- `lf` is at stage `k` of `itemsOk` (1: FILE-HEADER seen, 2: ORIGIN too), CHANNEL / FRAME seen as `hc` / `hf` say. -/
def AtStage (k : Nat) (hc hf : Bool) (lf : LFile) : Prop :=
  (k = 1 ∧ lf.eflrs.length = 1 ∨ k = 2 ∧ 2 ≤ lf.eflrs.length) ∧ lf.hasChannel = hc ∧ lf.hasFrame = hf

theorem indexStep_item (pre : List LFile) {k : Nat} {hc hf : Bool} {lf : LFile} (hst : AtStage k hc hf lf)
    (it : Item) (its : List Item) (lay : ItemLayout) (pos : Nat) (hok : itemsOk k hc hf (it :: its)) :
    ∃ k' hc' hf' lf', indexStep (pre ++ [lf]) (pos, plainRec it lay) = .ok (pre ++ [lf']) ∧
      AtStage k' hc' hf' lf' ∧ itemsOk k' hc' hf' its ∧
      (lf'.content.1 ++ Item.tables its, lf'.content.2 ++ Item.frames its) =
        (lf.content.1 ++ Item.tables (it :: its), lf.content.2 ++ Item.frames (it :: its)) := by
  obtain ⟨hk, rfl, rfl⟩ := hst
  cases it with
  | eflr ty t =>
    simp only [itemsOk] at hok
    obtain ⟨htwf, _, hbr⟩ := hok
    -- every table is appended; the file is then past its ORIGIN
    suffices h : ∃ hc' hf', addEflr lf pos ty t = .ok ⟨lf.eflrs ++ [(pos, ty, t)], hc', hf', lf.iflrs⟩ ∧
        t.stype ≠ sFILE_HEADER ∧ itemsOk 2 hc' hf' its by
      obtain ⟨hc', hf', hadd, hne, hrest⟩ := h
      have hlen : 2 ≤ (lf.eflrs ++ [(pos, ty, t)]).length := by
        rw [List.length_append, List.length_singleton]; rcases hk with ⟨_, h⟩ | ⟨_, h⟩ <;> omega
      exact ⟨2, hc', hf', ⟨_, hc', hf', lf.iflrs⟩, by simp only [plainRec, indexStep, Bool.false_eq_true, if_false, if_true, readEflr_enc t _ htwf, getLast?_snoc, hne,
          hadd, setLast_snoc],
        ⟨Or.inr ⟨rfl, hlen⟩, rfl, rfl⟩, hrest, by simp [LFile.content, Item.tables]; rfl⟩
    rcases hk with ⟨rfl, h1⟩ | ⟨rfl, h2⟩
    · obtain ⟨hty, hst, hrest⟩ := hbr
      exact ⟨_, _, by simp [addEflr, h1, hty, hst], by rcases hst with h | h <;> rw [h] <;> decide, hrest⟩
    · obtain ⟨hne, hbr⟩ := hbr
      have hlen : ¬ lf.eflrs.length < 2 := Nat.not_lt.2 h2
      by_cases hch : t.stype = sCHANNEL
      · rw [if_pos hch] at hbr
        exact ⟨true, _, by simp [addEflr, hlen, hch, hbr.1], hne, hbr.2⟩
      · rw [if_neg hch] at hbr
        by_cases hfr : t.stype = sFRAME
        · rw [if_pos hfr] at hbr
          exact ⟨_, true, by simp [addEflr, hlen, hfr, hbr.1, show sFRAME ≠ sCHANNEL by decide], hne, hbr.2⟩
        · rw [if_neg hfr] at hbr
          exact ⟨_, _, by simp [addEflr, hlen, hch, hfr], hne, hbr⟩
  | iflr ty n f d =>
    obtain ⟨_, hn, hfn, hd, hrest⟩ := hok
    cases d with
    | nil =>
      exact ⟨k, _, _, lf, by simp only [plainRec, indexStep, Bool.false_eq_true, if_false, getLast?_snoc, readIflrHeader_enc n f [] hn hfn], ⟨hk, rfl, rfl⟩, hrest, rfl⟩
    | cons x xs =>
      obtain ⟨rfl, hc1, hf1⟩ := hd (List.cons_ne_nil x xs)
      have hlen : ¬ lf.eflrs.length < 2 := by rcases hk with ⟨h, _⟩ | ⟨_, h⟩ <;> omega
      exact ⟨2, _, _, { lf with iflrs := lf.iflrs ++ [(pos, n, f)] },
        by simp [plainRec, indexStep, readIflrHeader_enc n f (x :: xs) hn hfn, addIflr, hlen, hc1, hf1, setLast],
        ⟨hk, rfl, rfl⟩, hrest, by simp [LFile.content, Item.frames, Item.tables]⟩

theorem index_rest (pre : List LFile) (its : List Item) : ∀ (lays : List ItemLayout) {k : Nat} {hc hf : Bool}
    {lf : LFile} (prs : List (Nat × Rec)),
    AtStage k hc hf lf → itemsOk k hc hf its → prs.map Prod.snd = plain its lays →
    ∃ lf', indexFrom (pre ++ [lf]) prs = .ok (pre ++ [lf']) ∧
      lf'.content = (lf.content.1 ++ Item.tables its, lf.content.2 ++ Item.frames its) := by
  induction its with
  | nil =>
    intro _ _ _ _ lf prs _ _ hprs
    obtain rfl : prs = [] := List.map_eq_nil_iff.1 hprs
    exact ⟨lf, rfl, by simp [Item.tables, Item.frames]⟩
  | cons it its ih =>
    intro lays _ _ _ _ prs hst hok hprs
    obtain ⟨⟨pos, _⟩, prs, rfl, rfl, hprs'⟩ := List.map_eq_cons_iff.1 hprs
    obtain ⟨_, _, _, lf1, hstep, hst', hok', hc1⟩ := indexStep_item pre hst it its (lays.headD default) pos hok
    obtain ⟨lf', hi, hcont⟩ := ih lays.tail prs hst' hok' hprs'
    exact ⟨lf', by rw [indexFrom, hstep]; exact hi, hcont.trans hc1⟩

theorem index_file (files : List LFile) (its : List Item) (lays : List ItemLayout) (prs : List (Nat × Rec))
    (hok : lfileOk its) (hprs : prs.map Prod.snd = plain its lays) :
    ∃ lf, indexFrom files prs = .ok (files ++ [lf]) ∧ lf.content = (Item.tables its, Item.frames its) := by
  obtain ⟨hne, hok⟩ := hok
  cases its with
  | nil => exact absurd rfl hne
  | cons it its =>
    obtain ⟨⟨pos, _⟩, prs, rfl, rfl, hprs'⟩ := List.map_eq_cons_iff.1 hprs
    cases it with
    | iflr ty n f d => exact absurd rfl hok.1
    | eflr ty t =>
      simp only [itemsOk, if_true] at hok
      obtain ⟨htwf, _, hty, hst, hrest⟩ := hok
      have hstep : indexStep files (pos, plainRec (.eflr ty t) (lays.headD default)) =
          .ok (files ++ [⟨[(pos, ty, t)], false, false, []⟩]) := by
        simp only [indexStep, plainRec, Bool.false_eq_true, if_false, if_true, readEflr_enc t _ htwf]
        cases hl : files.getLast? with
        | none => simp [hty, hst, List.getLast?_eq_none_iff.1 hl]
        | some lf => simp [hty, hst]
      obtain ⟨lf', hi, hcont⟩ := index_rest files its lays.tail
        (lf := ⟨[(pos, ty, t)], false, false, []⟩) prs ⟨Or.inl ⟨rfl, rfl⟩, rfl, rfl⟩ hrest hprs'
      exact ⟨lf', by rw [indexFrom, hstep]; exact hi, by rw [hcont]; simp [LFile.content, Item.tables, Item.frames]⟩

theorem plain_append : ∀ (a b : List Item) (lays : List ItemLayout),
    plain (a ++ b) lays = plain a lays ++ plain b (lays.drop a.length)
  | [], b, lays => by simp [plain]
  | x :: a, b, lays => by
    simp only [List.cons_append, plain, List.length_cons, plain_append a b lays.tail]
    cases lays <;> simp

theorem index_files : ∀ (lfs : List (List Item)) (lays : List ItemLayout) (files : List LFile) (prs : List (Nat × Rec)),
    (∀ its ∈ lfs, lfileOk its) → prs.map Prod.snd = plain lfs.flatten lays →
    ∃ out, indexFrom files prs = .ok (files ++ out) ∧
      out.map LFile.content = lfs.map (fun its => (Item.tables its, Item.frames its))
  | [], lays, files, prs, _, hprs => by
    obtain rfl := List.map_eq_nil_iff.1 hprs
    exact ⟨[], by simp [indexFrom], rfl⟩
  | its :: lfs, lays, files, prs, hok, hprs => by
    simp only [List.flatten_cons, plain_append] at hprs
    obtain ⟨p1, p2, rfl, h1, h2⟩ := List.map_eq_append_iff.1 hprs
    obtain ⟨lf, hi, hc⟩ := index_file files its lays p1 (hok its (by simp)) h1
    obtain ⟨out, hi2, hc2⟩ := index_files lfs (lays.drop its.length) (files ++ [lf]) p2
      (fun x hx => hok x (by simp [hx])) h2
    refine ⟨lf :: out, ?_, ?_⟩
    · rw [indexFrom_append, hi]; exact hi2.trans (by simp)
    · simp [hc, hc2]

end TD.C03
