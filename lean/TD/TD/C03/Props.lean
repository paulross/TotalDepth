import TD.C03.LemmasLF

/-!
# C03 — RP66V1 logical files and their EFLR tables decode to what was encoded

Property theorems only.  The model (`TD.C03.Model`) transcribes `ComponentDescriptor.py`, `EFLR.py`, the readers of
`pRepCode.py` and `LogicalIndex.__enter__` / `LogicalFile.add_*`; it is tied to the Python source by the correspondence
run of `./check C03`.  The specification (`TD.C03.Spec`) is an independent encoder written from RP66V1 §3.2.
-/
namespace TD.C03

/-- What the implementation presents for an EFLR payload. -/
def decodeEflr (bs : Bytes) : Except Err Table := readEflr bs

/-- **Round trip, all producer choices.**  For every well-formed table and *every* choice the encoder is allowed
(SET/RSET/RDSET, omitted set name, any subset of characteristics omitted where equal to the template/global default,
ABSATR components, objects ended early at any depth of trailing omission, INVATR columns at any position, every
supported representation code) the reader returns exactly the table: set type and name, column labels and defaults,
object names, and for every cell its count, representation code, units and values; a cell written as ABSATR has no
value whatever the template default is. -/
theorem eflr_roundtrip (t : Table) (ch : Choices) (h : t.wf) : decodeEflr (encodeEflr t ch) = .ok t :=
  readEflr_enc t ch h

/-- The hypotheses of `eflr_roundtrip` are satisfiable by a table that uses an invariant column in first position, an
absent cell under a column with a default value, an overriding count/code, and an object that omits everything. -/
def exTable : Table :=
  { stype := [80], sname := [],
    cols := [⟨true, ⟨[73], 1, 19, [], some [.bytes [1, 2]]⟩⟩, ⟨false, ⟨[65], 1, 2, [109], some [.word 2 1065353216]⟩⟩,
             ⟨false, ⟨[66], 1, 19, [], none⟩⟩],
    rows := [⟨⟨1, 0, [88]⟩, [⟨[73], 1, 19, [], some [.bytes [1, 2]]⟩, ⟨[65], 1, 2, [109], none⟩,
                             ⟨[66], 2, 16, [], some [.int 7, .int 65535]⟩]⟩,
             ⟨⟨1, 0, [89]⟩, [⟨[73], 1, 19, [], some [.bytes [1, 2]]⟩, ⟨[65], 1, 2, [109], some [.word 2 1065353216]⟩,
                             ⟨[66], 1, 19, [], none⟩]⟩] }

example : exTable.wf := by decide +kernel

/-- a default of three elements inherited by the first and last object; the middle object overrides only the count
(component descriptor 0x28: C without V) and still presents the complete default -/
def exShared : Table :=
  { stype := [80], sname := [],
    cols := [⟨false, ⟨[65], 3, 15, [], some [.int 1, .int 2, .int 3]⟩⟩],
    rows := [⟨⟨1, 0, [88]⟩, [⟨[65], 3, 15, [], some [.int 1, .int 2, .int 3]⟩]⟩,
             ⟨⟨1, 0, [89]⟩, [⟨[65], 1, 15, [], some [.int 1, .int 2, .int 3]⟩]⟩,
             ⟨⟨1, 0, [90]⟩, [⟨[65], 3, 15, [], some [.int 1, .int 2, .int 3]⟩]⟩] }

example : exShared.wf := by decide +kernel
example : encodeEflr exShared { rows := [[{ omitL := true, omitC := true, omitR := true, omitU := true, omitV := true }],
      [{ omitL := true, omitR := true, omitU := true }], [{ stop := true }]] } =
    [248, 1, 80, 0,  63, 1, 65, 3, 15, 0, 1, 2, 3,  112, 1, 0, 1, 88, 32,  112, 1, 0, 1, 89, 40, 1,  112, 1, 0, 1, 90] := by
  decide +kernel

example : encodeEflr exTable { rows := [[], [{ stop := true }, { stop := true }]] } =
    [248, 1, 80, 0,  95, 1, 73, 1, 19, 0, 2, 1, 2,  63, 1, 65, 1, 2, 1, 109, 63, 128, 0, 0,  62, 1, 66, 1, 19, 0,
     112, 1, 0, 1, 88,  0,  63, 1, 66, 2, 16, 0, 0, 7, 255, 255,  112, 1, 0, 1, 89] := by decide +kernel

/-! ## Logical files -/

/-- **Split exactly at each FILE-HEADER.**  Let `lfs` be any list of logical files, each a FILE-HEADER table (record
type 0), then an ORIGIN/WELL-REFERENCE table (type 1), then arbitrary further well-formed tables (any record type, any
set type other than FILE-HEADER, at most one CHANNEL and one FRAME) and frame records (non-empty ones only after both
CHANNEL and FRAME); let the records be produced by the encoder under any table choices and with arbitrary encrypted
records interleaved and appended (`prs` pairs each record with any position label).  Then the index succeeds, has
exactly one logical file per abstract logical file, and each presents exactly its tables (with their record types, in
order) and the (object name, frame number) of every non-empty frame record, in order. -/
theorem split_at_file_header (lfs : List (List Item)) (lays : List ItemLayout) (trailer : List Rec)
    (prs : List (Nat × Rec)) (hwf : ∀ its ∈ lfs, lfileOk its)
    (hprs : prs.map Prod.snd = encodeLogicalFiles lfs lays trailer) :
    ∃ files, indexRecs prs = .ok files ∧
      files.map LFile.content = lfs.map (fun its => (Item.tables its, Item.frames its)) := by
  obtain ⟨out, hi, hc⟩ := index_files lfs lays [] (prs.filter (fun p => !p.2.encrypted)) hwf
    ((List.filter_map (f := Prod.snd) (p := fun r : Rec => !r.encrypted)).symm.trans
      (by rw [hprs, filter_encodeLogicalFiles]))
  exact ⟨out, by rw [indexRecs, indexFrom_filter, hi]; rfl, hc⟩

/-- **Encrypted records are skipped without disturbing their neighbours**: for *any* record sequence (well-formed or
not) the index — logical files, tables, frame references, the position label of every entry, or the error raised — is
the same as for the sequence with the encrypted records removed. -/
theorem encrypted_skipped (prs : List (Nat × Rec)) :
    indexRecs prs = indexRecs (prs.filter (fun p => !p.2.encrypted)) := by
  unfold indexRecs; exact indexFrom_filter prs []

/-- **Re-entering presents the same content.**  Whatever an object's `logical_files` held before (`prev`: the result of
any earlier enter/exit history on the same `LogicalIndex`, or of another object over the same file), `__enter__`
presents exactly what a fresh index of the records presents — with `split_at_file_header`, the encoded logical
files, each once. -/
theorem enter_history_independent (prev : List LFile) (prs : List (Nat × Rec)) :
    enterIndex prev prs = indexRecs prs ∧ enterIndex (exitIndex prev) prs = indexRecs prs := ⟨rfl, rfl⟩

example : enterIndex [⟨[(0, 0, exFH)], true, true, []⟩] [] = .ok [] := rfl

/-- non-vacuity: two logical files (the second one with an empty template-less ORIGIN set), an encrypted record in
between -/
def exFH : Table := ⟨sFILE_HEADER, [], [], []⟩
def exOR : Table := ⟨sORIGIN, [49], [], []⟩
def exFiles : List (List Item) := [[.eflr 0 exFH, .eflr 1 exOR, .eflr 5 exTable, .iflr 0 ⟨1, 0, [70]⟩ 1 []], [.eflr 0 exFH, .eflr 1 exOR]]

instance itemsOkDec : ∀ (k : Nat) (hc hf : Bool) (its : List Item), Decidable (itemsOk k hc hf its)
  | _, _, _, [] => isTrue trivial
  | k, hc, hf, .eflr ty t :: its =>
    have : ∀ k hc hf, Decidable (itemsOk k hc hf its) := fun k hc hf => itemsOkDec k hc hf its
    by unfold itemsOk; exact inferInstance
  | k, hc, hf, .iflr _ n f d :: its =>
    have : Decidable (itemsOk k hc hf its) := itemsOkDec k hc hf its
    by unfold itemsOk; exact inferInstance

example : ∀ its ∈ exFiles, lfileOk its := by unfold lfileOk; decide +kernel

example : (indexRecs ((encodeLogicalFiles exFiles [{}, { junk := [⟨false, true, 9, [1, 2, 3]⟩] }] []).zipIdx.map
    (fun p => (p.2, p.1)))).map (fun fs => fs.map (fun f => f.eflrs.map (fun e => e.1))) = .ok [[0, 2, 3], [5, 6]] := by
  rfl

end TD.C03
